import CalVerif.Lemmas.BiffScan
import CalVerif.Lemmas.BiffRange
/-! C02 — XLS (BIFF8): every cell record reads back at its position with its value.

    Property theorems about the model `Model/Biff.lean` (namespace `BiffCells`) and the encoder
    `Spec/BiffEnc.lean`. `v as f64` is `De.intToF64` (exact, Model/De.lean); the one float operation that is NOT
    modelled is `x / 100.0` (`FOps.div100`, IEEE division): every theorem is parametric in it. Number formats are
    C10's `CellFormat` (`env.fmts` = the table `Formats.xlsStyles` builds from the FORMAT / XF records).
    A `_no_panic` theorem here says the MODEL has no panic branch there; that the code has none either is what the
    outcome-class correspondence of the harness checks. -/

namespace BiffCells
open Biff

/-- `rk_num`'s bit manipulation (`rk[2] & 1`, `rk[2] & 2`, `v[4] &= 0xFC`, `read_i32 >> 2`, truncating `%` and `/`,
    the zero-extended double) computes the RkNumber of [MS-XLS] 2.5.217 — for every word, with no bound needed. -/
theorem rk_spec (ops : FOps) (w : Nat) : rkNum ops w = rkSpec ops w := rkNum_eq_rkSpec ops w

theorem encodeRkInt_lt (v : Int) (x : Bool) : encodeRkInt v x < 4294967296 := by
  unfold encodeRkInt; split <;> omega

theorem rkInt_roundtrip (ops : FOps) (v : Int) (h1 : -536870912 ≤ v) (h2 : v < 536870912) :
    rkNum ops (encodeRkInt v false) = .int v := by
  rw [rk_spec, encodeRkInt, rkSpec_int]
  simp only [sext30 v h1 h2, Bool.false_eq_true, if_false]

theorem rkInt100_roundtrip (ops : FOps) (v : Int) (h1 : -536870912 ≤ v) (h2 : v < 536870912) :
    rkNum ops (encodeRkInt v true) =
      if v % 100 = 0 then .int (v / 100) else .float (ops.div100 (i2f v)) := by
  rw [rk_spec, encodeRkInt, rkSpec_int]
  simp only [sext30 v h1 h2, if_true]

theorem rkFloat_roundtrip (ops : FOps) (bits : Nat) (_h1 : bits < 18446744073709551616) (h2 : bits % 17179869184 = 0)
    (x100 : Bool) :
    rkNum ops (encodeRkFloat bits x100) = .float (if x100 then ops.div100 bits else bits) := by
  rw [rk_spec, encodeRkFloat, rkSpec_float, Nat.div_mul_cancel (Nat.dvd_of_mod_eq_zero h2)]

theorem parseErr_inj (e : Nat) (k : ErrKind) (h : parseErr e = .ok (.error k)) : e = errCode k := by
  rcases parseErr_cases e with ⟨k', he, hk⟩ | ⟨_, hk⟩
  · rw [hk] at h; injection h with h; injection h with h; rw [← h]; exact he
  · rw [hk] at h; cases h

theorem parseErr_other (e : Nat) (h : ∀ k, e ≠ errCode k) : parseErr e = .err "Unrecognized:error" := by
  rcases parseErr_cases e with ⟨k, he, _⟩ | ⟨_, hk⟩
  · exact absurd he (h k)
  · exact hk

/-- the 8 error codes and the 8 error kinds correspond one-to-one: a code decodes to a kind exactly when it is
    that kind's code, distinct kinds have distinct codes, every other byte is rejected -/
theorem boolerr_bijective :
    (∀ e k, parseErr e = .ok (.error k) ↔ e = errCode k) ∧
    (∀ k k', errCode k = errCode k' → k = k') ∧
    (∀ e, (∀ k, e ≠ errCode k) → parseErr e = .err "Unrecognized:error") := by
  refine ⟨fun e k => ⟨parseErr_inj e k, fun h => by rw [h]; exact parseErr_code k⟩, ?_, parseErr_other⟩
  intro k k' h
  have h1 := parseErr_code k
  rw [h, parseErr_code k'] at h1
  injection h1 with h1; injection h1 with h1; exact h1.symm

/-- BOOLERR with `fError = 0`: a boolean -/
theorem boolerr_bool (row col xf : Nat) (b : Bool) (hr : row < 65536) (hc : col < 65536) (hx : xf < 65536) :
    parseBoolErr (le16 row ++ le16 col ++ le16 xf ++ [byte (if b then 1 else 0), byte 0]) =
      .ok (row, col, .bool b) :=
  parseBoolErr_bool row col xf b hr hc

/-- BOOLERR with `fError = 1`: each of the 8 error codes gives its error kind -/
theorem boolerr_error (row col xf : Nat) (k : ErrKind) (hr : row < 65536) (hc : col < 65536) (hx : xf < 65536) :
    parseBoolErr (le16 row ++ le16 col ++ le16 xf ++ [byte (errCode k), byte 1]) =
      .ok (row, col, .error k) :=
  parseBoolErr_err row col xf k hr hc

/-- any other error code or `fError` value is an error, not a value -/
theorem boolerr_other (r : Bytes) (hl : 8 ≤ r.length)
    (h : (byteAt r 7 ≠ 0 ∧ byteAt r 7 ≠ 1) ∨ (byteAt r 7 = 1 ∧ ∀ k, byteAt r 6 ≠ errCode k)) :
    ∃ e, parseBoolErr r = .err e := by
  unfold parseBoolErr
  rw [if_neg (by omega)]
  rcases h with ⟨h0, h1⟩ | ⟨h1, hk⟩
  · exact ⟨"Unrecognized:fError", by simp [h0, h1]⟩
  · exact ⟨"Unrecognized:error", by simp [h1, parseErr_other _ hk]⟩

/-- a MULRK record the reader accepts names `last − first + 1` columns, holds exactly that many `(ixfe, rk)` pairs,
    and yields one cell per pair at `(row, first + i)` -/
theorem mulrk_columns (env : Env) (r : Bytes) (cs : List Cell) (h : parseMulRk env r = .ok cs) :
    u16At r 2 ≤ u16At r (r.length - 2) ∧
    r.length = 6 + 6 * (u16At r (r.length - 2) + 1 - u16At r 2) ∧
    cs.length = u16At r (r.length - 2) + 1 - u16At r 2 ∧
    ∀ i, i < cs.length → cs[i]? = some (u16At r 0, u16At r 2 + i, rkNumAt env r (4 + 6 * i)) := by
  unfold parseMulRk at h
  split at h
  · cases h
  · simp only at h
    split at h
    · cases h
    · next hcond =>
      injection h with h
      subst h
      have hlen := mulRkLoop_length env r (u16At r 0) (u16At r (r.length - 2) + 1 - u16At r 2) 4 (u16At r 2)
      refine ⟨by omega, by omega, hlen, ?_⟩
      intro i hi
      rw [hlen] at hi
      exact mulRkLoop_get env r (u16At r 0) _ 4 (u16At r 2) i hi

/-- (after D31) a last column before the first, or a length that disagrees with the column span, is a `Len` error -/
theorem mulrk_rejects (env : Env) (r : Bytes)
    (h : r.length < 6 ∨ u16At r (r.length - 2) < u16At r 2 ∨
      r.length ≠ 6 + 6 * (u16At r (r.length - 2) + 1 - u16At r 2)) :
    parseMulRk env r = .err "Len:rk" := by
  unfold parseMulRk
  by_cases h6 : r.length < 6
  · simp [h6]
  · rcases h with h | h | h
    · exact absurd h h6
    · simp [h6, h]
    · simp [h6, h]

/-- … and never a panic, whatever the bytes -/
theorem mulrk_no_panic (env : Env) (r : Bytes) (s : String) : parseMulRk env r ≠ .panic s :=
  (parseMulRk_returns env r).ne_panic s

/-- (after the robustness fix b5774ce) `parse_merge_cells` answers `Ok` or `Len` on every payload: a record
    shorter than its count field or than the `2 + 8·count` bytes the count announces is an error, not a panic -/
theorem parse_merge_cells_no_panic (r : Bytes) (s : String) : parseMergeCells r ≠ .panic s :=
  (parseMergeCells_returns r).ne_panic s

theorem parse_merge_cells_rejects (r : Bytes) (h : r.length < 2 ∨ r.length < 2 + 8 * u16At r 0) :
    parseMergeCells r = .err "Len:merge cells" := by
  unfold parseMergeCells
  by_cases h2 : r.length < 2
  · simp [h2]
  · rcases h with h | h
    · exact absurd h h2
    · simp [h2, h]

/-- the MULRK record the encoder writes for a run of RK cells reads back as those cells, column by column -/
theorem mulrk_run (env : Env) (row c0 : Nat) (g : List PC) (hne : g ≠ []) (hr : row < 65536)
    (hc : c0 + g.length ≤ 65536) (hg : ∀ q ∈ g, q.xf < 65536 ∧ rkWord q < 4294967296) :
    parseMulRk env (mulRkData row c0 g) = .ok (runCells env row c0 g) :=
  parseMulRk_run env row c0 g hne hr hc hg

/-- `RecordIter` over `frame rs` yields exactly `rs`: for records with a 16-bit id other than CONTINUE, a
    payload that fits the 16-bit length field (BIFF8 allows ≤ 8224 bytes) and no CONTINUE chunks
    (CONTINUE gathering is C12's `frame_roundtrip`) -/
theorem record_framing_roundtrip (rs : List Rec) (h : ∀ r ∈ rs, plainRec r) :
    items (frame rs) = rs.map .record :=
  items_frame rs h

/-- whatever the bytes, the worksheet model terminates within its loop budgets: `RecordIter` consumes at least
    four bytes per record, the CONTINUE loop as well, nothing else loops -/
theorem sheetRange_total (env : Env) (s : Bytes) : sheetRange env s ≠ .outOfFuel := by
  rw [sheetRange, withFormulaRange_eq]
  refine (decodeSheet_returns env s).elim (fun cs => Range.fromSparse_ne_fuel cs) nofun

/-- the value a cached result stands for (a number is typed by the cell's XF like NUMBER / RK cells) -/
def cachedVal (env : Env) (xf : Nat) : Cached → Val
  | .num x => fmtF64 x env.fmts[xf]? env.is1904
  | .str _ s _ => .str s
  | .bool b => .bool b
  | .err k => .error k
  | .blank => .str []

/-- the FORMULA record (followed, for a string result, by ignorable records and the STRING record) puts exactly
    the cached value at the formula's cell: number, boolean, error, blank string from the FormulaValue field,
    a string from the STRING record that follows -/
theorem formula_cached_value (env : Env) (st : St) (p : PC) (c : Cached) (rgce : Bytes)
    (hp : p.phys = .formula c rgce) (hok : PCok env p) :
    ∃ f, runRecs env (physRecs p) st = .ok ⟨st.cells ++ [(p.row, p.col, cachedVal env p.xf c)], f⟩ := by
  obtain ⟨f, hf⟩ := (Reads.phys p hok).run st
  refine ⟨f, hf.trans ?_⟩
  simp only [pcCell, pcVal, physVal, hp]
  cases c <;> rfl

/-! ### typing by the XF: the wrap decision is C10's -/

/-- C10's `NumData` (Model/Formats.lean) as a cell value: a serial given as an `i64` is `v as f64` -/
def ofNumData : Formats.NumData → Val
  | .int v => .int v
  | .float b => .float b.toNat
  | .dateTime (.bits b) k d => .dt b.toNat k d
  | .dateTime (.ofI64 v) k d => .dt (i2f v) k d

/-- `fmtF64` (what `parse_number`, the RK float arm and the FORMULA arm apply) is `Formats.formatF64` -/
theorem fmtF64_formatF64 (bits : Nat) (h : bits < 18446744073709551616) (fmt : Option CellFormat) (d : Bool) :
    fmtF64 bits fmt d = ofNumData (Formats.formatF64 (UInt64.ofNat bits) fmt d) := by
  have e : (UInt64.ofNat bits).toNat = bits := by
    rw [UInt64.toNat_ofNat']; exact Nat.mod_eq_of_lt h
  cases fmt with
  | none => simp [fmtF64, Formats.formatF64, ofNumData, e]
  | some f => cases f <;> simp [fmtF64, Formats.formatF64, ofNumData, e]

/-- `fmtI64` (the RK integer arm) is `Formats.formatI64` -/
theorem fmtI64_formatI64 (v : Int) (fmt : Option CellFormat) (d : Bool) :
    fmtI64 v fmt d = ofNumData (Formats.formatI64 v fmt d) := by
  cases fmt with
  | none => rfl
  | some f => cases f <;> rfl

/-- whatever the layout, the content of a numeric cell denotes the cell's number -/
theorem numContent_bits (env : Env) (x : Nat) (e : Enc) : numBits (numContent env x e) = x := by
  unfold numContent
  split
  · split
    · next h => exact h.2
    · rfl
  · rfl

/-- every reading of a numeric cell — `Int`, `Float` or `DateTime` — stands for the cell's number -/
theorem expectVal_numOf (env : Env) (c : LCell) (l : Lay) (x : Nat) (hv : c.val = .num x) :
    numOf (expectVal env c l) = some x := by
  simp only [expectVal, hv]
  rw [numOf_typeNum, numContent_bits]

/-- date typing, per cell: under an XF whose format is DateTime / TimeDelta a numeric cell is
    `DateTime(x, kind, is1904)` with the cell's own number as serial and the workbook's date system; under any other
    XF (or an ixfe beyond the table) it is never a `DateTime` -/
theorem expectVal_date_typing (env : Env) (c : LCell) (l : Lay) (x : Nat) (hv : c.val = .num x) :
    (env.fmts[l.xf % 65536]? = some .dateTime → expectVal env c l = .dt x .dateTime env.is1904) ∧
    (env.fmts[l.xf % 65536]? = some .timeDelta → expectVal env c l = .dt x .timeDelta env.is1904) ∧
    (env.fmts[l.xf % 65536]? ≠ some .dateTime → env.fmts[l.xf % 65536]? ≠ some .timeDelta →
      ∀ b k d, expectVal env c l ≠ .dt b k d) := by
  have hb := numContent_bits env x l.enc
  simp only [expectVal, hv]
  refine ⟨fun h => by simp [typeNum, h, hb], fun h => by simp [typeNum, h, hb], fun h1 h2 b k d => ?_⟩
  rw [typeNum_of_plain _ _ _ h1 h2]
  cases numContent env x l.enc <;> nofun

/-- the XF does not ask for a date/time -/
def plainFmt (env : Env) (xf : Nat) : Prop :=
  env.fmts[xf]? ≠ some CellFormat.dateTime ∧ env.fmts[xf]? ≠ some CellFormat.timeDelta

/-- "30-bit RK integers as Int": the cell whose layout is the RK integer word of `v` reads `Int v` -/
theorem expectVal_rkInt (env : Env) (c : LCell) (l : Lay) (v : Int) (h1 : -536870912 ≤ v) (h2 : v < 536870912)
    (hv : c.val = .num (i2f v)) (he : l.enc = .num (.rk (encodeRkInt v false)))
    (hf : plainFmt env (l.xf % 65536)) : expectVal env c l = .int v :=
  expectVal_rk env c l _ _ _ hv he (encodeRkInt_lt _ _) (rkInt_roundtrip env.ops v h1 h2) rfl hf.1 hf.2

/-- the ×100 integer word of `v` with `100 ∣ v` reads `Int (v / 100)` -/
theorem expectVal_rkInt100 (env : Env) (c : LCell) (l : Lay) (v : Int) (h1 : -536870912 ≤ v) (h2 : v < 536870912)
    (hd : v % 100 = 0) (hv : c.val = .num (i2f (v / 100))) (he : l.enc = .num (.rk (encodeRkInt v true)))
    (hf : plainFmt env (l.xf % 65536)) : expectVal env c l = .int (v / 100) :=
  expectVal_rk env c l _ _ _ hv he (encodeRkInt_lt _ _) ((rkInt100_roundtrip env.ops v h1 h2).trans (if_pos hd)) rfl hf.1 hf.2

/-- a double stored as an RK float word reads `Float` -/
theorem expectVal_rkFloat (env : Env) (c : LCell) (l : Lay) (x : Nat) (hx : x < 18446744073709551616)
    (h34 : x % 17179869184 = 0) (hv : c.val = .num x) (he : l.enc = .num (.rk (encodeRkFloat x false)))
    (hf : plainFmt env (l.xf % 65536)) : expectVal env c l = .float x := by
  have hlt : encodeRkFloat x false < 4294967296 := by unfold encodeRkFloat; simp; omega
  exact expectVal_rk env c l _ _ _ hv he hlt (rkFloat_roundtrip env.ops x hx h34 false) rfl hf.1 hf.2

/-- NUMBER and FORMULA results read `Float` -/
theorem expectVal_number (env : Env) (c : LCell) (l : Lay) (x : Nat) (hv : c.val = .num x)
    (he : l.enc = .num .number ∨ ∃ a b c' d, l.enc = .formula a b c' d)
    (hf : plainFmt env (l.xf % 65536)) : expectVal env c l = .float x := by
  rcases he with he | ⟨a, b, c', d, he⟩ <;>
    · simp only [expectVal, hv, he, numContent]
      rw [typeNum_of_plain _ _ _ hf.1 hf.2]

/-- strings, booleans and errors do not depend on the layout -/
theorem expectVal_other (env : Env) (c : LCell) (l : Lay) (h : ∀ x, c.val ≠ .num x) :
    expectVal env c l = c.val.toVal := by
  unfold expectVal
  cases hv : c.val with
  | num x => exact absurd hv (h x)
  | _ => rfl

/-- For every logical sheet inside the BIFF8 grid (cells sorted row-major, distinct positions), every layout and every
    XF table: reading the encoded substream succeeds, the range is the tight bounding box of the cells, the value at
    the i-th cell is what the specification expects of it under the i-th layout entry (`expectVal`: the RkNumber
    reading for an RK word that denotes the number — integers as `Int` —, the double for NUMBER / FORMULA, typed as
    `DateTime` by a date/time XF; strings — the empty shared string included —, booleans, errors as they are), and
    every other position is `Empty`. -/
theorem biff_sheet_roundtrip (env : Env) (S : List LCell) (lays : List Lay)
    (hS : ∀ c ∈ S, cellOk c) (hsorted : S.Pairwise cellLt) :
    ∃ r, sheetRange env (substream env S lays) = .ok r ∧
      (S = [] → r.inner.length = 0) ∧
      (S ≠ [] → r.inner.length ≠ 0 ∧
        (∀ c ∈ S, r.sr ≤ c.row ∧ c.row ≤ r.er ∧ r.sc ≤ c.col ∧ c.col ≤ r.ec) ∧
        (∃ c ∈ S, c.row = r.sr) ∧ (∃ c ∈ S, c.row = r.er) ∧
        (∃ c ∈ S, c.col = r.sc) ∧ (∃ c ∈ S, c.col = r.ec)) ∧
      (∀ i (h : i < S.length), r.valAt S[i].row S[i].col = expectVal env S[i] (lays[i]?.getD default)) ∧
      (∀ p q, (∀ c ∈ S, ¬ (c.row = p ∧ c.col = q)) → r.valAt p q = Val.empty) := by
  have hpos : ((plan env S lays).map (pcCell env)).map (fun x => (x.1, x.2.1)) = S.map (fun c => (c.row, c.col)) := by
    rw [List.map_map, ← plan_pos env S lays]; rfl
  obtain ⟨r, hr, hemp, hbox, hval, hout⟩ := Range.fromSparse_sorted _ _ hpos (List.pairwise_map.mpr hsorted)
    (List.forall_mem_map.mpr fun c hc => ⟨(hS c hc).1, (hS c hc).2.1⟩)
  have e := sheetRange_encoded env S lays hS [] noCont_nil
  rw [List.append_nil] at e
  refine ⟨r, e.trans hr, fun h => hemp (by rw [h]; rfl), fun hne => ?_, fun i hi => ?_,
    fun p q hno => hout p q fun hm => ?_⟩
  · obtain ⟨h0, h1, t1, t2, t3, t4⟩ := hbox fun h => hne (List.map_eq_nil_iff.mp h)
    exact ⟨h0, List.forall_mem_map.mp h1, List.exists_mem_map.mp t1, List.exists_mem_map.mp t2,
      List.exists_mem_map.mp t3, List.exists_mem_map.mp t4⟩
  · have hg : (plan env S lays)[i]? = some (planCell env S[i] (lays[i]?.getD default)) := by
      rw [plan_getElem, List.getElem?_eq_getElem hi]; rfl
    rw [← planCell_expect]
    exact hval _ (List.mem_map.mpr ⟨_, List.mem_of_getElem? hg, rfl⟩)
  · obtain ⟨c, hc, e⟩ := List.mem_map.mp hm
    exact hno c hc (Prod.mk.inj e)

/-- an empty sheet (BOF, ignorable records, EOF) reads as the empty range -/
theorem biff_sheet_empty (env : Env) (lays : List Lay) :
    sheetRange env (substream env [] lays) = .ok Range.empty := by
  have e := sheetRange_encoded env [] lays nofun [] noCont_nil
  rwa [List.append_nil] at e

/-- An encoded workbook never reaches the scan limit. `stream` = any globals, the substreams of `sheets` stored one after
    the other in ANY physical order `phys` (a permutation of the BoundSheet8 order), any padding; every BoundSheet8 offset
    points at its own substream and no substream is followed by a CONTINUE record. Then the sheet part of
    `parse_workbook` (`workbookSheets`, counter shared by all sheets) returns exactly the per-sheet readings
    `sheetRange` of the substreams — the ones `biff_sheet_roundtrip` and its corollaries are about — so every
    per-sheet statement holds for the sheets of the workbook as the reader returns them. -/
theorem xls_workbook_encoded (env : Env) (stream pre trail : Bytes) (sheets phys : List SheetAt)
    (hS : ∀ sh ∈ sheets, ∀ c ∈ sh.S, cellOk c)
    (hplace : ∀ sh ∈ sheets, ∃ tail, stream.drop sh.pos = sh.bytes env ++ tail ∧ noCont tail)
    (hperm : sheets.Perm phys)
    (hlay : stream = pre ++ ((phys.map (fun sh => sh.bytes env)).flatten ++ trail)) :
    workbookSheets env stream (sheets.map (·.pos)) =
      collect (sheets.map (fun sh => sheetRange env (substream env sh.S sh.lays))) := by
  have hsum := layout_sum_le env stream pre trail sheets phys hperm hlay
  exact sheetsFrom_encoded env stream sheets 0 hS hplace (by omega)

/-- … with sorted cells every one of them succeeds: the workbook opens and has one range per sheet -/
theorem xls_workbook_encoded_ok (env : Env) (stream pre trail : Bytes) (sheets phys : List SheetAt)
    (hS : ∀ sh ∈ sheets, (∀ c ∈ sh.S, cellOk c) ∧ sh.S.Pairwise cellLt)
    (hplace : ∀ sh ∈ sheets, ∃ tail, stream.drop sh.pos = sh.bytes env ++ tail ∧ noCont tail)
    (hperm : sheets.Perm phys)
    (hlay : stream = pre ++ ((phys.map (fun sh => sh.bytes env)).flatten ++ trail)) :
    ∃ rs, workbookSheets env stream (sheets.map (·.pos)) = .ok rs ∧ rs.length = sheets.length := by
  rw [xls_workbook_encoded env stream pre trail sheets phys (fun sh h => (hS sh h).1) hplace hperm hlay]
  clear hplace hperm hlay
  induction sheets with
  | nil => exact ⟨[], rfl, rfl⟩
  | cons sh rest ih =>
    obtain ⟨r, hr, _⟩ := biff_sheet_roundtrip env sh.S sh.lays (hS sh (by simp)).1 (hS sh (by simp)).2
    obtain ⟨rs, hrs, hl⟩ := ih (fun x hx => hS x (by simp [hx]))
    exact ⟨r :: rs, by simp only [List.map_cons, collect, hr, hrs], by simp [hl]⟩

/-- a single sheet (the common case, and every per-sheet `dec` of the harness): whatever the bytes, the counter cannot
    trip, the counted loop is the plain one -/
theorem xls_single_sheet_exact (env : Env) (stream : Bytes) (pos : Nat) (hp : pos ≤ stream.length) :
    workbookSheets env stream [pos] =
      match sheetRange env (stream.drop pos) with
      | .ok r => .ok [r]
      | .err e => .err e
      | .panic m => .panic m
      | .outOfFuel => .outOfFuel := by
  have hc := scanCost_items (stream.drop pos)
  have hlen : (stream.drop pos).length ≤ stream.length := by simp
  rw [workbookSheets, sheetsFrom_eq env stream [pos] 0 (fun x hx => by cases List.mem_singleton.mp hx; exact hp)
    (by simp only [List.map_cons, List.map_nil, List.sum_cons, List.sum_nil, scanLimit]; omega)]
  simp only [List.map_cons, List.map_nil, collect]
  cases sheetRange env (stream.drop pos) <;> rfl

/-- work bound for ARBITRARY bytes and offsets: the body of the record loop runs, over all sheets together, at most
    `(8·len + 65536)/4 + 1` times — in particular at most `8·len + 65536 + (number of sheets)` times: linear in the
    stream, however the BoundSheet8 offsets overlap (before fix edc415f: `sheets × records`) -/
theorem xls_sheet_loop_work_linear (env : Env) (stream : Bytes) (offsets : List Nat) :
    4 * sheetsWork env stream offsets 0 ≤ 8 * stream.length + 65536 + 4 ∧
    sheetsWork env stream offsets 0 ≤ 8 * stream.length + 65536 + offsets.length := by
  have h := sheetsWork_bound env stream offsets 0 (by simp [scanLimit])
  simp only [scanLimit] at h
  exact ⟨by omega, by omega⟩

/-- "30-bit RK integers as Int", through the reader: in a sheet whose i-th cell holds the integer `v` and is laid out
    as the RK integer word of `v` (alone or inside a MULRK run) under a non-date XF, the value read at that cell is
    `Int v` — not `Float` -/
theorem biff_sheet_rk_int (env : Env) (S : List LCell) (lays : List Lay)
    (hS : ∀ c ∈ S, cellOk c) (hsorted : S.Pairwise cellLt) (i : Nat) (hi : i < S.length) (l : Lay)
    (hl : lays[i]? = some l) (v : Int) (h1 : -536870912 ≤ v) (h2 : v < 536870912)
    (hv : S[i].val = .num (i2f v)) (he : l.enc = .num (.rk (encodeRkInt v false)))
    (hf : plainFmt env (l.xf % 65536)) :
    ∃ r, sheetRange env (substream env S lays) = .ok r ∧ r.valAt S[i].row S[i].col = .int v := by
  obtain ⟨r, e, _, _, hv', _⟩ := biff_sheet_roundtrip env S lays hS hsorted
  refine ⟨r, e, ?_⟩
  rw [hv' i hi, hl]
  exact expectVal_rkInt env S[i] l v h1 h2 hv he hf

/-- xls date typing at sheet level (the xls third of C10's "exactly when"): a numeric cell — NUMBER, RK, inside a MULRK
    run, or a FORMULA result — whose XF's format class is DateTime (TimeDelta) reads `DateTime(x, DateTime (TimeDelta),
    is1904)`: the serial is the cell's number, the date system the workbook's; under any other XF it is not a DateTime -/
theorem biff_sheet_date_typing (env : Env) (S : List LCell) (lays : List Lay)
    (hS : ∀ c ∈ S, cellOk c) (hsorted : S.Pairwise cellLt) (i : Nat) (hi : i < S.length) (x : Nat)
    (hv : S[i].val = .num x) :
    ∃ r, sheetRange env (substream env S lays) = .ok r ∧
      (env.fmts[(lays[i]?.getD default).xf % 65536]? = some .dateTime →
        r.valAt S[i].row S[i].col = .dt x .dateTime env.is1904) ∧
      (env.fmts[(lays[i]?.getD default).xf % 65536]? = some .timeDelta →
        r.valAt S[i].row S[i].col = .dt x .timeDelta env.is1904) ∧
      (env.fmts[(lays[i]?.getD default).xf % 65536]? ≠ some .dateTime →
        env.fmts[(lays[i]?.getD default).xf % 65536]? ≠ some .timeDelta →
        ∀ b k d, r.valAt S[i].row S[i].col ≠ .dt b k d) := by
  obtain ⟨r, e, _, _, hv', _⟩ := biff_sheet_roundtrip env S lays hS hsorted
  refine ⟨r, e, ?_⟩
  rw [hv' i hi]
  exact expectVal_date_typing env S[i] _ x hv

/-- "The same number encoded as NUMBER, RK or inside a MULRK run reads as a numerically equal value at the same cell",
    through the reader: two layouts of the same sheet (any record choice per cell — NUMBER, any RK word denoting the
    number, MULRK grouping, FORMULA — and any XFs) give, at every numeric cell, values that stand for the cell's own
    double (`numOf`: an `Int` counts as `v as f64`, a `DateTime` as its serial) -/
theorem number_encodings_equal (env : Env) (S : List LCell) (lays1 lays2 : List Lay)
    (hS : ∀ c ∈ S, cellOk c) (hsorted : S.Pairwise cellLt) :
    ∃ r1 r2, sheetRange env (substream env S lays1) = .ok r1 ∧ sheetRange env (substream env S lays2) = .ok r2 ∧
      ∀ i (h : i < S.length) x, S[i].val = .num x →
        numOf (r1.valAt S[i].row S[i].col) = some x ∧ numOf (r2.valAt S[i].row S[i].col) = some x := by
  obtain ⟨r1, e1, _, _, v1, _⟩ := biff_sheet_roundtrip env S lays1 hS hsorted
  obtain ⟨r2, e2, _, _, v2, _⟩ := biff_sheet_roundtrip env S lays2 hS hsorted
  refine ⟨r1, r2, e1, e2, ?_⟩
  intro i hi x hx
  rw [v1 i hi, v2 i hi]
  exact ⟨expectVal_numOf env S[i] _ x hx, expectVal_numOf env S[i] _ x hx⟩

/-- two values agree up to the encoding of a number -/
def sameNum (a b : Val) : Prop := a = b ∨ ∃ x, numOf a = some x ∧ numOf b = some x

/-- two layouts of the same sheet (any record choices, MULRK grouping, ignorable records, XFs) give ranges with the same
    bounds, equal strings / booleans / errors / empties and numerically equal numbers at every position -/
theorem biff_encoding_independent (env : Env) (S : List LCell) (lays1 lays2 : List Lay)
    (hS : ∀ c ∈ S, cellOk c) (hsorted : S.Pairwise cellLt) :
    ∃ r1 r2, sheetRange env (substream env S lays1) = .ok r1 ∧ sheetRange env (substream env S lays2) = .ok r2 ∧
      (r1.inner.length = 0 ↔ r2.inner.length = 0) ∧
      (S ≠ [] → r1.sr = r2.sr ∧ r1.er = r2.er ∧ r1.sc = r2.sc ∧ r1.ec = r2.ec) ∧
      ∀ p q, sameNum (r1.valAt p q) (r2.valAt p q) := by
  obtain ⟨r1, e1, z1, n1, v1, o1⟩ := biff_sheet_roundtrip env S lays1 hS hsorted
  obtain ⟨r2, e2, z2, n2, v2, o2⟩ := biff_sheet_roundtrip env S lays2 hS hsorted
  refine ⟨r1, r2, e1, e2, ?_, ?_, ?_⟩
  · by_cases hS0 : S = []
    · simp [z1 hS0, z2 hS0]
    · have a := (n1 hS0).1; have b := (n2 hS0).1
      simp [a, b]
  · exact fun hne => Range.box_unique (n1 hne).2.1 (n1 hne).2.2 (n2 hne).2.1 (n2 hne).2.2
  · intro p q
    by_cases h : ∃ c ∈ S, c.row = p ∧ c.col = q
    · obtain ⟨c, hc, rfl, rfl⟩ := h
      obtain ⟨i, hi, rfl⟩ := List.getElem_of_mem hc
      rw [v1 i hi, v2 i hi]
      by_cases hn : ∃ x, S[i].val = .num x
      · obtain ⟨x, hx⟩ := hn
        exact Or.inr ⟨x, expectVal_numOf env S[i] _ x hx, expectVal_numOf env S[i] _ x hx⟩
      · have hn' : ∀ x, S[i].val ≠ .num x := fun x hx => hn ⟨x, hx⟩
        rw [expectVal_other env S[i] _ hn', expectVal_other env S[i] _ hn']
        exact Or.inl rfl
    · have hno : ∀ c ∈ S, ¬ (c.row = p ∧ c.col = q) := fun c hc hpq => h ⟨c, hc, hpq⟩
      rw [o1 p q hno, o2 p q hno]
      exact Or.inl rfl

/-- non-vacuity: −5 as an RK integer (the word 0xFFFFFFEE), 12.34 as 1234 with fX100, 1.5 as an RK float -/
example (ops : FOps) : rkNum ops 0xFFFFFFEE = .int (-5) ∧ encodeRkInt (-5) false = 0xFFFFFFEE
    ∧ rkNum ops (encodeRkInt 1234 true) = .float (ops.div100 (i2f 1234))
    ∧ rkNum ops (encodeRkInt 1200 true) = .int 12
    ∧ rkNum ops (encodeRkFloat 0x3FF8000000000000 false) = .float 0x3FF8000000000000 := by
  have e : encodeRkInt (-5) false = 0xFFFFFFEE := by decide
  exact ⟨e ▸ rkInt_roundtrip ops (-5) (by decide) (by decide), e,
    rkInt100_roundtrip ops 1234 (by decide) (by decide),
    rkInt100_roundtrip ops 1200 (by decide) (by decide),
    rkFloat_roundtrip ops 0x3FF8000000000000 (by decide) (by decide) false⟩

/-- `v as f64` is computed, not assumed: 5 ↦ 0x4014000000000000, −5 ↦ 0xC014000000000000 -/
example : i2f 5 = 0x4014000000000000 ∧ i2f (-5) = 0xC014000000000000 ∧ i2f 0 = 0 := by decide

/-- non-vacuity of the sheet theorems: a sheet with the number 5 (stored as the RK integer word 22 inside a MULRK
    run, under a plain XF), its neighbour under a date XF, a LABELSST naming the EMPTY shared string, an error and
    a formula string meets every hypothesis; the first cell is expected to read `Int 5`, the second
    `DateTime(5.0, DateTime, 1900)`, the third `String("")` -/
example (ops : FOps) :
    let env : Env := { ops := ops, fmts := [.other, .dateTime], is1904 := false, strings := [[]] }
    let S : List LCell := [⟨0, 1, .num 0x4014000000000000⟩, ⟨0, 2, .num 0x4014000000000000⟩,
      ⟨3, 0, .str []⟩, ⟨65535, 255, .err .na⟩]
    let lays : List Lay := [{ enc := .num (.rk 22) }, { enc := .num (.rk 22), join := true, xf := 1 },
      { enc := .labelSst 0, before := [⟨0x0201, [0, 0, 0, 0, 0, 0], []⟩] }, { enc := .formula [0x1E, 1, 0] false [] false }]
    (∀ c ∈ S, cellOk c) ∧ S.Pairwise cellLt ∧
    expectVal env S[0] lays[0] = .int 5 ∧ expectVal env S[1] lays[1] = .dt 0x4014000000000000 .dateTime false ∧
    expectVal env S[2] lays[2] = .str [] ∧ choose env S[2].val lays[2].enc = .labelSst 0 := by
  intro env S lays
  refine ⟨?_, by decide, rfl, rfl, rfl, rfl⟩
  intro c hc
  simp only [S, List.mem_cons, List.not_mem_nil, or_false] at hc
  rcases hc with rfl | rfl | rfl | rfl
  · exact ⟨by decide, by decide, show (_ : Nat) < _ by decide⟩
  · exact ⟨by decide, by decide, show (_ : Nat) < _ by decide⟩
  · exact ⟨by decide, by decide, nofun, by decide⟩
  · exact ⟨by decide, by decide, trivial⟩

end BiffCells
