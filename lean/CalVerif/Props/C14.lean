import CalVerif.Lemmas.PtgXls
import CalVerif.Lemmas.PtgXlsb
import CalVerif.Lemmas.PtgPanics
import CalVerif.Lemmas.PtgSpecEnv
import CalVerif.Lemmas.XlsxFormula
import CalVerif.Lemmas.XlsbFormula
import CalVerif.Lemmas.Range
/-! # C14 — formulas are reported with the A1 text the token stream encodes

    Theorems about the model of the two token decoders (`Model/Ptg.lean`: `pushColumn`, `cellRef`,
    `decodeXls`/`decodeXlsb`, `applyAct`, `runXls`/`runXlsb`, `parseFormulaXls`/`parseFormulaXlsb`)
    against the grammar, the A1 renderer and the byte encoders of `Spec/Formula.lean`
    (`Expr`, `renderA1`, `toRpn`, `encodeXls`/`encodeXlsb`).  Helper lemmas: `Lemmas/Ptg*.lean`.

    Shape of the main result (compiler correctness, in three layers):
      1. `stack_machine_correct` — the stack-of-offsets machine run on the reverse-Polish edits of an
         expression appends exactly `renderA1 e` and pushes exactly one offset, whatever precedes and follows;
      2. `decode_encode_token_xls/xlsb` — decoding the bytes of a token yields that token's edit and consumes
         exactly its bytes (all columns < 2^14, `$` exactly on the absolute components, rows 2^16 / 2^32,
         the three operand classes);
      3. `parse_formula_xls_correct` / `parse_formula_xlsb_correct` — hence the whole decoder returns
         `Ok(renderA1 e)` on the encoding of every expression of the grammar.
    Positions: `formula_positions_xlsx`, `formula_cursor_agrees_with_values` (xlsx: one entry per stored cell, at the
    cell's position) and `xlsb_formula_cells_roundtrip`, `xlsb_worksheet_formula_roundtrip` (xlsb: every formula record of
    a described worksheet part is reported at (current row header, record column)); the position of xls formula
    records is not covered in this file.
    Totality, on arbitrary bytes: `parseFormulaXls_no_panic`/`_fuel`, `parseFormulaXlsb_no_panic`/`_fuel` (nested
    PtgMemFunc included, depth bounded: `parseFormulaXlsb_depth_bounded`), `definedNameXls_no_panic`,
    `sheetFormulas_no_panic`/`_total`, `offsets_never_panic`.
    Outside the grammar of layers 1–3 (modelled, covered by the totality theorems and exercised by the correspondence
    run): PtgAttrSpace / PtgExp / PtgArray / PtgNameX / PtgMemFunc / PtgExtend. Rust's `Display` for f64 is a parameter. -/

namespace C14
open Ptg Formula

/-- `FTAB`, `FTAB_ARGC` and `FTAB_LEN` agree on the number of functions (485) -/
theorem ftab_shape : Gen.ftab.size = Gen.ftabArgc.size ∧ Gen.ftab.size = Gen.ftabLen ∧ Gen.ftabLen = 485 :=
  ⟨ftab_sizes.1.trans ftab_sizes.2.1.symm, ftab_sizes.1, ftab_sizes.2.2⟩

/-- `push_column` writes exactly the letters whose bijective base-26 value is the column: reading them
    back gives the column, for EVERY column (not only the 16384 a sheet has) -/
theorem col_letters (n : Nat) : parseCol (pushColumn n) = n := by
  unfold parseCol pushColumn
  rw [foldl_letters]; omega

theorem pushColumn_injective (m n : Nat) (h : pushColumn m = pushColumn n) : m = n := by
  have := congrArg parseCol h
  simpa [col_letters] using this

theorem pushColumn_eq_colName (n : Nat) : pushColumn n = colName n := Ptg.pushColumn_eq_colName n

theorem pushColumn_one (n : Nat) (h : n < 26) : pushColumn n = [Char.ofNat (65 + n)] := by
  rw [pushColumn_eq_colName, colName]; simp [h]

theorem pushColumn_two (n : Nat) (h1 : 26 ≤ n) (h2 : n < 702) :
    pushColumn n = [Char.ofNat (65 + (n / 26 - 1)), Char.ofNat (65 + n % 26)] := by
  rw [pushColumn_eq_colName, colName, if_neg (by omega), colName, if_pos (by omega)]
  rfl

/-- closed form, three letters: AAA..ZZZ are the columns 702..18277; in particular every column a
    sheet can have (`n < 16384`, last = XFD) has one of the three forms -/
theorem pushColumn_three (n : Nat) (h1 : 702 ≤ n) (h2 : n < 18278) :
    pushColumn n = [Char.ofNat (65 + ((n / 26 - 1) / 26 - 1)), Char.ofNat (65 + (n / 26 - 1) % 26),
      Char.ofNat (65 + n % 26)] := by
  rw [pushColumn_eq_colName, colName, if_neg (by omega), colName, if_neg (by omega), colName, if_pos (by omega)]
  rfl

example : pushColumn 0 = "A".toList ∧ pushColumn 25 = "Z".toList ∧ pushColumn 26 = "AA".toList ∧
    pushColumn 255 = "IV".toList ∧ pushColumn 701 = "ZZ".toList ∧ pushColumn 702 = "AAA".toList ∧
    pushColumn 16383 = "XFD".toList := by
  refine ⟨?_, ?_, ?_, ?_, ?_, ?_, ?_⟩ <;> simp [pushColumn_one, pushColumn_two, pushColumn_three] <;> decide

/-- `push_cell_ref` on the wire field of a reference (column in bits 0–13, bit 14 = column relative,
    bit 15 = row relative) prints `$` before the column iff the column is absolute, the column's letters,
    `$` before the row iff the row is absolute, and the 1-based row — for every column below 2^14 -/
theorem ref_text_flags (a : CellRef) (h : a.col < 16384) :
    cellRef a.row (colRel a) =
      (if a.colAbs then ['$'] else []) ++ colName a.col ++ (if a.rowAbs then ['$'] else []) ++ natText (a.row + 1) :=
  cellRef_colRel a.row a h rfl

example : cellRef 0 (colRel ⟨0, 1, true, false⟩) = "$B1".toList := by
  have h := ref_text_flags ⟨0, 1, true, false⟩ (by decide)
  rw [colName] at h
  rw [h]; decide

example : cellRef 4 (colRel ⟨4, 255, false, true⟩) = "IV$5".toList := by
  have h := ref_text_flags ⟨4, 255, false, true⟩ (by decide)
  rw [← pushColumn_eq_colName, pushColumn_two 255 (by decide) (by decide)] at h
  rw [h]; decide

/-- a string literal's UTF-16 code units decode back to its characters (surrogate pairs included) -/
theorem utf16_roundtrip (s : List Char) : decodeUtf16 (utf16Units s) = s := decodeUtf16_utf16Units s

/-- Compiler correctness of the stack-of-offsets algorithm: running the edits of the reverse-Polish form
    of `e` from ANY state appends exactly the A1 text of `e` to the buffer and pushes exactly one offset
    (the old buffer length); nothing below on the stack is touched and the run continues with `rest`.
    Hypothesis: arities match (`arityOk`: a PtgFunc node has as many arguments as FTAB_ARGC says, function
    indices < 485). Covers operands, unary ±, %, parentheses, SUM attribute, all binary operators and
    fixed/variable-arity functions with their arguments in order, comma separated. -/
theorem stack_machine_correct (env : Env) (chk : Bool) (e : Expr) (h : e.arityOk)
    (buf : List Char) (stk : List Nat) (rest : List Act) :
    runActs ((toRpn e).map (actOf env chk) ++ rest) ⟨buf, stk⟩ =
      runActs rest ⟨buf ++ renderA1 env e, stk ++ [buf.length]⟩ :=
  machine_correct env chk e h buf stk rest

theorem stack_machine_result (env : Env) (chk : Bool) (e : Expr) (h : e.arityOk) :
    runActs ((toRpn e).map (actOf env chk)) ⟨[], []⟩ = .ok ⟨renderA1 env e, [0]⟩ :=
  machine_result env chk e h

/-- non-vacuity: `SUM($AB1+2,-(x))`-shaped tree has matching arities (SUM = index 4 is variable-arity) -/
example : (Expr.funcVar 0 4 [.bin 3 (.ref 0 ⟨0, 27, true, false⟩) (.int 2), .uminus (.paren (.name 1 0))]).arityOk := by
  simp [Expr.arityOk, argsOk]; decide +kernel

/-- BIFF8: decoding the encoding of any well-formed token (followed by anything) yields the token's edit
    and leaves exactly the bytes after it. `wf true`: rows < 2^16, columns < 2^14, `ixti`/ints < 2^16,
    class ∈ {0,1,2}, strings < 256 units (8-bit form only for Latin-1 text), function index < 485. -/
theorem decode_encode_token_xls (ctx : Ctx) (stkEmpty : Bool) (t : Tok) (hwf : t.wf true) (rest : Bytes) :
    decodeTokXls ctx stkEmpty (encXls t ++ rest) = .ok (actOf (envOfXls ctx) true t, rest) :=
  decode_encode_xls ctx stkEmpty t hwf rest

/-- xlsb: same statement (rows < 2^32, strings < 2^16 units); 3-D tokens index inside the
    extern-sheet table (outside it the decoder prints `#REF`) -/
theorem decode_encode_token_xlsb (ctx : Ctx) (t : Tok) (hwf : t.wf false) (hs : t.sheetOk ctx.sheets.length)
    (rest : Bytes) :
    decodeTokXlsb ctx (encXlsb t ++ rest) = .ok (actOf (envOfXlsb ctx) false t, rest) :=
  decode_encode_xlsb ctx t hwf hs rest

/-- the sheet a BIFF8 3-D reference names is found through the XTI table: `sheets[xtis[ixti].itab_first]` -/
theorem sheet_via_xti (ctx : Ctx) (ixti : Nat) (it : Int) (name : List Char)
    (h1 : ctx.xtis[ixti]? = some it) (h2 : 0 ≤ it) (h3 : ctx.sheets[it.toNat]? = some name) :
    (envOfXls ctx).sheet ixti = name := by
  have : ¬ it < 0 := by omega
  simp [envOfXls, sheetXls, h1, this, h3]

/-- both environments answer a name index `i` with `ctx.names[i]` (the token stores `i + 1`: `encXls (.name c i)`) -/
theorem name_lookup (ctx : Ctx) (i : Nat) (name : List Char) (h : ctx.names[i]? = some name) :
    (envOfXls ctx).name i = name ∧ (envOfXlsb ctx).name i = name := by
  simp [envOfXls, envOfXlsb, h]

/-- xls: for every expression of the grammar whose tokens fit the BIFF8 fields and whose encoding fits the
    16-bit `cce`, `parse_formula` applied to `cce ++ encoding` returns exactly the A1 text
    (sheet names via the XTI table: `sheet_via_xti`; names: `name_lookup`). -/
theorem parse_formula_xls_correct (ctx : Ctx) (e : Expr) (harity : e.arityOk)
    (hwf : ∀ t ∈ toRpn e, t.wf true) (hlen : (encodeXls (toRpn e)).length < 65536) :
    parseFormulaXls ctx (frameXls (encodeXls (toRpn e))) = .ok (renderA1 (envOfXls ctx) e) :=
  parseFormulaXls_encode ctx e harity hwf hlen

/-- xlsb: the same for the xlsb token encoding (no length prefix; 32-bit rows) -/
theorem parse_formula_xlsb_correct (ctx : Ctx) (e : Expr) (harity : e.arityOk)
    (hwf : ∀ t ∈ toRpn e, t.wf false ∧ t.sheetOk ctx.sheets.length) :
    parseFormulaXlsb ctx (encodeXlsb (toRpn e)) = .ok (renderA1 (envOfXlsb ctx) e) :=
  parseFormulaXlsb_encode ctx e harity hwf

/-- the statements above cover streams with the inert PtgAttr tokens a real writer emits around functions
    (`Expr.inert`: PtgAttrIf / PtgAttrGoto / PtgAttrSemi …, and PtgAttrChoose with any `cOffset`): here
    `CHOOSE(1,2,3)` exactly as Excel tokenises it — selector, PtgAttrChoose(cOffset = 2, 3 offsets), each
    alternative followed by PtgAttrGoto, PtgFuncVar(3, CHOOSE) — satisfies their hypotheses in both encodings
    (the xlsb decoder mis-skipped PtgAttrChoose unless `cOffset = 3` before fix 792e6c9) -/
example :
    let e : Expr := .funcVar 0 100 [.inert (.attrChoose [6, 10, 14]) (.int 1), .inert (.attrSkip 8 3) (.int 2),
      .inert (.attrSkip 8 0) (.int 3)]
    e.arityOk ∧ (∀ t ∈ toRpn e, t.wf true) ∧ (∀ t ∈ toRpn e, t.wf false ∧ t.sheetOk 0) ∧
    renderA1 ⟨fun _ => [], fun _ => [], fun _ => []⟩ e = "CHOOSE(1,2,3)".toList := by
  intro e
  have hl := ftab_sizes.2.2
  refine ⟨by simp [e, Expr.arityOk, argsOk, Tok.isInert, hl], ?_, ?_, by decide +kernel⟩
  · intro t ht
    simp [e, toRpn, toRpnArgs] at ht
    rcases ht with rfl | rfl | rfl | rfl | rfl | rfl | rfl <;> simp [Tok.wf, hl]
  · intro t ht
    simp [e, toRpn, toRpnArgs] at ht
    rcases ht with rfl | rfl | rfl | rfl | rfl | rfl | rfl <;> simp [Tok.wf, Tok.sheetOk, hl]

/-- the loop budget used by `parseFormulaXls` (one unit per token, `rgce.length` units) is never exhausted
    on encoded expressions: the run of a token list needs exactly `toks.length` units -/
theorem fuel_suffices_xls (ctx : Ctx) (toks : List Tok) (hwf : ∀ t ∈ toks, t.wf true) (st : St) :
    runXls ctx (encodeXls toks).length (encodeXls toks) st =
      runActs (toks.map (actOf (envOfXls ctx) true)) st :=
  runXls_encoded ctx toks hwf _ (encodeXls_length_ge toks) st

/-- non-vacuity of the hypotheses of layer 3: a concrete mixed expression satisfies them in both encodings -/
example :
    let e : Expr := .funcVar 0 4 [.bin 3 (.ref 0 ⟨0, 27, true, false⟩) (.int 2),
      .uminus (.paren (.ref3d 1 0 ⟨4, 255, false, true⟩)), .str true "Жы".toList]
    (∀ t ∈ toRpn e, t.wf true) ∧ (∀ t ∈ toRpn e, t.wf false ∧ t.sheetOk 1) := by
  intro e
  have hl := ftab_sizes.2.2
  constructor
  · intro t ht
    simp [e, toRpn, toRpnArgs] at ht
    rcases ht with rfl | rfl | rfl | rfl | rfl | rfl | rfl | rfl | rfl <;>
      simp [Tok.wf, CellRef.wf, hl, utf16Units] <;> decide
  · intro t ht
    simp [e, toRpn, toRpnArgs] at ht
    rcases ht with rfl | rfl | rfl | rfl | rfl | rfl | rfl | rfl | rfl <;>
      simp [Tok.wf, Tok.sheetOk, CellRef.wf, hl, utf16Units] <;> decide

/-- xls, in the workbook's own terms. Workbook context = sheet names, defined names, XTI table (`itab_first` per entry).
    For every expression of the grammar whose fields fit BIFF8, whose 3-D references and names resolve
    (`refsOk`) and whose encoding fits `cce`, the decoder returns the A1 text in which a 3-D reference names the
    sheet `sheets[xtis[ixti]]` and a name token names `names[idx]` (`specEnv`, written from the property). -/
theorem parse_formula_xls_spec (sheets names : List (List Char)) (xtis : List Int) (fmt : Nat → List Char)
    (e : Expr) (harity : e.arityOk) (hwf : ∀ t ∈ toRpn e, t.wf true)
    (hrefs : ∀ t ∈ toRpn e, t.refsOk sheets names xtis) (hlen : (encodeXls (toRpn e)).length < 65536) :
    parseFormulaXls ⟨sheets, names, xtis, fmt⟩ (frameXls (encodeXls (toRpn e))) =
      .ok (renderA1 (specEnv sheets names xtis fmt) e) := by
  rw [parse_formula_xls_correct _ e harity hwf hlen]
  congr 1
  exact renderA1_congr _ _ e (fun t ht => tok_agree_xls sheets names xtis fmt t (hrefs t ht))

/-- xlsb, in the workbook's own terms. The decoder receives the extern-sheet table the workbook reader resolved
    (`resolveExtern`: one sheet name per XTI entry); same conclusion. -/
theorem parse_formula_xlsb_spec (sheets names : List (List Char)) (xtis : List Int) (fmt : Nat → List Char)
    (e : Expr) (harity : e.arityOk) (hwf : ∀ t ∈ toRpn e, t.wf false)
    (hrefs : ∀ t ∈ toRpn e, t.refsOk sheets names xtis) :
    parseFormulaXlsb ⟨resolveExtern sheets xtis, names, [], fmt⟩ (encodeXlsb (toRpn e)) =
      .ok (renderA1 (specEnv sheets names xtis fmt) e) := by
  rw [parse_formula_xlsb_correct _ e harity
    (fun t ht => ⟨hwf t ht, (tok_agree_xlsb sheets names xtis fmt t (hrefs t ht)).2⟩)]
  congr 1
  exact renderA1_congr _ _ e (fun t ht => (tok_agree_xlsb sheets names xtis fmt t (hrefs t ht)).1)

/-- non-vacuity: `Data!IV$5` with XTI table [1, 0] and sheets [S1, Data] resolves -/
example : (Tok.ref3d 1 0 ⟨4, 255, false, true⟩).refsOk ["S1".toList, "Data".toList] [] [1, 0] :=
  ⟨1, rfl, by decide, by decide⟩

/-! ## xlsx: the formula is the stored text, at the cell's position -/

section Xlsx
open XlsxCells XlsxSheet XlsxFormula

/-- For every well-formed logical sheet (C01's `XlsxSheet.Sheet`: rows and columns
    increasing, inside the grid) and EVERY legal layout (C01 `Layout.Legal`) — `r` written or omitted on any row and any
    cell wherever the format allows it, either letter case, prefixes per element, attribute order and inert extra
    attributes, text in pieces, comments / white space between elements, foreign siblings, any or no `<dimension>` — `next_formula` returns
    exactly one entry per stored cell, in row-major order, at that cell's position, holding the text of its `<f>`
    child verbatim (`""` when it has none). -/
theorem formula_positions_xlsx (s : Sheet) (lay : Layout) (hl : lay.Legal) (hwf : s.WF) :
    readFormulas (renderSheet s lay) = .ok (formulasOf s) ∧
    (formulasOf s).map (fun c => (c.1, c.2.1)) = s.flatMap (fun row => row.2.map fun cell => (row.1, cell.1)) := by
  refine ⟨readFormulas_render s lay hl hwf.inGrid, ?_⟩
  simp only [formulasOf, rowFormulas, List.map_flatMap, List.map_map]
  rfl

/-- formulas are reported at the positions the value reader (`next_cell`, C01 `cursor_positions`) reports the same
    cells at: the two cursors agree on every encoded sheet -/
theorem formula_cursor_agrees_with_values (cfg : Cfg) (s : Sheet) (lay : Layout) (hl : lay.Legal) (hwf : s.WF)
    (hok : s.ContentOk cfg) :
    ∃ dims cells fcells, readCells cfg (renderSheet s lay) = .ok (dims, cells) ∧
      readFormulas (renderSheet s lay) = .ok fcells ∧
      cells.map (fun c => (c.1, c.2.1)) = fcells.map (fun c => (c.1, c.2.1)) := by
  refine ⟨_, _, _, readCells_render cfg s lay hl hwf.inGrid hok, readFormulas_render s lay hl hwf.inGrid, ?_⟩
  simp only [cellsOf, formulasOf, rowFormulas, List.map_flatMap, List.map_map]
  rfl

/-- what `worksheet_formula` builds its range from does not depend on the layout: the stored cells that have a
    non-empty formula text (`Range::from_sparse` of them is the bounding rectangle with `""` elsewhere: C05) -/
theorem worksheet_formula_layout_independent (s : Sheet) (lay lay' : Layout) (hl : lay.Legal) (hl' : lay'.Legal)
    (hwf : s.WF) :
    worksheetFormula (renderSheet s lay) = worksheetFormula (renderSheet s lay') ∧
    worksheetFormula (renderSheet s lay) = Range.fromSparse ((formulasOf s).filter fun c => c.2.2 ≠ []) := by
  simp only [worksheetFormula, formulaCells, readFormulas_render s lay hl hwf.inGrid,
    readFormulas_render s lay' hl' hwf.inGrid, and_self]

/-- the plainest layout (nothing optional written, one text piece, no extra markup) is legal -/
def plainLayout : Layout :=
  { pfx := false, rowPfx := fun _ => false, cellPfx := fun _ _ => false, dim := none,
    rowExplicit := fun _ => false, cellExplicit := fun _ _ => false, cellLower := fun _ _ => false,
    cellArrange := fun _ _ a => a, rowArrange := fun _ a => a, split := fun _ _ t => [t],
    beforeDim := [], afterDim := [], after := [], gapRow := fun _ => [], gapCell := fun _ _ => [],
    gapRowEnd := fun _ => [], gapEnd := [] }

theorem plainLayout_legal : plainLayout.Legal where
  dim := by intro d hd; simp [plainLayout] at hd
  cellAttr := by intros; rfl
  rowAttr := by intros; rfl
  split := by intro r c t; simp [plainLayout]
  head := ⟨by intro ev h; simp [plainLayout] at h, by intro ev h; simp [plainLayout] at h⟩
  gaps := ⟨by intro r ev h; simp [plainLayout] at h, by intro r c ev h; simp [plainLayout] at h,
    by intro r ev h; simp [plainLayout] at h, by intro ev h; simp [plainLayout] at h⟩

/-- non-vacuity, and the shape that separates a correct cursor from a wrong one: two rows, the second without
    `r`, cells without `r`; the second formula is at column 0 of row 1, not after the first row's last column -/
example :
    let s : Sheet := [(0, [(0, ⟨.blank, none, some [66, 49]⟩), (1, ⟨.num [49] false, none, none⟩)]),
                      (1, [(0, ⟨.blank, none, some [65, 49]⟩)])]
    readFormulas (renderSheet s plainLayout) = .ok [(0, 0, [66, 49]), (0, 1, []), (1, 0, [65, 49])] := by
  intro s
  have hwf : s.WF := by simp [s, Sheet.WF, Increasing]
  rw [(formula_positions_xlsx s plainLayout plainLayout_legal hwf).1]
  rfl

end Xlsx

/-! ## xlsb: formula cells of a worksheet part (`next_formula`, `formula_rgce`, `worksheet_formula`) -/

section XlsbCells
open Xlsb XlsbFormula

/-- Reading the formula cells of ANY byte string as a worksheet part — record
    framing, `XlsbCellsReader::new`, the four BrtFmla* layouts, the `rgce` slice, the token decoder — returns a
    cell list or an error -/
theorem sheetFormulas_no_panic (ctx : Ptg.Ctx) (bs : Xlsb.Bytes) (m : String) : sheetFormulas ctx bs ≠ .panic m :=
  (sheetFormulas_returns ctx bs).ne_panic m

/-- With one unit of fuel per byte of the part (plus one) the formula loop never runs out: every
    iteration consumes a record of at least two bytes -/
theorem sheetFormulas_total (ctx : Ptg.Ctx) (bs : Xlsb.Bytes) : sheetFormulas ctx bs ≠ .outOfFuel :=
  (sheetFormulas_returns ctx bs).ne_fuel

/-- `Xlsb::worksheet_formula` on arbitrary bytes: never out of fuel, and a panic can only be `Range::from_sparse`'s
    (hostile coordinates: C05 / C06 known finding), never the reader's -/
theorem worksheetFormulaXlsb_total (ctx : Ptg.Ctx) (bs : Xlsb.Bytes) :
    worksheetFormula ctx bs ≠ .outOfFuel ∧
    ∀ m, worksheetFormula ctx bs = .panic m → ∃ cells, sheetFormulas ctx bs = .ok cells ∧ Range.fromSparse cells = .panic m := by
  unfold worksheetFormula
  exact (sheetFormulas_returns ctx bs).elim
    (fun cells => ⟨Range.fromSparse_ne_fuel cells, fun m hm => ⟨cells, rfl, hm⟩⟩) fun _ => ⟨nofun, nofun⟩

/-- In each of the four formula records (cached string / number / bool / error) written
    by the encoder, `formula_rgce` cuts out exactly the expression's token bytes — after the Cell structure, the
    variable-length cached value and `grbitFlags`, ignoring the trailing `rgcb` — and the column is the record's -/
theorem fmla_record_rgce (col style : Nat) (content : Content) (flags : Nat) (rgce rgcb : Xlsb.Bytes)
    (hcol : col < 4294967296) (hwf : content.WF) (hf : content.hasFmla = true) (hlen : rgce.length < 4294967296) :
    let c : CellRec := ⟨col, style, content, some (fmlaBytes flags rgce rgcb)⟩
    finterpret c.recId c.payload = .cell rgce ∧ u32le c.payload = col ∧ (8 ≤ c.recId ∧ c.recId ≤ 11) :=
  finterpret_fcell col style content flags rgce rgcb hcol hwf hf hlen

/-- Sheet round trip, the cells: for every described worksheet part — any prologue, sheet data made of row headers,
    constant cells, ignorable records and formula cells (any of the four cached-value kinds, any flags, any `rgcb`,
    an expression of the C14 grammar) in any interleaving, every record framed with a 1- or 2-byte id and a
    1..4-byte length — `worksheet_formula` collects exactly the formula cells whose text is not empty, each at
    (current row header, record column) with the A1 text of its expression -/
theorem xlsb_formula_cells_roundtrip (ctx : Ptg.Ctx) (pre1 pre2 : List Seg) (dims : Xlsb.Bytes) (dw : Bool) (dl : Nat)
    (bp : Xlsb.Bytes) (bw : Bool) (bl : Nat) (data : List FFramed) (ew : Bool) (el : Nat) (post : Xlsb.Bytes)
    (h1 : ∀ s ∈ pre1, s.OK 0x0094 bounds1) (h2 : ∀ s ∈ pre2, s.OK 0x0091 bounds2)
    (hd : 16 ≤ dims.length ∧ dims.length < 268435456) (hb : bp.length < 268435456)
    (hok : ∀ d ∈ data, d.item.OK ctx.sheets.length) :
    sheetFormulas ctx (sheetBytes pre1 dims dw dl pre2 bp bw bl (data.map FFramed.toFramed) ew el post)
      = .ok (keptFormulas (envOfXlsb ctx) (data.map (·.item))) :=
  sheetFormulas_enc ctx pre1 pre2 dims dw dl bp bw bl data ew el post h1 h2 hd hb hok

/-- Sheet round trip, the range: … and the range `worksheet_formula` returns is empty iff there is no such cell,
    otherwise it is exactly their bounding rectangle (every cell inside, every side touched) and holds at every
    position the text of the (last) formula cell addressing it and `""` everywhere else; in particular, when no two
    formula cells share a position, every formula is read back at its cell -/
theorem xlsb_worksheet_formula_roundtrip (ctx : Ptg.Ctx) (pre1 pre2 : List Seg) (dims : Xlsb.Bytes) (dw : Bool) (dl : Nat)
    (bp : Xlsb.Bytes) (bw : Bool) (bl : Nat) (data : List FFramed) (ew : Bool) (el : Nat) (post : Xlsb.Bytes)
    (h1 : ∀ s ∈ pre1, s.OK 0x0094 bounds1) (h2 : ∀ s ∈ pre2, s.OK 0x0091 bounds2)
    (hd : 16 ≤ dims.length ∧ dims.length < 268435456) (hb : bp.length < 268435456)
    (hok : ∀ d ∈ data, d.item.OK ctx.sheets.length)
    (hS : ∀ c ∈ keptFormulas (envOfXlsb ctx) (data.map (·.item)), c.1 < 1048576 ∧ c.2.1 < 16384) :
    let S := keptFormulas (envOfXlsb ctx) (data.map (·.item))
    ∃ r, worksheetFormula ctx (sheetBytes pre1 dims dw dl pre2 bp bw bl (data.map FFramed.toFramed) ew el post) = .ok r ∧
      Range.Inv r ∧ (r.inner.length = 0 ↔ S = []) ∧
      (∀ c ∈ S, r.sr ≤ c.1 ∧ c.1 ≤ r.er ∧ r.sc ≤ c.2.1 ∧ c.2.1 ≤ r.ec) ∧
      (S ≠ [] → (∃ c ∈ S, c.1 = r.sr) ∧ (∃ c ∈ S, c.1 = r.er) ∧ (∃ c ∈ S, c.2.1 = r.sc) ∧ (∃ c ∈ S, c.2.1 = r.ec)) ∧
      (∀ p q, r.valAt p q = (Range.lastAt S p q).getD []) ∧
      (S.Pairwise (fun a b => ¬ (a.1 = b.1 ∧ a.2.1 = b.2.1)) → ∀ c ∈ S, r.valAt c.1 c.2.1 = c.2.2) ∧
      (∀ p q, (∀ c ∈ S, ¬ (c.1 = p ∧ c.2.1 = q)) → r.valAt p q = []) := by
  intro S
  unfold worksheetFormula
  rw [sheetFormulas_enc ctx pre1 pre2 dims dw dl bp bw bl data ew el post h1 h2 hd hb hok]
  simp only
  change ∀ c ∈ S, c.1 < 1048576 ∧ c.2.1 < 16384 at hS
  obtain ⟨r, hr⟩ := Range.fromSparse_of_pre S (Range.sparsePre_of_sheet S hS)
  exact ⟨r, hr, Range.fromSparse_spec_all S r hr⟩

/-- non-vacuity: row 5, a number cell with `=A1+2` behind a cached 1.5 and `=B2` behind a cached string (with
    trailing `rgcb` bytes) are legal items -/
example :
    let it1 : FItem := .fcell 3 0 (.real 4609434218613702656) 0 (.bin 3 (.ref 0 ⟨0, 0, false, false⟩) (.int 2)) []
    let it2 : FItem := .fcell 7 0 (.str [120, 121]) 8 (.ref 1 ⟨1, 1, false, false⟩) [1, 2, 3]
    it1.OK 0 ∧ it2.OK 0 ∧ (FItem.row 5 []).OK 0 := by
  intro it1 it2
  refine ⟨?_, ?_, by simp [FItem.OK]⟩
  · refine ⟨by decide, by simp [Content.WF], rfl, by simp [Formula.Expr.arityOk], ?_, by simp, by decide⟩
    intro t ht
    simp [Formula.toRpn] at ht
    rcases ht with rfl | rfl | rfl <;> simp [Formula.Tok.wf, Formula.Tok.sheetOk, Formula.CellRef.wf]
  · refine ⟨by decide, by simp [Content.WF], rfl, by simp [Formula.Expr.arityOk], ?_, by simp, by decide⟩
    intro t ht
    simp [Formula.toRpn] at ht
    subst ht
    simp [Formula.Tok.wf, Formula.Tok.sheetOk, Formula.CellRef.wf]

end XlsbCells

/-- `Inv`: the stack is sorted and every entry is inside the buffer.  Every edit preserves it, and from such a
    state NO edit panics: `split_off`, `insert`, `*s -= start` and the `fargs[w0..w1]` slices of both
    `parse_formula`s can never fail, whatever the token stream.  (That the model may count characters where Rust
    counts UTF-8 bytes rests on more than this statement: every offset used is a former buffer length and the text
    before it is not edited afterwards — the modelling argument of Model/Ptg.lean, which no theorem states.) -/
theorem offsets_never_panic (a : Act) (s : St) (h : Inv s) :
    (∀ s', applyAct a s = .ok s' → Inv s') ∧ (∀ m, applyAct a s ≠ .panic m) :=
  ⟨fun _ hs => (applyAct_returnsWith a s h).of_ok hs, (applyAct_returnsWith a s h).returns.ne_panic⟩

/-- For ANY context and ANY byte string, the xls `parse_formula` returns
    `Ok` or `Err` — it never panics: every token's length is checked (`rgce_need`), `FTAB` is read with `get`,
    a zero name index is `#REF!`, and the offset edits cannot fail (`offsets_never_panic`) -/
theorem parseFormulaXls_no_panic (ctx : Ctx) (rgce : Bytes) (m : String) : parseFormulaXls ctx rgce ≠ .panic m :=
  (parseFormulaXls_returns ctx rgce).ne_panic m

/-- … and the loop budget `rgce.length` the model gives the `while` loop is never exhausted: every arm consumes
    its token (so the Rust loop terminates after at most `rgce.len()` iterations) -/
theorem parseFormulaXls_fuel (ctx : Ctx) (rgce : Bytes) : parseFormulaXls ctx rgce ≠ .outOfFuel :=
  (parseFormulaXls_returns ctx rgce).ne_fuel

/-- The xlsb decoder is total as well, nested PtgMemFunc sub-formulas included; an extern-sheet index outside the table
    is `#REF` -/
theorem parseFormulaXlsb_no_panic (ctx : Ctx) (rgce : Bytes) (m : String) : parseFormulaXlsb ctx rgce ≠ .panic m :=
  (parseFormulaXlsb_returns ctx rgce).ne_panic m

theorem parseFormulaXlsb_fuel (ctx : Ctx) (rgce : Bytes) : parseFormulaXlsb ctx rgce ≠ .outOfFuel :=
  (parseFormulaXlsb_returns ctx rgce).ne_fuel

/-- PtgMemFunc sub-expressions are parsed by a recursive call on the
    Rust call stack; `depthUsed` follows the same control flow as the decoder and returns the deepest `depth`
    argument of any call made.  From the top-level call it never exceeds `maxMemDepth` = 64, whatever the bytes:
    at most 65 frames of `parse_formula_nested` are ever on the stack (deeper nesting is an `Err`) -/
theorem parseFormulaXlsb_depth_bounded (ctx : Ctx) (rgce : Bytes) :
    depthUsed ctx 0 rgce.length rgce ⟨[], []⟩ ≤ maxMemDepth ∧ maxMemDepth = 64 :=
  ⟨by have := depthUsed_le ctx rgce.length 0 rgce ⟨[], []⟩; omega, rfl⟩

/-- `parse_defined_names` (xls Lbl formulas) is total too -/
theorem definedNameXls_no_panic (rgce : Bytes) (m : String) : definedNameXls rgce ≠ .panic m :=
  (definedNameXls_returns rgce).ne_panic m

example : Inv ⟨"A1+B2".toList, [0, 3]⟩ := by
  constructor
  · simp
  · intro x hx; simp at hx; rcases hx with rfl | rfl <;> decide

end C14
