import CalVerif.Lemmas.OvbaLoops
import CalVerif.Lemmas.OvbaDir
import CalVerif.Lemmas.OvbaReturns
import CalVerif.Lemmas.Cfb
import CalVerif.Model.OvbaProject
import CalVerif.Spec.OvbaProject
/-! # C18 — VBA modules are extracted byte-exact from the compressed project

    Theorems about `Ovba.decompress` (model of `src/cfb.rs decompress_stream`, after the D16 fix) against the
    MS-OVBA container specification of `Spec/OvbaContainer.lean` (`Token`, `Chunk`, `expand`, `serialize`, `Valid`).
    Main result: `decompress_correct` — the decompressor inverts **every** valid container: any mixture of literal
    and copy tokens with offsets/lengths up to the position-dependent limits, overlapping copies, raw chunks, any
    number of chunks, chunks ending on or off a flag-group boundary. Hence every valid encoding of a source
    (literal-only, greedy, any tokenisation) decompresses to that source (`decompress_encoding_independent`).
    On arbitrary input `decompress` terminates, does not panic and allocates at most 2049 bytes per input byte.
    Then the walk over the decompressed `dir` stream (`dir_walk`, against `Spec/OvbaDir.lean`; no panic on any bytes),
    the project read through a stream lookup (`project_correct`) and out of a compound file laid out in any valid
    way (`vba_from_container`, C13 ∘ C18), and the text of a module (`get_module_text`, `encoding_selection`).
    Definitions of the statements that stand in no Model or Spec file: `validToken` (one token's share of
    `validTokens`, in `token_step_copytoken`) in `Lemmas/OvbaLoops.lean`; `clog2`, the loops before the D16 fix
    (`chunkLoopPre`, `mainLoopPre`) and the sample containers, projects and layout here. -/

namespace Ovba.C18
open Ovba

/-- `while len > offset { append the last `offset` bytes; len -= offset }` + final partial block, on the (reversed)
    output buffer, equals copying `len` bytes one at a time from `offset` bytes back (MS-OVBA Byte Copy), for every
    offset that does not reach before the buffer start (the code guards that case with an `Err`). Overlapping
    copies (`len > off`, run-length) included. -/
theorem copy_loop_correct (off len : Nat) (out : Bytes) (h1 : 1 ≤ off) (h3 : off ≤ out.length) :
    ∃ out', copyLoop off (len + 1) len out out.length = .ok (out', out.length + len) ∧
      out'.reverse = copySpec off len out.reverse ∧ out'.length = out.length + len := by
  exact ⟨copyRev off len out, copyLoop_eq off h1 _ _ _ _ h3 (Nat.lt_succ_self _), copyRev_reverse off len out h1 h3,
    copyRev_length off len out⟩

/-- ⌈log₂ d⌉ -/
def clog2 (d : Nat) : Nat := if d ≤ 1 then 0 else (d - 1).log2 + 1

theorem clog2_eq (d k : Nat) (hk : 1 ≤ k) (h1 : 2 ^ (k - 1) < d) (h2 : d ≤ 2 ^ k) : clog2 d = k := by
  have hpos : 0 < 2 ^ (k - 1) := Nat.two_pow_pos _
  have hd : d - 1 ≠ 0 := Nat.sub_ne_zero_of_lt (Nat.lt_of_le_of_lt hpos h1)
  have a : (d - 1).log2 < k := (Nat.log2_lt hd).2 (Nat.sub_one_lt_of_le (Nat.lt_trans hpos h1) h2)
  have b : ¬ (d - 1).log2 < k - 1 := fun h =>
    Nat.lt_irrefl _ (Nat.lt_of_lt_of_le h1 (Nat.le_of_pred_lt ((Nat.log2_lt hd).1 h)))
  rw [clog2, if_neg (Nat.not_le.2 (Nat.lt_of_le_of_lt hpos h1))]
  omega

theorem clog2_le4 (d : Nat) (h : d ≤ 16) : clog2 d ≤ 4 := by
  unfold clog2
  split
  · omega
  · have : (d - 1).log2 < 4 := (Nat.log2_lt (by omega)).2 (by omega)
    omega

/-- MS-OVBA 2.4.1.3.19.1: for every position `d` inside a chunk the code's
    `(4..16).find(|i| POWER_2[*i] >= d)` is `max(4, ⌈log₂ d⌉)` -/
theorem bitcount_spec (d : Nat) (h1 : 1 ≤ d) (h2 : d ≤ 4096) : bitCount? d = some (max 4 (clog2 d)) := by
  obtain ⟨bc, hbc, h4, _, hle, hmin⟩ := bitCount?_least h2
  rw [hbc]
  congr 1
  rcases hmin with rfl | hlt
  · exact (Nat.max_eq_left (clog2_le4 d hle)).symm
  · rw [clog2_eq d bc (by omega) hlt hle]
    exact (Nat.max_eq_right h4).symm

/-- `(4..16).find(…)` returns the least `i ≥ 4` with `2 ^ i ≥ d`, and inside a chunk that `i` is at most 12 -/
theorem bitcount_least (d : Nat) (h2 : d ≤ 4096) :
    ∃ bc, bitCount? d = some bc ∧ 4 ≤ bc ∧ bc ≤ 12 ∧ d ≤ 2 ^ bc ∧ (bc = 4 ∨ 2 ^ (bc - 1) < d) :=
  bitCount?_least h2

/-- A valid copy token survives packing by the spec and unpacking by the code's mask/shift expressions, at every
    position `d` of a chunk (all 9 bit splits 4/12 … 12/4): the 16-bit word fits, and
    `(token & len_mask) + 3 = len`, `((token & !len_mask) >> (16 - bit_count)) + 1 = off`. -/
theorem copy_token_roundtrip (d off len : Nat) (h1 : 1 ≤ off) (h2 : off ≤ d) (h3 : 3 ≤ len) (h4 : len ≤ maxLen d)
    (h5 : d ≤ 4096) :
    ∃ bc, bitCount? d = some bc ∧ packCopy d off len < 65536 ∧
      (packCopy d off len &&& (0xFFFF >>> bc)) + 3 = len ∧
      ((packCopy d off len &&& (0xFFFF ^^^ (0xFFFF >>> bc))) >>> (16 - bc)) + 1 = off := by
  obtain ⟨bc, hbc, hb4, hb12, hw, hlen, hoff⟩ := pack_facts d off len h1 h2 h3 h4 h5
  obtain ⟨e1, e2⟩ := unpack_eq (packCopy d off len) bc hw (by omega)
  exact ⟨bc, hbc, hw, by rw [e1, hlen], by rw [e2, hoff]⟩

/-- one literal token advances input by 1 byte, output by that byte, `chunk_len` by 1 -/
theorem token_step_literal (size n flags clen olen : Nat) (b : UInt8) (r cur prev : Bytes)
    (hc : clen ≤ size) (hf : flags % 2 = 0) :
    tokenLoop size prev.length (n + 1) flags ⟨b :: r, cur.reverse ++ prev, olen, clen⟩ =
      tokenLoop size prev.length n (flags / 2) ⟨r, (applyToken cur (.lit b)).reverse ++ prev, olen + 1, clen + 1⟩ :=
  token_step size n flags clen olen (.lit b) r cur prev hc hf fun h => nomatch h

/-- one valid copy token (at position `cur.length` of the chunk, `prev` = output of earlier chunks) advances input
    by 2 bytes, output by the spec's byte-by-byte copy, `chunk_len` by 2 -/
theorem token_step_copytoken (size n flags clen olen off len : Nat) (r cur prev : Bytes)
    (ho : olen = cur.length + prev.length)
    (hc : clen ≤ size) (hf : flags % 2 = 1) (hv : validToken cur.length (.copy off len) = true) :
    tokenLoop size prev.length (n + 1) flags ⟨serToken cur.length (.copy off len) ++ r, cur.reverse ++ prev, olen, clen⟩ =
      tokenLoop size prev.length n (flags / 2)
        ⟨r, (applyToken cur (.copy off len)).reverse ++ prev, olen + len, clen + 2⟩ :=
  token_step size n flags clen olen (.copy off len) r cur prev hc hf fun _ => ⟨ho, hv⟩

/-- decoding a serialized compressed chunk from the state “output so far = `prev` (reversed)” appends exactly
    that chunk's expansion and leaves the cursor right behind the chunk — whatever follows (`tail`), in particular
    when the chunk's token count is a multiple of 8 and another chunk header follows (ledger D16) -/
theorem chunk_correct (toks : List Token) (tail prev : Bytes) (fuel : Nat)
    (hd : decodableChunk (.compressed toks) = true) :
    mainLoop (fuel + 1) (serChunk (.compressed toks) ++ tail) prev prev.length =
      mainLoop fuel tail ((expandChunk (.compressed toks)).reverse ++ prev)
        (((expandChunk (.compressed toks)).reverse ++ prev).length) :=
  compressed_chunk_step toks tail prev fuel hd

theorem raw_chunk_correct (bs tail prev : Bytes) (fuel : Nat) (hd : decodableChunk (.raw bs) = true) :
    mainLoop (fuel + 1) (serChunk (.raw bs) ++ tail) prev prev.length =
      mainLoop fuel tail (bs.reverse ++ prev) ((bs.reverse ++ prev).length) :=
  raw_chunk_step bs tail prev fuel hd

theorem valid_decodable : ∀ (cs : List Chunk), Valid cs → Decodable cs
  | [], _ => by intro c hc; simp at hc
  | [c], h => by
    intro c' hc'
    simp only [List.mem_singleton] at hc'
    subst hc'
    simpa [Valid, validChunks] using h
  | c :: c2 :: cs, h => by
    simp only [Valid, validChunks, Bool.and_eq_true, decide_eq_true_eq] at h
    intro c' hc'
    rcases List.mem_cons.1 hc' with rfl | hc'
    · exact h.1.1
    · exact valid_decodable (c2 :: cs) h.2 c' hc'

/-- strongest form: every container whose chunks are individually decodable (no condition on how many bytes a
    non-final chunk stands for) decompresses to its expansion -/
theorem decompress_correct_decodable (cs : List Chunk) (h : Decodable cs) :
    decompress (container cs) = .ok (expand cs) :=
  decompress_container cs h

/-- C18, main theorem: decompression inverts every valid compressed container. -/
theorem decompress_correct (cs : List Chunk) (h : Valid cs) : decompress (0x01 :: serialize cs) = .ok (expand cs) :=
  decompress_container cs (valid_decodable cs h)

/-- every valid encoding of the same source decompresses to the same bytes -/
theorem decompress_encoding_independent (cs cs' : List Chunk) (h : Valid cs) (h' : Valid cs')
    (he : expand cs = expand cs') : decompress (container cs) = decompress (container cs') := by
  rw [container, container, decompress_correct cs h, decompress_correct cs' h', he]

/-- the byte count used by `Valid` is the length of the expansion -/
theorem chunk_out_len (c : Chunk) : (expandChunk c).length = chunkOutLen c := by
  cases c with
  | raw bs => rfl
  | compressed toks => simp [expandChunk, chunkOutLen, expandFrom_length]

/-- non-vacuity: a two-chunk container whose first chunk has exactly 8 tokens (7 literals and an overlapping copy
    of 4089 bytes from 7 back: the D16 shape) followed by a chunk with literals, short and overlapping copies -/
def sample : List Chunk :=
  [.compressed [.lit 97, .lit 98, .lit 99, .lit 100, .lit 101, .lit 102, .lit 103, .copy 7 4089],
   .compressed [.lit 1, .lit 2, .lit 3, .copy 3 9, .copy 1 5, .lit 4, .copy 18 18, .lit 9, .lit 9, .copy 2 3]]

example : Valid sample := by decide
example : decompress (container sample) = .ok (expand sample) := decompress_correct sample (by decide)
example : (serialize sample).length = 30 := by decide

/-- The model never runs out of loop budget, on **every** byte string (termination of the three nested loops of
    `decompress_stream`; a C06 obligation). -/
theorem decompress_never_out_of_fuel (s : Bytes) : decompress s ≠ .outOfFuel :=
  (decompress_returns s).returns.ne_fuel

/-- C06 for `decompress_stream` (after the D34 robustness fix, /repo 3510bc7): no byte string makes the model
    panic — empty input, truncated headers and tokens, wrong chunk signatures, short raw chunks and copy offsets
    reaching before the start of the output are all `Err`. -/
theorem decompress_no_panic (s : Bytes) (m : String) : decompress s ≠ .panic m :=
  (decompress_returns s).returns.ne_panic m

theorem decompress_total (s : Bytes) : (∃ b, decompress s = .ok b) ∨ (∃ e, decompress s = .err e) :=
  (decompress_returns s).returns

/-- C06 for the `dir` walk (after /repo a92e839): `read_dir_information` + `Reference::from_stream` +
    `read_modules` never panic, whatever the bytes of the decompressed `dir` stream. (Nor does the model run out of
    the fuel it gives the loops of the walk: `dirWalk_returns`.) -/
theorem dirWalk_no_panic (s : Bytes) (m : String) : dirWalk s ≠ .panic m := (dirWalk_returns s).ne_panic m

/-- and neither does `VbaProject::from_cfb` (model), whatever the streams of the compound file contain -/
theorem project_no_panic (d : Option Bytes) (lookup : Bytes → Option Bytes) (m : String) :
    project d lookup ≠ .panic m := (project_returns d lookup).ne_panic m

/-- C06, allocation bound: whatever the input, the decompressed buffer is at most 2049 times as long as the
    input: a copy token (2 input bytes) yields at most 4098 bytes (12-bit length field + 3), a literal 1 byte for
    1 byte, a raw chunk 4096 bytes for 4098. (The true maximum is about 820: one maximal copy per 5-byte chunk;
    2049 is the per-token constant, provable without tracking the position inside the chunk.) -/
theorem decompress_output_bound (s out : Bytes) (h : decompress s = .ok out) : out.length ≤ 2049 * s.length :=
  (decompress_returns s).of_ok h

/-- the `'chunk` loop as it was before the D16 fix: `if i >= s.len() { break; }` only -/
def chunkLoopPre (size start : Nat) : Nat → St → Res St
  | 0, _ => .outOfFuel
  | fuel + 1, st =>
    match st.rest with
    | [] => .ok st
    | b :: r =>
      match tokenLoop size start 8 b.toNat { rest := r, out := st.out, olen := st.olen, clen := st.clen + 1 } with
      | .ok (st', true) => .ok st'
      | .ok (st', false) => chunkLoopPre size start fuel st'
      | .err e => .err e
      | .panic p => .panic p
      | .outOfFuel => .outOfFuel

def mainLoopPre : Nat → Bytes → Bytes → Nat → Res Bytes
  | 0, _, _, _ => .outOfFuel
  | fuel + 1, rest, out, olen =>
    match rest with
    | [] => .ok out
    | [_] => .err "invalid"
    | lo :: hi :: r =>
      let header := u16le lo hi
      let size := header &&& 0x0FFF
      if (header &&& 0x7000) >>> 12 ≠ 3 then .err "invalid"
      else if (header &&& 0x8000) >>> 15 = 0 then
        if r.length < 4096 then .err "invalid"
        else mainLoopPre fuel (r.drop 4096) ((r.take 4096).reverse ++ out) (olen + 4096)
      else
        match chunkLoopPre size olen (r.length + 1) { rest := r, out := out, olen := olen, clen := 0 } with
        | .ok st => mainLoopPre fuel st.rest st.out st.olen
        | .err e => .err e
        | .panic p => .panic p
        | .outOfFuel => .outOfFuel

/-- two chunks, the first with exactly 8 (literal) tokens -/
def d16Witness : List Chunk :=
  [.compressed [.lit 97, .lit 98, .lit 99, .lit 100, .lit 101, .lit 102, .lit 103, .lit 104], .compressed [.lit 120]]

/-- D16, third case of DESIGN §4: on a decodable container whose non-final chunk ends on a
    flag-group boundary the loop as it was before the D16 fix takes the low byte of the next chunk header for a flag
    byte and then fails the chunk-signature test (a panic at the time, an `Err` since the D34 fix), while the fixed
    loop (the model, by `decompress_container`) returns the expansion. The fuel 20 is more than `decompress` hands its
    main loop here (`(serialize d16Witness).length + 1 = 16`; the loop takes two iterations), so the failure is not a
    shortage of fuel. -/
theorem d16_prefix_loop_fails :
    mainLoopPre 20 (serialize d16Witness) [] 0 = .err "invalid" ∧
    decompress (container d16Witness) = .ok (expand d16Witness) := by
  refine ⟨by decide, decompress_container d16Witness (by unfold Decodable; decide)⟩

/-- On the serialized `dir` stream of any well-formed project description the walk returns the
    project's code page, one reference per REFERENCE record (by name, in order, with the description/path the
    libids determine), and exactly the MODULE records in order with their names, stream names and text offsets. -/
theorem dir_walk (p : DirSpec) (hw : p.wf = true) :
    dirWalk (serDir p) = .ok (p.codepage, p.refs.map refResult, p.modules.map toModule) := by
  have hrefs : p.refs.all RefSpec.wf = true := by
    simp only [DirSpec.wf, Bool.and_eq_true] at hw
    -- the last four conjuncts of `DirSpec.wf`: refs, cookie, number of modules, modules
    exact hw.1.1.1.2
  unfold dirWalk serDir
  rw [readDirInformation_ser p _ hw]
  simp only [Res.bind_ok]
  obtain ⟨k, hk⟩ := Nat.exists_eq_add_of_le' (Nat.le_trans (refItersAll_le p.refs)
    (show _ ≤ (p.refs.flatMap serRef ++ (le16 0x000F ++ serModules p)).length by
      rw [List.length_append]; exact Nat.le_add_right _ _))
  rw [hk, Nat.add_right_comm, readReferences_all p.refs _ _ _ k hrefs]
  simp only [Res.bind_ok]
  rw [readModules_ser p hw]
  rfl

/-- the module list is the list of MODULE records, by name / stream name / offset -/
theorem dir_walk_modules (p : DirSpec) (hw : p.wf = true) :
    ∃ cp refs mods, dirWalk (serDir p) = .ok (cp, refs, mods) ∧
      mods.map (·.name) = p.modules.map (·.name) ∧
      mods.map (·.streamName) = p.modules.map (·.streamName) ∧
      mods.map (·.textOffset) = p.modules.map (·.offset) ∧
      refs.map (·.name) = p.refs.map (·.name) := by
  refine ⟨_, _, _, dir_walk p hw, ?_, ?_, ?_, ?_⟩
  · simp [toModule, Function.comp_def]
  · simp [toModule, Function.comp_def]
  · simp [toModule, Function.comp_def]
  · simp [refResult_name, Function.comp_def]

theorem readModuleStreams_correct (lookup : Bytes → Option Bytes) (content : ModuleSpec → List Chunk) :
    ∀ (ms : List ModuleSpec),
    (∀ m ∈ ms, ∃ junk, junk.length = m.offset ∧ lookup m.streamName = some (junk ++ container (content m)) ∧
      Valid (content m)) →
    readModuleStreams lookup (ms.map toModule) = .ok (ms.map fun m => (m.name, expand (content m)))
  | [], _ => rfl
  | m :: ms, h => by
    obtain ⟨junk, hj, hl, hv⟩ := h m (by simp)
    simp only [List.map_cons, readModuleStreams, toModule, hl]
    rw [if_neg (by simp; omega)]
    rw [List.drop_left' hj, container, decompress_correct _ hv]
    simp only [Res.bind_ok]
    have ih := readModuleStreams_correct lookup content ms (fun m' hm' => h m' (by simp [hm']))
    rw [ih]
    simp

/-- C18 at project level (model): if the compound file's `dir` stream is any valid container of the serialized
    project description, and every module's stream holds, from the recorded offset on, any valid container, then
    `VbaProject::from_cfb` yields the project's code page, its references, and for every MODULE record, in order,
    its name with exactly the bytes its container stands for. -/
theorem project_correct (p : DirSpec) (dirCs : List Chunk) (lookup : Bytes → Option Bytes)
    (content : ModuleSpec → List Chunk) (hw : p.wf = true) (hd : Valid dirCs) (he : expand dirCs = serDir p)
    (hs : ∀ m ∈ p.modules, ∃ junk, junk.length = m.offset ∧
      lookup m.streamName = some (junk ++ container (content m)) ∧ Valid (content m)) :
    project (some (container dirCs)) lookup =
      .ok (p.codepage, p.refs.map refResult, p.modules.map fun m => (m.name, expand (content m))) := by
  simp only [project]
  rw [container, decompress_correct _ hd, he]
  simp only [Res.bind_ok]
  rw [dir_walk p hw]
  simp only [Res.bind_ok]
  rw [readModuleStreams_correct lookup content p.modules hs]
  simp

/-- non-vacuity of `dir_walk`: a project with a compat record, three kinds of references and two modules -/
def sampleDir : DirSpec :=
  { sysKind := 1, compat := some 3, lcid := 0x409, lcidInvoke := 0x409, codepage := 1252,
    name := [86, 66], doc := [], docUnicode := [], help1 := [], help2 := [], helpContext := 0, libFlags := 0,
    versionMajor := 7, versionMinor := 1, constants := [], constantsUnicode := [],
    refs := [
      { name := [115], nameUnicode := [115, 0], body := .registered [42, 35, 112, 35, 100] },
      { name := [116], nameUnicode := [116, 0], body := .project [42, 92, 67, 120] [42, 92, 67, 121] 1 2 },
      { name := [117], nameUnicode := [117, 0],
        body := .control (some [35, 35]) [97, 35, 98, 35, 99] (some ([117], [117, 0])) [] (List.replicate 16 0) 9 }],
    cookie := 0xFFFF,
    modules := [
      { name := [77, 49], nameUnicode := [77, 0, 49, 0], streamName := [77, 49], streamNameUnicode := [77, 0, 49, 0],
        doc := [], docUnicode := [], offset := 733, helpContext := 0, cookie := 0xFFFF,
        document := false, readOnly := false, priv := true },
      { name := [83], nameUnicode := [83, 0], streamName := [83, 50], streamNameUnicode := [83, 0, 50, 0],
        doc := [100], docUnicode := [100, 0], offset := 0, helpContext := 0, cookie := 0xFFFF,
        document := true, readOnly := true, priv := false }] }

example : sampleDir.wf = true := by decide +kernel
example : (serDir sampleDir).length = 508 := by decide +kernel

/-- C18 end to end (model): take any well-formed project description `p`, any valid container `dirCs` of its
    serialized `dir` stream, for every module any valid container `content m` of its source preceded by
    `m.offset` arbitrary bytes, and lay these streams out as a compound file by **any** valid layout `L`
    (sector size, fragmentation, FAT/DIFAT placement, mini stream, directory order …). Then `VbaProject::new` on
    that file returns the project's code page, its references and, for every MODULE record in order, the module
    name with exactly the source bytes — byte-exact from the compressed project, whatever the container layout and
    whatever `len` is passed. `decodeName` is the (trusted) text decoder applied to stream names; the statement
    holds for every decoder, the layout's validity (`Cfb.Valid`: distinct, non-empty stream names of at most 31
    UTF-16 units) being stated on the decoded names. The byte-level restrictions of `Ovba.project` (libid parsing
    on ASCII-transparent code pages) are those of the model, see `Model/Ovba.lean`. -/
theorem vba_from_container (p : DirSpec) (dirCs : List Chunk) (content : ModuleSpec → List Chunk)
    (junk : ModuleSpec → Bytes) (decodeName : Bytes → List Char) (L : Cfb.Layout) (len : Nat)
    (hw : p.wf = true) (hd : Valid dirCs) (he : expand dirCs = serDir p)
    (hc : ∀ m ∈ p.modules, Valid (content m) ∧ (junk m).length = m.offset)
    (hL : Cfb.Valid (projectStreams p dirCs content junk decodeName) L) :
    vbaProjectNew decodeName (Cfb.layoutCfb (projectStreams p dirCs content junk decodeName) L) len =
      .ok { codepage := p.codepage, references := p.refs.map refResult,
            modules := p.modules.map fun m => (m.name, expand (content m)) } := by
  have hv := Cfb.valid_unpack _ _ hL
  obtain ⟨c, rd, hnew, hg⟩ := Cfb.new_layout_good _ _ hv
  have hlook := fun st hst => Cfb.lookupOf_stream _ L hv c rd hg st hst
  unfold vbaProjectNew
  rw [Cfb.new_len_independent _ len (Cfb.layoutCfb (projectStreams p dirCs content junk decodeName) L).length, hnew]
  simp only [Res.bind_ok]
  have hdir : Cfb.lookupOf c rd "dir".toList = some (container dirCs) :=
    hlook { name := "dir".toList, data := container dirCs } (by simp [projectStreams])
  rw [hdir]
  rw [project_correct p dirCs (fun n => Cfb.lookupOf c rd (decodeName n)) content hw hd he]
  · simp
  · intro m hm
    refine ⟨junk m, (hc m hm).2, ?_, (hc m hm).1⟩
    exact hlook { name := decodeName m.streamName, data := junk m ++ container (content m) }
      (by simp only [projectStreams, List.mem_cons, List.mem_map]; exact .inr ⟨m, hm, rfl⟩)

def tinyDir : DirSpec :=
  { sysKind := 1, compat := none, lcid := 0x409, lcidInvoke := 0x409, codepage := 1252,
    name := [86], doc := [], docUnicode := [], help1 := [], help2 := [], helpContext := 0, libFlags := 0,
    versionMajor := 1, versionMinor := 0, constants := [], constantsUnicode := [],
    refs := [], cookie := 0xFFFF,
    modules := [
      { name := [77, 49], nameUnicode := [77, 0, 49, 0], streamName := [77, 49], streamNameUnicode := [77, 0, 49, 0],
        doc := [], docUnicode := [], offset := 3, helpContext := 0, cookie := 0xFFFF,
        document := false, readOnly := false, priv := false }] }

def tinyDirCs : List Chunk := [.compressed ((serDir tinyDir).map Token.lit)]
def tinyContent (_ : ModuleSpec) : List Chunk := [.compressed [.lit 83, .lit 117, .lit 98, .copy 3 9]]
def tinyJunk (_ : ModuleSpec) : Bytes := [1, 2, 3]
def asciiName (b : Bytes) : List Char := b.map fun x => Char.ofNat x.toNat
def tinyStreams := projectStreams tinyDir tinyDirCs tinyContent tinyJunk asciiName

/-- a fragmented version-3 layout: FAT in sector 1, mini stream / directory / mini FAT out of order, one free
    sector; the `dir` stream in mini sectors 5,0,2,1, the module stream in mini sector 3, mini sector 4 free;
    directory order module / unused / dir -/
def tinyLayout : Cfb.Layout :=
  { v4 := false
    main := { owner := #[.data 2 0, .fat 0, .free, .data 0 0, .data 1 0]
              chains := #[#[3], #[4], #[0], #[], #[]] }
    fatIds := #[1]
    difIds := #[]
    mini := { owner := #[.data 0 1, .data 0 3, .data 0 2, .data 1 0, .free, .data 0 0], chains := #[#[5, 0, 2, 1], #[3]] }
    dirOrder := [some 1, none, some 0]
    fill := 0x5A }

theorem tinyValid : Cfb.Valid tinyStreams tinyLayout := by decide +kernel

/-- the hypotheses of `vba_from_container` are satisfiable: a project with one module in a fragmented container -/
example : vbaProjectNew asciiName (Cfb.layoutCfb tinyStreams tinyLayout) 0 =
    .ok { codepage := 1252, references := [], modules := [([77, 49], [83, 117, 98, 83, 117, 98, 83, 117, 98, 83, 117, 98])] } := by
  have h := vba_from_container tinyDir tinyDirCs tinyContent tinyJunk asciiName tinyLayout 0
    (by decide +kernel) (by decide +kernel)
    (by rw [tinyDirCs, expand, List.flatMap_singleton, expandChunk, expandFrom_lits, List.nil_append])
    (by intro m hm; simp only [tinyDir, List.mem_singleton] at hm; subst hm
        exact ⟨by unfold tinyContent; decide, rfl⟩) tinyValid
  rw [show tinyStreams = projectStreams tinyDir tinyDirCs tinyContent tinyJunk asciiName from rfl, h]
  decide +kernel

/-- For the project value that `vba_from_container` returns (the record `vp` below is that value), `get_module_raw`
    of a module whose name occurs once gives exactly its source bytes, and `get_module` gives those bytes decoded by the
    encoding object selected from the PROJECTCODEPAGE record — `decodeWith (encodingOf p.codepage)`, nothing else
    (no other code page, no byte-order-mark switch: the decoder call is `decode_without_bom_handling`). -/
theorem get_module_text (decodeWith : String → Bytes → String) (p : DirSpec) (content : ModuleSpec → List Chunk)
    (m : ModuleSpec) (hm : m ∈ p.modules) (hu : ∀ m' ∈ p.modules, m'.name = m.name → m' = m) (hw : p.wf = true) :
    let vp : VbaProjectSt := { codepage := p.codepage, references := p.refs.map refResult,
                                modules := p.modules.map fun m => (m.name, expand (content m)) }
    getModuleRaw vp m.name = .ok (expand (content m)) ∧
    ∃ enc, encodingOf p.codepage = some enc ∧ getModule decodeWith vp m.name = .ok (decodeWith enc (expand (content m))) := by
  intro vp
  have hraw : getModuleRaw vp m.name = .ok (expand (content m)) := by
    unfold getModuleRaw
    rw [lookup_reverse_of_unique (vp.modules) m.name (expand (content m))]
    · simp only [vp, List.mem_map]; exact ⟨m, hm, rfl⟩
    · intro v' hv'
      simp only [vp, List.mem_map, Prod.mk.injEq] at hv'
      obtain ⟨m', hm', hn, rfl⟩ := hv'
      rw [hu m' hm' hn]
  refine ⟨hraw, ?_⟩
  have hk : knownCodepages.contains p.codepage = true := DirSpec.wf_codepage hw
  have henc : ∃ enc, encodingOf p.codepage = some enc := Option.isSome_iff_exists.1 (encodingOf_isSome _ ▸ hk)
  obtain ⟨enc, henc⟩ := henc
  refine ⟨enc, henc, ?_⟩
  unfold getModule
  rw [hraw]
  simp only [Res.bind_ok, vp, henc]

/-- the encoding table: what `XlsEncoding::from_codepage` selects (transcribed table, swept against the code) -/
theorem encoding_selection :
    encodingOf 1200 = some "UTF-16LE" ∧ encodingOf 65001 = some "UTF-8" ∧ encodingOf 1252 = some "windows-1252" ∧
    encodingOf 1251 = some "windows-1251" ∧ encodingOf 932 = some "Shift_JIS" ∧ encodingOf 0 = none ∧
    encodingOf 437 = none ∧
    (∀ cp, knownCodepages.contains cp = (encodingOf cp).isSome) := by
  exact ⟨rfl, rfl, rfl, rfl, rfl, rfl, rfl, encodingOf_isSome⟩

end Ovba.C18
