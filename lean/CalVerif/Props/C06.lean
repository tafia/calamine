import CalVerif.Props.C01
import CalVerif.Props.C02
import CalVerif.Props.C03
import CalVerif.Props.C05
import CalVerif.Props.C08
import CalVerif.Props.C10
import CalVerif.Props.C12
import CalVerif.Props.C13
import CalVerif.Props.C14
import CalVerif.Props.C15
import CalVerif.Props.C17
import CalVerif.Props.C18
import CalVerif.Props.C19
/-! # C06 — malformed or hostile input yields an error, never a panic, a hang or a memory blow-up

    What is PROVED for C06 is collected here: for the modelled pure cores, on ARBITRARY input (not only
    on encodings of valid objects), the model returns `ok` or `err` — never `panic`, never `outOfFuel`
    (termination within a budget that is a function of the input length). Each statement below is a
    theorem about the model of the named Rust function; the models are tied to the code by the
    correspondence runs of the property that owns them (outcome CLASS included: a removed length check
    makes the implementation panic where the model returns `err`).

    Where the full statement is false of the code as it is, the theorem is the `_partial` form under the
    exact missing guard, and the remaining panic site is a KNOWN-FINDING of this property
    (findings/C06.json), matched by call site.

    What is NOT proved (and is searched, not proved, by the file-level part of `./check C06`): the zip,
    quick-xml and encoding_rs layers, real time and real memory. -/
namespace C06

/-- `get_row_and_optional_column` on any byte string: a position or an error -/
theorem a1_total (s : XlsxCells.Bytes) :
    (∃ v, XlsxCells.getRowCol s = .ok v) ∨ (∃ e, XlsxCells.getRowCol s = .err e) := XlsxCells.a1_no_panic s

/-- `get_dimension` on any byte string (reversed rectangles included) -/
theorem dimension_total (s : XlsxCells.Bytes) :
    (∃ v, XlsxCells.getDimension s = .ok v) ∨ (∃ e, XlsxCells.getDimension s = .err e) :=
  XlsxCells.dimension_no_panic s

/-- `XlsxCellReader::new` + `next_cell` on any XML event list -/
theorem xlsx_cell_reader_total (cfg : XlsxCells.Cfg) (evs : List XlsxCells.Ev) :
    (∃ v, XlsxCells.readCells cfg evs = .ok v) ∨ (∃ e, XlsxCells.readCells cfg evs = .err e) :=
  XlsxCells.reader_no_panic cfg evs

/-- `read_string`, `read_shared_strings` and the `<c>` children loop on any XML event list -/
theorem xlsx_text_readers_total (closing : XmlText.Name) (t : Option String) (strings : List XmlText.Txt)
    (evs : List XmlText.Ev) :
    ((∃ r, XmlText.readString closing evs = .ok r) ∨ (∃ e, XmlText.readString closing evs = .err e)) ∧
    ((∃ r, XmlText.readSharedStrings evs = .ok r) ∨ (∃ e, XmlText.readSharedStrings evs = .err e)) ∧
    ((∃ r, XmlText.cellText t strings evs = .ok r) ∨ (∃ e, XmlText.cellText t strings evs = .err e)) :=
  XmlText.xlsx_readers_total closing t strings evs

/-- `replace_cell_names` on any text and any offset: always `Ok` (no error, no panic, fuel suffices) -/
theorem shared_formula_translation_total (s : List Char) (d : Int × Int) :
    ∃ r, SharedFormula.replaceCellNames s d = .ok r := C15.replace_never_fails s d

/-- the `text:p` / `text:s` / annotation loop of `get_datatype` never panics -/
theorem ods_text_no_panic (evs : List XmlText.Ev) (x : String) : XmlText.odsCellText evs ≠ .panic x :=
  XmlText.ods_reader_no_panic evs x

/-- the whole ods text loop is TOTAL: `Ok` or `Err` on every event list (an unterminated annotation is
    `Err(Eof)` since /repo d6b5c9c, where it used to spin) -/
theorem ods_text_total (evs : List XmlText.Ev) :
    (∃ r, XmlText.odsCellText evs = .ok r) ∨ (∃ e, XmlText.odsCellText evs = .err e) :=
  XmlText.ods_reader_total evs

/-- XML entity / character-reference unescaping on any text: `Ok` or `Err` -/
theorem xml_unescape_total (s : List Char) :
    (∃ r, XmlEscape.unescape s = .ok r) ∨ (∃ e, XmlEscape.unescape s = .err e) := XmlEscape.unescape_total s

/-- `detect_custom_number_format` is total: it classifies every text (after the bracket counter became a
    `usize`, ledger D30-b) -/
theorem number_format_scanner_total (s : List Char) : ∃ c, Formats.detect s = .ok c := Formats.scanner_total s

theorem number_format_scanner_no_panic (s : List Char) (msg : String) : Formats.detect s ≠ .panic msg :=
  Formats.scanner_no_panic s msg

/-- `Range::from_sparse` on cells in ANY order (after the D40 repair): it returns for every list of `u32`
    coordinates whose row and column spans (+1) fit `u32` — no order hypothesis. (What it allocates is the dense
    bounding box: the known finding D37.) -/
theorem from_sparse_no_panic {α : Type} [Inhabited α] (cells : List (Nat × Nat × α))
    (hb : ∀ c ∈ cells, c.1 < 4294967296 ∧ c.2.1 < 4294967296)
    (hspan : ∀ c ∈ cells, ∀ c' ∈ cells, c'.1 - c.1 + 1 < 4294967296 ∧ c'.2.1 - c.2.1 + 1 < 4294967296) :
    ∃ r, Range.fromSparse cells = .ok r := Range.fromSparse_no_panic cells hb hspan

theorem from_sparse_returns {α : Type} [Inhabited α] (cells : List (Nat × Nat × α)) (h : Range.sparsePre cells) :
    ∃ r, Range.fromSparse cells = .ok r := Range.fromSparse_of_pre cells h

/-- header-row windowing of the lazy readers: returns for every option (any `n`) on every in-sheet, row-ordered
    cell list. NOT a hostile-input statement: it holds under those two hypotheses. -/
theorem header_row_lazy_returns {α : Type} [Inhabited α] [DecidableEq α] (cells : List (Nat × Nat × α))
    (hs : HeaderRow.RowSorted cells) (hb : HeaderRow.InSheet cells) (h : HeaderRow.Hdr) :
    ∃ r, HeaderRow.windowLazy cells h = .ok r := HeaderRow.lazy_no_panic cells hs hb h

/-- `get_chain` on ANY allocation table (cycles included): terminates, does not panic -/
theorem cfb_chain_total (s : Cfb.Sectors) (start : Nat) (fats : List Nat) (rd : Cfb.Bytes) (len : Nat) :
    s.getChain start fats rd len ≠ .outOfFuel ∧ ∀ m, s.getChain start fats rd len ≠ .panic m :=
  Cfb.getChain_total s start fats rd len

/-- `Cfb::new` on arbitrary bytes terminates -/
theorem cfb_new_terminates (file : Cfb.Bytes) (len : Nat) : Cfb.new file len ≠ .outOfFuel :=
  Cfb.new_terminates file len

/-- `Cfb::new` on arbitrary bytes never panics (after the `to_u32` repair of the C13 follow-up) -/
theorem cfb_new_no_panic (file : Cfb.Bytes) (len : Nat) (m : String) : Cfb.new file len ≠ .panic m :=
  Cfb.new_no_panic file len m

/-- memory: what `Cfb::new` keeps is bounded by what it has READ of the file (not by the `len` hint, on which
    nothing depends): the allocation table (4 bytes per entry) and the mini stream are no larger than the sector
    cache, and cache plus unread bytes are at most the file -/
theorem cfb_new_alloc_bound (file : Cfb.Bytes) (len : Nat) (c : Cfb.CfbSt) (rd : Cfb.Bytes)
    (h : Cfb.new file len = .ok (c, rd)) :
    c.fats.length * 4 ≤ c.sectors.data.length ∧ c.mini.data.length ≤ c.sectors.data.length ∧
    c.miniFats.length * 4 ≤ c.sectors.data.length ∧ c.sectors.data.length + rd.length ≤ file.length :=
  Cfb.new_alloc_bound file len c rd h

/-- the `len` argument of `Cfb::new` is a capacity hint only -/
theorem cfb_new_len_independent (file : Cfb.Bytes) (len₁ len₂ : Nat) : Cfb.new file len₁ = Cfb.new file len₂ :=
  Cfb.new_len_independent file len₁ len₂

/-- every chain read yields at most the bytes read so far; cache + unread bytes are conserved -/
theorem cfb_chain_alloc_bound (s : Cfb.Sectors) (start : Nat) (fats : List Nat) (rd : Cfb.Bytes) (len : Nat)
    (x : Cfb.Bytes) (s' : Cfb.Sectors) (rd' : Cfb.Bytes) (h : s.getChain start fats rd len = .ok (x, s', rd')) :
    x.length ≤ s'.data.length ∧ s'.data.length + rd'.length = s.data.length + rd.length :=
  Cfb.getChain_alloc_bound s start fats rd len x s' rd' h

/-- a stream is never longer than the bytes the reader state holds (conserved; at most twice the file length
    after `Cfb::new`) -/
theorem cfb_get_stream_alloc_bound (c : Cfb.CfbSt) (name : List Char) (rd : Cfb.Bytes)
    (x : Cfb.Bytes) (c' : Cfb.CfbSt) (rd' : Cfb.Bytes) (h : Cfb.getStream c name rd = .ok (x, c', rd')) :
    x.length ≤ c.bytes rd ∧ c'.bytes rd' = c.bytes rd :=
  Cfb.getStream_alloc_bound c name rd x c' rd' h

theorem cfb_bytes_after_new (file : Cfb.Bytes) (len : Nat) (c : Cfb.CfbSt) (rd : Cfb.Bytes)
    (h : Cfb.new file len = .ok (c, rd)) : c.bytes rd ≤ 2 * file.length :=
  Cfb.bytes_after_new file len c rd h

/-- `get_stream` on arbitrary reader state: no panic, terminates -/
theorem cfb_get_stream_total (c : Cfb.CfbSt) (name : List Char) (rd : Cfb.Bytes) :
    (∀ m, Cfb.getStream c name rd ≠ .panic m) ∧ Cfb.getStream c name rd ≠ .outOfFuel :=
  Cfb.getStream_no_panic c name rd

/-- time: the number of sector reads `Cfb::new` plus one `get_stream` perform is linear in the file length, on
    arbitrary bytes (a GLOBAL step count threaded through the nested loops, not a per-loop budget) -/
theorem cfb_read_cost_linear (file : Cfb.Bytes) (len : Nat) (c : Cfb.CfbSt) (rd : Cfb.Bytes)
    (h : Cfb.new file len = .ok (c, rd)) (name : List Char) :
    Cfb.newCost file + Cfb.getStreamCost c name rd ≤ 3 * file.length + 110 :=
  Cfb.read_cost_linear file len c rd h name

/-- `parse_mul_rk` on any payload: never a panic (after the arithmetic fix) -/
theorem xls_mulrk_no_panic (env : BiffCells.Env) (r : Biff.Bytes) (s : String) :
    BiffCells.parseMulRk env r ≠ .panic s := BiffCells.mulrk_no_panic env r s

/-- record loop + `parse_sst` on any byte stream: terminates within `length + 1` steps -/
theorem xls_sst_reader_terminates (s : Biff.Bytes) : Biff.sstFromStream (s.length + 1) s ≠ .outOfFuel :=
  Biff.sst_reader_never_out_of_fuel s

/-- both formula token decoders and the xls defined-name decoder are total on arbitrary token bytes (after the
    C14 follow-up): never a panic, and the loop budget `rgce.length` is never exhausted -/
theorem xls_formula_decoder_no_panic (ctx : Ptg.Ctx) (rgce : Ptg.Bytes) (m : String) :
    Ptg.parseFormulaXls ctx rgce ≠ .panic m := C14.parseFormulaXls_no_panic ctx rgce m

theorem xls_formula_decoder_terminates (ctx : Ptg.Ctx) (rgce : Ptg.Bytes) :
    Ptg.parseFormulaXls ctx rgce ≠ .outOfFuel := C14.parseFormulaXls_fuel ctx rgce

theorem xlsb_formula_decoder_no_panic (ctx : Ptg.Ctx) (rgce : Ptg.Bytes) (m : String) :
    Ptg.parseFormulaXlsb ctx rgce ≠ .panic m := C14.parseFormulaXlsb_no_panic ctx rgce m

theorem xlsb_formula_decoder_terminates (ctx : Ptg.Ctx) (rgce : Ptg.Bytes) :
    Ptg.parseFormulaXlsb ctx rgce ≠ .outOfFuel := C14.parseFormulaXlsb_fuel ctx rgce

/-- the only recursive arm of the xlsb decoder (PtgMemFunc / PtgMemArea sub-expressions) never goes deeper
    than `MAX_FORMULA_NESTING` = 64 calls, whatever the bytes (after /repo f4b2b00; before it a 10000-level
    formula overflowed the stack) -/
theorem xlsb_formula_decoder_depth_bounded (ctx : Ptg.Ctx) (rgce : Ptg.Bytes) :
    Ptg.depthUsed ctx 0 rgce.length rgce ⟨[], []⟩ ≤ Ptg.maxMemDepth ∧ Ptg.maxMemDepth = 64 :=
  C14.parseFormulaXlsb_depth_bounded ctx rgce

theorem xls_defined_name_decoder_no_panic (rgce : Ptg.Bytes) (m : String) :
    Ptg.definedNameXls rgce ≠ .panic m := C14.definedNameXls_no_panic rgce m

/-- **linear work** of the xls sheet loop on ARBITRARY bytes and BoundSheet8 offsets (after /repo edc415f, which the
    record flood of this check's search found): the body of the per-sheet record loop runs, over ALL sheets together,
    at most `8·len + 65536 + (number of sheets)` times, however the offsets overlap (before the repair:
    `sheets × records`, quadratic). It counts loop bodies, not the cost of one body. -/
theorem xls_sheet_loop_work_linear (env : BiffCells.Env) (stream : Biff.Bytes) (offsets : List Nat) :
    BiffCells.sheetsWork env stream offsets 0 ≤ 8 * stream.length + 65536 + offsets.length :=
  (BiffCells.xls_sheet_loop_work_linear env stream offsets).2

/-- record framing + `parse_sst` on ANY byte stream: `Ok` or `Err` within the budget -/
theorem xls_sst_reader_total (s : Biff.Bytes) :
    (∃ v, Biff.sstFromStream (s.length + 1) s = .ok v) ∨ (∃ e, Biff.sstFromStream (s.length + 1) s = .err e) :=
  Biff.sstFromStream_total s

/-- `parse_merge_cells` on any payload: regions or a `Len` error -/
theorem xls_merge_cells_total (r : Geometry.Bytes) :
    (∃ ds, Geometry.parseMergeCells r = .ok ds) ∨ Geometry.parseMergeCells r = .err "Len:merge cells" :=
  Geometry.parse_merge_cells_no_panic r

/-- xlsx tables: any `ref` text, any header / totals counts, any `insertRow`, any sheet range —
    `read_table_metadata`'s geometry is an `Err` or a rectangle, and `table_by_name` on it returns `Ok`
    whenever the rectangle's cell count fits `u32` (beyond that: the dense allocation of D37) -/
theorem xlsx_table_no_panic {α : Type} [Inhabited α] (m : Geometry.Mode) (hm : m.satArith = true)
    (hd : m.satDim = true) (ref : Geometry.Bytes) (h t : Nat) (ins : Bool) (rng : Range.Rng α) :
    (∃ e, Geometry.tableDims m ref h t ins = .err e) ∨
    (∃ d, Geometry.tableDims m ref h t ins = .ok d ∧
      ((d.er - d.sr + 1) * (d.ec - d.sc + 1) < Range.U32 → ∃ tbl, Geometry.tableData rng d = .ok tbl)) :=
  Geometry.table_by_name_no_panic m hm hd ref h t ins rng

/-- xlsb record framing, the sheet-part cell loop and the shared-string reader on ANY bytes: no panic, budgets
    suffice (after the C03 follow-up) -/
theorem xlsb_records_no_panic (bs : Xlsb.Bytes) (m : String) : Xlsb.records bs ≠ .panic m :=
  Xlsb.records_no_panic bs m

theorem xlsb_records_terminate (bs : Xlsb.Bytes) : Xlsb.records bs ≠ .outOfFuel := Xlsb.records_total bs

theorem xlsb_sheet_cells_no_panic (ctx : Xlsb.Ctx) (bs : Xlsb.Bytes) (m : String) :
    Xlsb.sheetCells ctx bs ≠ .panic m := Xlsb.sheetCells_no_panic ctx bs m

theorem xlsb_sheet_cells_terminate (ctx : Xlsb.Ctx) (bs : Xlsb.Bytes) : Xlsb.sheetCells ctx bs ≠ .outOfFuel :=
  Xlsb.sheetCells_total ctx bs

theorem xlsb_shared_strings_no_panic (bs : Xlsb.Bytes) (m : String) : Xlsb.readSharedStrings bs ≠ .panic m :=
  Xlsb.readSharedStrings_no_panic bs m

/-- xlsx: the relationships part, the sheet table of `Xlsx::new` and opening a sheet by name are TOTAL on arbitrary
    event lists / archives -/
theorem xlsx_container_total {α : Type} (a : XlsxContainer.Archive α) (evs : List Meta.Ev) (name : String) :
    ((∃ r, XlsxContainer.readRelationships evs = .ok r) ∨ (∃ e, XlsxContainer.readRelationships evs = .err e)) ∧
    ((∃ t, XlsxContainer.sheetTable a = .ok t) ∨ (∃ e, XlsxContainer.sheetTable a = .err e)) ∧
    ((∃ c, XlsxContainer.openSheet a name = .ok c) ∨ (∃ e, XlsxContainer.openSheet a name = .err e)) :=
  ⟨XlsxContainer.relationships_total evs, XlsxContainer.sheet_table_total a, XlsxContainer.open_sheet_total a name⟩

/-- xlsb: the relationships part and resolving a sheet name to its part are TOTAL -/
theorem xlsb_container_total (cfg : Rels.Cfg) (evs : List Rels.Ev) (bk : XlsbBook.Book) (parts : XlsbBook.Parts)
    (name : Meta.Text) :
    ((∃ v, Rels.readRels cfg evs = .ok v) ∨ (∃ e, Rels.readRels cfg evs = .err e)) ∧
    ((∃ b, XlsbBook.sheetPart bk parts name = .ok b) ∨ (∃ e, XlsbBook.sheetPart bk parts name = .err e)) :=
  ⟨XlsbBook.rels_total cfg evs, XlsbBook.sheet_part_total bk parts name⟩

/-- the style-table decoders of the three containers never panic: xls `parse_xf` / `parse_format` and the FORMAT / XF
    arms of the globals loop on any record list and any byte stream, xlsb `read_styles` on any bytes, xlsx
    `read_styles` on any event list (which always ends with a table or an error) -/
theorem style_decoders_no_panic (data stream part : Formats.Bytes) (recs : List (Nat × Formats.Bytes))
    (evs : List Formats.SEv) (m : String) :
    Formats.xlsParseXf data ≠ .panic m ∧ Formats.xlsParseFormat data ≠ .panic m ∧
    Formats.xlsStylesOfRecords recs ≠ .panic m ∧ Formats.xlsStylesOfStream stream ≠ .panic m ∧
    Formats.xlsbStylesOfBytes part ≠ .panic m ∧ Formats.xlsxStylesOfEvents evs ≠ .panic m ∧
    ((∃ t, Formats.xlsxStylesOfEvents evs = .ok t) ∨ (∃ e, Formats.xlsxStylesOfEvents evs = .err e)) :=
  ⟨Formats.xls_parse_xf_no_panic data m, Formats.xls_parse_format_no_panic data m,
   Formats.xls_styles_records_no_panic recs m, Formats.xls_styles_stream_no_panic stream m,
   Formats.xlsb_styles_bytes_no_panic part m, Formats.xlsx_styles_events_no_panic evs m,
   Formats.xlsx_styles_events_total evs⟩

/-- xlsb formula cells (`XlsbCellsReader::next_formula`, `formula_rgce`, `Xlsb::worksheet_formula`) on ANY bytes of a
    sheet part: no panic of the reader, the loop stays within one step per byte; the only panic `worksheet_formula`
    can end in is `Range::from_sparse`'s own on hostile coordinates (the known finding D37) -/
theorem xlsb_formula_cells_total (ctx : Ptg.Ctx) (bs : Xlsb.Bytes) (m : String) :
    XlsbFormula.sheetFormulas ctx bs ≠ .panic m ∧ XlsbFormula.sheetFormulas ctx bs ≠ .outOfFuel ∧
    XlsbFormula.worksheetFormula ctx bs ≠ .outOfFuel :=
  ⟨C14.sheetFormulas_no_panic ctx bs m, C14.sheetFormulas_total ctx bs, (C14.worksheetFormulaXlsb_total ctx bs).1⟩

/-- `decompress_stream` is total: bytes or an error on every byte string (after the C18 follow-up repaired the
    unchecked reads, the copy-offset underflow and the signature assertion) -/
theorem vba_decompress_total (s : Ovba.Bytes) :
    (∃ b, Ovba.decompress s = .ok b) ∨ (∃ e, Ovba.decompress s = .err e) := Ovba.C18.decompress_total s

/-- **allocation bound**: whatever the input, `decompress_stream` returns at most 2049 bytes per input byte -/
theorem vba_decompress_alloc_bound (s out : Ovba.Bytes) (h : Ovba.decompress s = .ok out) :
    out.length ≤ 2049 * s.length := Ovba.C18.decompress_output_bound s out h

theorem vba_decompress_terminates (s : Ovba.Bytes) : Ovba.decompress s ≠ .outOfFuel :=
  Ovba.C18.decompress_never_out_of_fuel s

/-- the `dir` stream walk and `VbaProject::from_cfb` never panic, whatever the streams contain -/
theorem vba_dir_walk_no_panic (s : Ovba.Bytes) (m : String) : Ovba.dirWalk s ≠ .panic m :=
  Ovba.C18.dirWalk_no_panic s m

theorem vba_project_no_panic (d : Option Ovba.Bytes) (lookup : Ovba.Bytes → Option Ovba.Bytes) (m : String) :
    Ovba.project d lookup ≠ .panic m := Ovba.C18.project_no_panic d lookup m

end C06
