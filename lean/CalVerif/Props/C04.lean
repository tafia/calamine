import CalVerif.Lemmas.OdsRange
import CalVerif.Lemmas.OdsCell
import CalVerif.Lemmas.OdsSheet
import CalVerif.Lemmas.OdsCount
/-! # C04 — ODS: cells read back at their position; repeat counts expand faithfully

    The property theorems, those definitions of their statements that stand in no Spec file (`WF`, `WFK`, `WellFormed`,
    `d19rows` here; `RangeOf`, `total` in `Lemmas/OdsRange.lean`; `IsDigit`, `valOf` in `Lemmas/OdsCount.lean`) and the
    lemmas that carry the range statement from explicit rows to cell events to events with kinds.

    * model: `collect` (= `read_table` + `read_row`: the flat `cells`, the offsets `cols`, `rows_repeats`,
      with the pending-blank-run logic) and `getRange` (= `get_range`, both passes) of `Model/OdsRange.lean`;
    * spec: `expand runs r c` — the value the run-length encoded table stores at `(r, c)` — and `IsBBox`,
      the tight bounding rectangle of the non-default positions (`Spec/OdsRange.lean`).

    Hypotheses of the range theorems (`WF`): row repeat counts are ≥ 1 (ODF: `positiveInteger`; with a
    `number-rows-repeated="0"` the code returns one row too many) and every stored position fits `u32`
    (the final `as u32` casts truncate otherwise). Column repeat counts are arbitrary (0 included). -/
namespace OdsRange
open Range (Rng Inv)
set_option linter.unusedSectionVars false
variable {α : Type} [Inhabited α] [DecidableEq α]

/-- well-formed run list: positive row repeats, every non-default position is a `u32` position -/
def WF (runs : List (RowRun α)) : Prop :=
  (∀ r ∈ runs, 1 ≤ r.1) ∧ ∀ p q, expand runs p q ≠ default → p < U32 ∧ q < U32

theorem getRange_flatten (rows : List (Nat × List α)) :
    getRange (flatten rows) = .ok (getRangeRows true (rows.map (·.2)) (rows.map (·.1))) := by
  unfold getRange getRangeG
  rw [slices_flatten]
  rfl

/-- **bounds pass + expansion pass, explicit rows**: for rows given cell by cell (any mixture of leading,
    interior, trailing default cells; first used column anywhere) with positive repeat counts the result is a
    consistent rectangle, it is the tight bounding box of the non-default cells of the expansion, and it
    holds the expansion's value at every absolute position -/
theorem getRange_rows_spec (rows : List (Nat × List α)) (hrep : ∀ x ∈ rows, 1 ≤ x.1)
    (hfit : ∀ r c, gridF rows r c ≠ default → r < U32 ∧ c < U32) :
    ∃ R, getRange (flatten rows) = .ok R ∧ Inv R ∧ (∀ p q, R.valAt p q = gridF rows p q) ∧
      (R.inner.length = 0 ↔ ∀ p q, gridF rows p q = default) ∧
      (R.inner.length ≠ 0 → IsBBox (gridF rows) R.sr R.sc R.er R.ec) ∧
      (R.inner.length = 0 → R = Range.empty) :=
  ⟨_, getRange_flatten rows, getRangeRows_result rows hrep hfit⟩

/-- generic form (any payload `ε`; `pend` = "value and formula are empty", `val` = the component pushed to
    the vector): `read_row`'s pending-run logic never displaces a value and never materialises a trailing
    blank run, whatever the repeat counts -/
theorem ods_range_spec_gen {ε : Type} (pend : ε → Bool) (val : ε → α)
    (hp : ∀ e, pend e = true → val e = default) (runs : List (Nat × List (ε × Nat))) (hwf : WF (runsOf val runs)) :
    ∃ R, getRange (flatten (collectG pend val runs)) = .ok R ∧ RangeOf (expand (runsOf val runs)) R := by
  have hg : gridF (collectG pend val runs) = expand (runsOf val runs) := by
    funext r c; exact gridF_collectG pend val hp runs r c
  have hrep : ∀ x ∈ collectG pend val runs, 1 ≤ x.1 := by
    intro x hx
    obtain ⟨r, hr, rfl⟩ := List.mem_map.1 hx
    exact hwf.1 (r.1, r.2.map fun x => (val x.1, x.2)) (List.mem_map.2 ⟨r, hr, rfl⟩)
  have := getRange_rows_spec (collectG pend val runs) hrep (by rw [hg]; exact hwf.2)
  rw [hg] at this
  exact this

theorem runsOf_id (runs : List (RowRun α)) : runsOf id runs = runs := by
  simp [runsOf]

/-- the main statement together with C05's rectangle invariant -/
theorem ods_range_spec_inv (runs : List (RowRun α)) (hwf : WF runs) :
    ∃ R, getRange (collect runs) = .ok R ∧ RangeOf (expand runs) R := by
  have h := ods_range_spec_gen (fun v : α => decide (v = default)) id (fun _ he => of_decide_eq_true he) runs
    (by rw [runsOf_id]; exact hwf)
  rw [runsOf_id] at h
  exact h

/-- **C04, main statement**: for every well-formed run list — leading, interior and trailing empty runs of
    any length, repeated non-empty rows and cells, first used row/column anywhere — `get_range` applied to what
    `read_table` collected is the bounding rectangle of the non-empty cells of the semantic expansion and
    holds at every absolute position the value the content stores there; the empty table gives the empty range -/
theorem ods_range_spec (runs : List (RowRun α)) (hwf : WF runs) :
    ∃ R, getRange (collect runs) = .ok R ∧
      (∀ p q, R.valAt p q = expand runs p q) ∧
      (R.inner.length = 0 ↔ ∀ p q, expand runs p q = default) ∧
      (R.inner.length ≠ 0 → IsBBox (expand runs) R.sr R.sc R.er R.ec) ∧
      (R.inner.length = 0 → R = Range.empty) := by
  obtain ⟨R, h0, _, h⟩ := ods_range_spec_inv runs hwf
  exact ⟨R, h0, h⟩

/-- the result satisfies C05's rectangle invariant (the statement D19 violated, see below) -/
theorem ods_inv (runs : List (RowRun α)) (hwf : WF runs) :
    ∃ R, getRange (collect runs) = .ok R ∧ Inv R := by
  obtain ⟨R, h0, h1, _⟩ := ods_range_spec_inv runs hwf
  exact ⟨R, h0, h1⟩

/-- **encoding independence**: two run lists with the same expansion — a run of identical cells or rows
    written as one repeated element or as explicit copies, blank runs grouped in any way, trailing blank
    runs of any length present or not — give the same `Range` -/
theorem ods_encoding_independent (rs₁ rs₂ : List (RowRun α)) (h₁ : WF rs₁) (h₂ : WF rs₂)
    (he : expand rs₁ = expand rs₂) : getRange (collect rs₁) = getRange (collect rs₂) := by
  obtain ⟨R1, e1, r1⟩ := ods_range_spec_inv rs₁ h₁
  obtain ⟨R2, e2, r2⟩ := ods_range_spec_inv rs₂ h₂
  rw [e1, e2, r1.unique (he ▸ r2)]

/-- the computable `bbox` of `Spec/OdsRange.lean` (the one the driver prints as the spec) is the tight bounding
    box of the expansion -/
theorem bbox_spec (runs : List (RowRun α)) :
    match bbox runs with
    | none => ∀ p q, expand runs p q = default
    | some (r0, c0, r1, c1) => IsBBox (expand runs) r0 c0 r1 c1 := by
  unfold bbox
  rcases bboxFrom_isBBox runs 0 with ⟨e, h⟩ | ⟨r0, c0, r1, c1, e, h⟩
  · rw [e]; exact h
  · rw [e, Nat.zero_add, Nat.zero_add]; exact h

/-- `start`/`end` of the result are exactly `bbox runs`, and the range is empty exactly when there is none -/
theorem ods_range_bbox (runs : List (RowRun α)) (hwf : WF runs) :
    ∃ R, getRange (collect runs) = .ok R ∧ (∀ p q, R.valAt p q = expand runs p q) ∧
      match bbox runs with
      | none => R = Range.empty
      | some (r0, c0, r1, c1) => R.inner.length ≠ 0 ∧ R.sr = r0 ∧ R.sc = c0 ∧ R.er = r1 ∧ R.ec = c1 := by
  obtain ⟨R, h0, h⟩ := ods_range_spec_inv runs hwf
  refine ⟨R, h0, h.2.1, ?_⟩
  have hb := bbox_spec runs
  cases hbb : bbox runs with
  | none =>
    rw [hbb] at hb
    obtain ⟨_, _, hz, _, hempty⟩ := h
    exact hempty (hz.2 hb)
  | some x => rw [hbb] at hb; exact h.corners hb

/-- the values range when cells also carry formulas: a cell is *pending* only if value and formula are both
    empty, so a formula-only cell is materialised as an empty value — positions and bounds are unaffected -/
theorem ods_range_spec_values {β : Type} [Inhabited β] [DecidableEq β] (runs : List (RowRunVF α β))
    (hwf : WF (runsOf (fun e : α × β => e.1) runs)) :
    ∃ R, getRange (collectV runs) = .ok R ∧ Inv R ∧
      (∀ p q, R.valAt p q = expand (runsOf (fun e : α × β => e.1) runs) p q) ∧
      (R.inner.length ≠ 0 → IsBBox (expand (runsOf (fun e : α × β => e.1) runs)) R.sr R.sc R.er R.ec) := by
  obtain ⟨R, hR, hinv, hval, _, hbox, _⟩ := ods_range_spec_gen (pendVF (α := α) (β := β)) (fun e => e.1)
    pendVF_fst runs hwf
  exact ⟨R, hR, hinv, hval, hbox⟩

/-- the formulas range (`worksheet_formula`): bounding box of the non-empty formulas, each at its cell -/
theorem ods_range_spec_formulas {β : Type} [Inhabited β] [DecidableEq β] (runs : List (RowRunVF α β))
    (hwf : WF (runsOf (fun e : α × β => e.2) runs)) :
    ∃ R, getRange (collectF runs) = .ok R ∧ Inv R ∧
      (∀ p q, R.valAt p q = expand (runsOf (fun e : α × β => e.2) runs) p q) ∧
      (R.inner.length ≠ 0 → IsBBox (expand (runsOf (fun e : α × β => e.2) runs)) R.sr R.sc R.er R.ec) := by
  obtain ⟨R, hR, hinv, hval, _, hbox, _⟩ := ods_range_spec_gen (pendVF (α := α) (β := β)) (fun e => e.2)
    pendVF_snd runs hwf
  exact ⟨R, hR, hinv, hval, hbox⟩

/-- `WF` for run lists whose events carry their element kind: the same two conditions on `expandK val` -/
def WFK {ε : Type} (val : ε → α) (runs : List (RowRunK ε)) : Prop :=
  (∀ r ∈ runs, 1 ≤ r.1) ∧ ∀ p q, expandK val runs p q ≠ default → p < U32 ∧ q < U32

/-- generic form over events `(kind, payload, repeat)`: the kind plays no part (`collectKG_eq`, `expandK_eq`) -/
theorem ods_range_spec_kinds {ε : Type} (pend : ε → Bool) (val : ε → α)
    (hp : ∀ e, pend e = true → val e = default) (runs : List (RowRunK ε)) (hwf : WFK val runs) :
    ∃ R, getRange (flatten (collectKG pend val runs)) = .ok R ∧ Inv R ∧
      (∀ p q, R.valAt p q = expandK val runs p q) ∧
      (R.inner.length = 0 ↔ ∀ p q, expandK val runs p q = default) ∧
      (R.inner.length ≠ 0 → IsBBox (expandK val runs) R.sr R.sc R.er R.ec) ∧
      (R.inner.length = 0 → R = Range.empty) := by
  have hexp : expand (runsOf val (eraseKinds runs)) = expandK val runs := by
    funext r c; exact (expandK_eq val runs r c).symm
  have hwf' : WF (runsOf val (eraseKinds runs)) := by
    refine ⟨?_, by rw [hexp]; exact hwf.2⟩
    intro r hr
    simp only [runsOf, eraseKinds, List.map_map, List.mem_map] at hr
    obtain ⟨x, hx, rfl⟩ := hr
    exact hwf.1 x hx
  have := ods_range_spec_gen pend val hp (eraseKinds runs) hwf'
  rw [hexp, ← collectKG_eq] at this
  exact this

/-- **C04 with covered cells**: the main statement for run lists whose cell events are ordinary or covered
    cells, each with its repeat count and whatever value it carries. Rows and columns are counted through every
    covered cell: it occupies `repeat` columns exactly like an ordinary cell, and a covered cell with content is
    stored like any cell (`expandK`) -/
theorem ods_range_spec_covered (runs : List (RowRunK α)) (hwf : WFK id runs) :
    ∃ R, getRange (collectK runs) = .ok R ∧ Inv R ∧
      (∀ p q, R.valAt p q = expandK id runs p q) ∧
      (R.inner.length = 0 ↔ ∀ p q, expandK id runs p q = default) ∧
      (R.inner.length ≠ 0 → IsBBox (expandK id runs) R.sr R.sc R.er R.ec) ∧
      (R.inner.length = 0 → R = Range.empty) :=
  ods_range_spec_kinds (fun v : α => decide (v = default)) id (fun _ he => of_decide_eq_true he) runs hwf

/-- turning ordinary cells into covered cells or back (same contents, same repeat counts) changes nothing -/
theorem ods_kind_irrelevant (runs₁ runs₂ : List (RowRunK α)) (h : eraseKinds runs₁ = eraseKinds runs₂) :
    getRange (collectK runs₁) = getRange (collectK runs₂) ∧ expandK id runs₁ = expandK id runs₂ := by
  constructor
  · unfold collectK; rw [collectKG_eq, collectKG_eq, h]
  · funext r c; rw [expandK_eq, expandK_eq, h]

/-- non-vacuity: `[covered, 7 (covered, ×2), _, 5]` / 3 blank covered cells / `[_ ×4, 5]` -/
example : getRange (collectK ([(1, [(.covered, 0, 1), (.covered, 7, 2), (.cell, 0, 1), (.cell, 5, 1)]),
      (1, [(.covered, 0, 3)]), (1, [(.cell, 0, 4), (.covered, 5, 1)])] : List (RowRunK Nat))) =
    .ok ⟨0, 1, 2, 4, [7, 7, 0, 5, 0, 0, 0, 0, 0, 0, 0, 5]⟩ := by rfl

/-- the D19 witness rows `[_,1,2] / [] / [_,3]` as cell events -/
def d19rows : List (RowRun Nat) := [(1, [(0, 1), (1, 1), (2, 1)]), (1, []), (1, [(0, 1), (3, 1)])]

/-- D19: before the fix (`extend_from_slice(&empty_cells)` for the pending empty rows) `get_range` returned
    7 cells for the 3×2 rectangle of the witness: the rectangle invariant fails -/
theorem d19_unfixed_violates_inv :
    ∃ r, getRangeUnfixed (collect d19rows) = .ok r ∧ ¬ Inv r := by
  refine ⟨_, rfl, ?_⟩
  intro h
  have := h.len
  revert this
  decide

/-- a sufficient, decidable condition for `WF`: positive row repeats, at most 2^32 rows and columns -/
theorem wf_of_small (runs : List (RowRun α)) (h1 : ∀ r ∈ runs, 1 ≤ r.1) (h2 : total runs ≤ U32)
    (h3 : ∀ r ∈ runs, (r.2.map (·.2)).sum ≤ U32) : WF runs := by
  refine ⟨h1, fun p q h => ?_⟩
  obtain ⟨hp, x, hx, hq⟩ := expand_mem runs p q h
  exact ⟨Nat.lt_of_lt_of_le hp h2, Nat.lt_of_lt_of_le (cellAt_lt_sum x.2 q hq) (h3 x hx)⟩

/-- non-vacuity: the witness rows are well formed, and on them the fixed code returns the 3×2 rectangle
    `B1:C3` with `3` at its place -/
example : WF d19rows ∧
    getRange (collect d19rows) = .ok ⟨0, 1, 2, 2, [1, 2, 0, 0, 3, 0]⟩ ∧
    IsBBox (expand d19rows) 0 1 2 2 := by
  have hwf : WF d19rows := wf_of_small d19rows (by decide) (by decide) (by decide)
  have e : getRange (collect d19rows) = .ok ⟨0, 1, 2, 2, [1, 2, 0, 0, 3, 0]⟩ := rfl
  obtain ⟨R, h0, _, _, h3, _⟩ := ods_range_spec d19rows hwf
  rw [e] at h0
  cases h0
  exact ⟨hwf, e, h3 (by decide)⟩

/-- non-vacuity of encoding independence: repeated elements vs explicit copies, blank runs regrouped, a huge
    trailing blank run and 1 048 573 trailing blank rows — the same range -/
example :
    getRange (collect ([(2, [(0, 2), (7, 2)]), (3, []), (1, [(0, 1), (0, 2), (5, 1)])] : List (RowRun Nat))) =
    getRange (collect [(1, [(0, 1), (0, 1), (7, 1), (7, 1), (0, 16380)]), (1, [(0, 2), (7, 2)]), (1, [(0, 5)]),
      (2, []), (1, [(0, 3), (5, 1), (0, 1)]), (1048569, [(0, 16384)])]) :=
  -- each side is evaluated against the common value: comparing the two unevaluated sides is much slower
  (rfl : _ = Res.ok (⟨0, 2, 5, 3, [7, 7, 7, 7, 0, 0, 0, 0, 0, 0, 0, 5]⟩ : Rng Nat)).trans
    (rfl : _ = Res.ok (⟨0, 2, 5, 3, [7, 7, 7, 7, 0, 0, 0, 0, 0, 0, 0, 5]⟩ : Rng Nat)).symm

end OdsRange

namespace OdsCell

/-- **the first value attribute decides, whatever the attribute order**: if `a` is the first value-carrying
    attribute of the element (`office:value` that parses, `office:string-value`, `office:date-value`,
    `office:time-value`, `office:boolean-value`), the cell's value is `a`'s value, wherever `office:value-type`,
    `table:formula`, the repeat counts and any other attributes stand; the formula is the last `table:formula`;
    the text content is not used.

    On elements that carry several value attributes of different kinds, or one that contradicts `office:value-type`
    (not well-formed ODF), this is what the code does; well-formed ODF is spelled out kind by kind in
    `datatype_wellformed_*` below. -/
theorem datatype_first_value (pre post : List Attr) (a : Attr) (ha : a.isValue = true) (hp : a ≠ .value none)
    (hpre : ∀ x ∈ pre, x.isValue = false) :
    getDatatype (pre ++ a :: post) = some ⟨a.valOf, formulaAfter "" (pre ++ a :: post), false⟩ :=
  getDatatype_first_value pre post a ha hp hpre

/-- an element with exactly one value-carrying attribute (wherever it stands) reads as that attribute's value -/
theorem wf_value (attrs : List Attr) (a : Attr) (h : attrs.filter Attr.isValue = [a]) (hp : a ≠ .value none) :
    getDatatype attrs = some ⟨a.valOf, cellFormula attrs, false⟩ := by
  obtain ⟨pre, post, rfl, hpre, ha, _⟩ := List.filter_eq_cons_iff.1 h
  exact getDatatype_first_value pre post a ha hp (fun x hx => by simpa using hpre x hx)

/-- **order independence**: an element with exactly one value-carrying attribute reads as that attribute's
    value under every ordering of its attributes -/
theorem datatype_order_independent (attrs : List Attr) (a : Attr) (h : attrs.filter Attr.isValue = [a])
    (hp : a ≠ .value none) : ∃ f, getDatatype attrs = some ⟨a.valOf, f, false⟩ :=
  ⟨_, wf_value attrs a h hp⟩

/-- without a value attribute the cell is empty, unless its (last) `office:value-type` is `string`: then the
    value is the element's text content -/
theorem datatype_no_value (attrs : List Attr) (h : ∀ x ∈ attrs, x.isValue = false) :
    getDatatype attrs = some ⟨.empty, formulaAfter "" attrs, stringAfter false attrs⟩ :=
  getDatatype_no_value attrs h

/-! ### well-formed ODF cells, kind by kind (what the property text lists)

    `WellFormed attrs vt` : the element has exactly one `office:value-type`, namely `vt`. Together with "exactly one
    value attribute, the one belonging to `vt`" (or none, for a string cell whose text is its content) this is the
    shape ODF 1.2 §19.385 prescribes; the attribute order and any further attributes are free.
    Only `datatype_wellformed_string_text` uses `WellFormed`: with a value attribute present the value type plays no
    part in what the code returns (`wf_value`), so the other five also hold without it. -/

/-- the element's only `office:value-type` is `vt` -/
def WellFormed (attrs : List Attr) (vt : String) : Prop :=
  Attr.valueType vt ∈ attrs ∧ ∀ raw, Attr.valueType raw ∈ attrs → raw = vt

/-- float, percentage and currency cells (`office:value="…"`, parsed by `f64::from_str` to `bits`) read as `Float` -/
theorem datatype_wellformed_float (attrs : List Attr) (vt : String) (bits : Nat)
    (_hvt : vt = "float" ∨ vt = "percentage" ∨ vt = "currency") (_hwf : WellFormed attrs vt)
    (h : attrs.filter Attr.isValue = [.value (some bits)]) :
    getDatatype attrs = some ⟨.float bits, cellFormula attrs, false⟩ :=
  wf_value attrs _ h (by simp)

/-- string cells with `office:string-value` read as `String` of the attribute -/
theorem datatype_wellformed_string_attr (attrs : List Attr) (t : String) (_hwf : WellFormed attrs "string")
    (h : attrs.filter Attr.isValue = [.stringValue t]) :
    getDatatype attrs = some ⟨.str t, cellFormula attrs, false⟩ :=
  wf_value attrs _ h (by simp)

/-- string cells without a value attribute take their text content (`useText`; the content is what
    `XmlText.odsCellText` of C19 reads from the children, see `sheet_spec`) -/
theorem datatype_wellformed_string_text (attrs : List Attr) (hwf : WellFormed attrs "string")
    (h : attrs.filter Attr.isValue = []) :
    getDatatype attrs = some ⟨.empty, cellFormula attrs, true⟩ ∧ ∀ content, cellValue attrs content = .str content := by
  have hf : attrs.find? Attr.isValue = none := by rw [← List.head?_filter, h]; rfl
  have hs : stringAfter false attrs = true := stringAfter_of_all attrs false hwf.2 (Or.inr hwf.1)
  exact ⟨by rw [getDatatype_eq attrs (by rw [hf]; nofun), hf, hs]; rfl, fun content => by simp only [cellValue, hf, hs, if_true]⟩

/-- boolean cells (`office:boolean-value="true"` / `"false"`) read as `Bool` -/
theorem datatype_wellformed_boolean (attrs : List Attr) (b : Bool) (_hwf : WellFormed attrs "boolean")
    (h : attrs.filter Attr.isValue = [.boolValue (if b then "true" else "false")]) :
    getDatatype attrs = some ⟨.bool b, cellFormula attrs, false⟩ := by
  rw [wf_value attrs _ h (by simp)]
  cases b <;> rfl

/-- date cells (`office:date-value`) read as `DateTimeIso` of the attribute text -/
theorem datatype_wellformed_date (attrs : List Attr) (t : String) (_hwf : WellFormed attrs "date")
    (h : attrs.filter Attr.isValue = [.dateValue t]) :
    getDatatype attrs = some ⟨.dateIso t, cellFormula attrs, false⟩ :=
  wf_value attrs _ h (by simp)

/-- time cells (`office:time-value`) read as `DurationIso` of the attribute text -/
theorem datatype_wellformed_time (attrs : List Attr) (t : String) (_hwf : WellFormed attrs "time")
    (h : attrs.filter Attr.isValue = [.timeValue t]) :
    getDatatype attrs = some ⟨.durIso t, cellFormula attrs, false⟩ :=
  wf_value attrs _ h (by simp)

/-- non-vacuity: a currency cell with its attributes in an unusual order, a display style and a formula -/
example : getDatatype [.other, .formula "of:=[.A1]*2", .value (some 4614253070214989087), .valueType "currency", .other] =
    some ⟨.float 4614253070214989087, "of:=[.A1]*2", false⟩ := by decide

end OdsCell

namespace OdsSheet
open OdsRange OdsCell Range

/-- `read_table` from EVENTS to ranges. Row events carry `number-rows-repeated`; cell events
    carry the element kind (ordinary / covered), the attributes, `number-columns-repeated` and the child events.
    If every cell types (`CellOk`: a leading `office:value` parses; the text of a string cell without value
    attribute is readable by C19's `XmlText.odsCellText`), row repeats are ≥ 1 and positions fit `u32`, then
    `worksheet_range` is the tight bounding box of the non-empty TYPED values with every value at its absolute
    position, and `worksheet_formula` likewise for the formulas — typing by `OdsCell.cellValue` / `cellFormula`
    (= `get_datatype`, `datatype_first_value` / `datatype_no_value`), positions counted through every row repeat,
    column repeat and covered cell (`sheetValue` / `sheetFormula` = `expandK` of `typedRuns`). -/
theorem sheet_spec (rows : List (Nat × List CellEv)) (hok : ∀ row ∈ rows, ∀ ev ∈ row.2, CellOk ev)
    (hv : WFK (fun e : Val × String => e.1) (typedRuns rows))
    (hf : WFK (fun e : Val × String => e.2) (typedRuns rows)) :
    ∃ V F, readTable rows = .ok (V, F) ∧
      Inv V ∧ (∀ p q, V.valAt p q = sheetValue rows p q) ∧
      (V.inner.length = 0 ↔ ∀ p q, sheetValue rows p q = .empty) ∧
      (V.inner.length ≠ 0 → IsBBox (sheetValue rows) V.sr V.sc V.er V.ec) ∧
      Inv F ∧ (∀ p q, F.valAt p q = sheetFormula rows p q) ∧
      (F.inner.length = 0 ↔ ∀ p q, sheetFormula rows p q = "") ∧
      (F.inner.length ≠ 0 → IsBBox (sheetFormula rows) F.sr F.sc F.er F.ec) := by
  obtain ⟨V, vR, vinv, vval, vzero, vbox, _⟩ := ods_range_spec_kinds (pendVF (α := Val) (β := String)) (fun e => e.1)
    pendVF_fst (typedRuns rows) hv
  obtain ⟨F, fR, finv, fval, fzero, fbox, _⟩ := ods_range_spec_kinds (pendVF (α := Val) (β := String)) (fun e => e.2)
    pendVF_snd (typedRuns rows) hf
  refine ⟨V, F, ?_, vinv, vval, vzero, vbox, finv, fval, fzero, fbox⟩
  unfold readTable
  rw [typeRows_eq rows hok]
  have vR' : getRange (collectKV (typedRuns rows)) = .ok V := vR
  have fR' : getRange (collectKF (typedRuns rows)) = .ok F := fR
  simp only [vR', fR']

/-- non-vacuity: a covered blank, a float cell written `value` before `value-type` and repeated twice, a string
    cell whose text is its content; second row: a date in column D -/
example :
    let txt : List XmlText.Ev :=
      [.start XmlText.textP [], .text "hi".toUTF8.toList, .end_ XmlText.textP, .end_ XmlText.tableCell]
    let rows : List (Nat × List CellEv) :=
      [(1, [⟨.covered, [], 1, []⟩, ⟨.cell, [.value (some 7), .valueType "float"], 2, []⟩,
            ⟨.cell, [.valueType "string"], 1, txt⟩]),
       (2, [⟨.cell, [], 3, []⟩, ⟨.covered, [.other, .dateValue "2021-03-04", .valueType "date"], 1, []⟩])]
    (∀ row ∈ rows, ∀ ev ∈ row.2, CellOk ev) ∧
    (readTable rows).isOk = true ∧ sheetValue rows 0 3 = .str (txtToString "hi".toUTF8.toList) ∧
    sheetValue rows 0 2 = .float 7 ∧ sheetValue rows 2 3 = .dateIso "2021-03-04" ∧ sheetValue rows 2 0 = .empty := by
  refine ⟨?_, rfl, rfl, rfl, rfl, rfl⟩
  intro row hrow ev hev
  simp only [List.mem_cons, List.mem_nil_iff, or_false] at hrow
  rcases hrow with rfl | rfl <;> simp only [List.mem_cons, List.mem_nil_iff, or_false] at hev <;>
    rcases hev with rfl | rfl | rfl <;> refine ⟨by decide, fun h1 h2 => ?_⟩ <;>
    first
    | exact absurd h1 (by decide)
    | exact absurd h2 (by decide)
    | exact ⟨_, _, rfl⟩

end OdsSheet

namespace OdsCount

/-- **every spelling of a count parses to the count**: any white space, an optional `+`, the decimal digits with any
    number of leading zeros, any white space — the lexical space of xsd:positiveInteger as far as it fits `usize` —
    is read as the number the digits denote (`valOf`). Character references are resolved before (`unescape`, trusted).
    This is the reader after fix ddcfda3 (`…unescape…trim().parse()`); before it, blanks were rejected on both axes
    and the column count was not unescaped. -/
theorem count_spellings (pre post ds : List Char) (plus : Bool)
    (hpre : ∀ c ∈ pre, isWs c = true) (hpost : ∀ c ∈ post, isWs c = true)
    (hne : ds ≠ []) (hd : ∀ c ∈ ds, IsDigit c) (hv : valOf ds < USIZE) :
    parseCount (pre ++ ((if plus then ['+'] else []) ++ ds) ++ post) = some (valOf ds) := by
  unfold parseCount
  rw [trim_spelling pre post ds plus hpre hpost hne hd, stripPlus_spelling ds plus hne hd]
  simp only
  rw [if_neg hne, parseDigits_digits ds 0 hd]
  exact if_pos hv

/-- the same for the column count (an `i32` in the code): every spelling of a count below 2^31 parses to it -/
theorem colcount_spellings (pre post ds : List Char) (plus : Bool)
    (hpre : ∀ c ∈ pre, isWs c = true) (hpost : ∀ c ∈ post, isWs c = true)
    (hne : ds ≠ []) (hd : ∀ c ∈ ds, IsDigit c) (hv : valOf ds < 2147483648) :
    parseColCount (pre ++ ((if plus then ['+'] else []) ++ ds) ++ post) = some (valOf ds : Int) := by
  have hhead : ((if plus then ['+'] else []) ++ ds).head? ≠ some '-' := by
    obtain ⟨c0, r0, rfl⟩ := List.exists_cons_of_ne_nil hne
    cases plus
    · exact fun h => (digit_ne_sign c0 (hd c0 List.mem_cons_self)).2 (Option.some.inj h)
    · exact fun h => absurd (Option.some.inj h) (by decide)
  unfold parseColCount
  rw [trim_spelling pre post ds plus hpre hpost hne hd]
  simp only
  rw [if_neg hhead, stripPlus_spelling ds plus hne hd, if_neg hne, parseDigits_digits ds 0 hd]
  exact if_pos hv

/-- what is not a count is an error (`ParseInt`), never a guess: nothing, a sign alone, a minus sign, inner blanks,
    letters, an exponent, a value of 2^64 -/
theorem count_rejects :
    parseCount [] = none ∧ parseCount [' '] = none ∧ parseCount ['+'] = none ∧ parseCount ['-', '1'] = none ∧
    parseCount ['1', ' ', '2'] = none ∧ parseCount ['a'] = none ∧ parseCount ['1', 'e', '2'] = none ∧
    parseCount ['+', '+', '1'] = none ∧
    parseCount ['1','8','4','4','6','7','4','4','0','7','3','7','0','9','5','5','1','6','1','6'] = none := by
  decide

/-- non-vacuity: ` +0016384 ` (blank, sign, leading zeros, trailing tab) is 16384; `0` is 0; and the one difference
    between the two axes inside the sheet limits: a column count may carry a minus sign (an `i32`; it then repeats nothing) -/
example : parseCount [' ', '+', '0', '0', '1', '6', '3', '8', '4', '\t'] = some 16384 ∧ parseCount ['0'] = some 0 ∧
    parseColCount [' ', '+', '0', '0', '1', '6', '3', '8', '4', '\t'] = some 16384 ∧
    parseColCount ['-', '1'] = some (-1) ∧ parseColCount ['2', '1', '4', '7', '4', '8', '3', '6', '4', '8'] = none ∧
    parseColCount ['-'] = none ∧ parseColCount ['1', ' ', '2'] = none := by
  decide

end OdsCount

