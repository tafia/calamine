import CalVerif.Lemmas.BiffStrings
import CalVerif.Lemmas.BiffSstCells
/-! # C12 — XLS strings decode identically however records are split and characters packed

    Model: `Model/BiffStrings.lean` (RecordIter, continue_record, skip, decode_to, read_dbcs,
    read_rich_extended_string, parse_sst). Encoder and `Legal` layouts: `Spec/SstEnc.lean`.
    Text = list of Unicode scalar values; `decodeUtf16` is the (trusted) behaviour of encoding_rs on the code units
    of one string, gathered over all its segments; `utf16` is the writer's encoding of a text. -/
namespace Biff

/-- `RecordIter::next` on a framed record gives back its payload and the payloads of its CONTINUE records, fragment by
    fragment (each CONTINUE payload non-empty: an empty one at the very end of the stream is not gathered, `gather_cont`) -/
theorem frame_roundtrip (typ : Nat) (d : Bytes) (conts : List Bytes) (rest : Bytes)
    (ht : typ < 65536) (hd : d.length < 65536) (hall : ∀ f ∈ conts, f ≠ [] ∧ f.length < 65536)
    (hrest : notCont rest) :
    nextRecord (frameRec typ d conts ++ rest) = some (.ok (⟨typ, d, conts⟩, rest)) :=
  nextRecord_frameRec typ d conts rest ht hd hall hrest

/-- `read_dbcs` when the current fragment holds all the characters still owed, in either packing: the last turn of
    its loop; the reader stops on the byte after them -/
theorem dbcs_segment (wide : Bool) (us : List Nat) (tail : Bytes) (cont : List Bytes)
    (hlt : ∀ u ∈ us, u < 65536) (hpack : wide = false → ∀ u ∈ us, u < 256) :
    readDbcs us.length wide (encUnits wide us ++ tail) cont = .ok (us, ⟨tail, cont⟩) :=
  readDbcs_last wide us tail cont hlt hpack

/-- the split-read invariant ("`data` = unread rest of the current fragment, `cont` = fragments still queued,
    `n` = characters still owed"): a first segment `s0` and then one CONTINUE record per further segment, each
    with its own packing announced by a fresh flag byte (any of them but the last may hold the flag byte
    alone), yield the code units of all segments in order — wherever the breaks fall, between the halves of a
    surrogate pair included; the reader stops exactly after the last character (state `lay rest`). -/
theorem dbcs_split_invariant (segs : List (List Nat × Bool)) (s0 : List Nat) (w0 : Bool) (n : Nat) (rest : List Tok)
    (hn : n = s0.length + (segs.map (·.1.length)).sum)
    (h0 : ∀ u ∈ s0, u < 65536) (hp0 : packOk (s0, w0))
    (hall : ∀ p ∈ segs, (∀ u ∈ p.1, u < 65536) ∧ packOk p) (hlast : lastOk segs) :
    readDbcs n w0 (lay (.b (encUnits w0 s0) :: (contToks segs ++ rest))).1
        (lay (.b (encUnits w0 s0) :: (contToks segs ++ rest))).2
      = .ok (s0 ++ (segs.map (·.1)).flatten, ⟨(lay rest).1, (lay rest).2⟩) :=
  readDbcs_segs segs s0 w0 n rest hn h0 hp0 hall hlast

/-- a fact about UTF-16 decoding alone (`read_dbcs` decodes the units of all segments at once and does not rest
    on it): decoding segment by segment gives the text of the whole string as long as no break separates a high
    surrogate from its low surrogate (the first segment may be empty, later ones are not) -/
theorem segments_decode_as_whole (s0 : List Nat) (segs : List (List Nat))
    (hp : pairsKept (s0 :: segs)) (hne : ∀ s ∈ segs, s ≠ []) :
    decodeUtf16 s0 ++ (segs.map decodeUtf16).flatten = decodeUtf16 (s0 ++ segs.flatten) := by
  induction segs generalizing s0 with
  | nil => simp
  | cons s1 ss ih =>
    rw [List.map_cons, List.flatten_cons, List.flatten_cons, ih s1 hp.2 fun s hs => hne s (List.mem_cons_of_mem _ hs),
      decodeUtf16_append s0 _ (noPairSplit_append_right s0 s1 _ (hne s1 List.mem_cons_self) hp.1)]

theorem utf16_roundtrip : ∀ (cs : List Nat), (∀ c ∈ cs, isScalar c) → decodeUtf16 (utf16 cs) = cs :=
  fun cs h => by rw [decodeUtf16_eq, utf16_eq]; exact Utf16.decode_units_self cs h

/-- `Record::skip` over a block (rgRun, ExtRst) broken into CONTINUE records at any byte offsets stops on the first
    byte after the block: nothing of the next string is eaten -/
theorem skip_consumes_exactly (bs : Bytes) (cuts : List Nat) (rest : List Tok) (h : blockOk (some bs) cuts) :
    skip bs.length (lay (blockToks (some bs) cuts ++ rest)).1 (lay (blockToks (some bs) cuts ++ rest)).2
      = .ok ⟨(lay rest).1, (lay rest).2⟩ :=
  skip_block bs cuts rest h

theorem skip_prefix_exact (x tail : Bytes) (cont : List Bytes) :
    skip x.length (x ++ tail) cont = .ok ⟨tail, cont⟩ := skip_prefix x tail cont

/-- an entry written without any break (header, characters in one packing, rgRun, ExtRst) reads back as
    its text; rich-text runs and extended data are skipped and the reader stands exactly after the entry -/
theorem read_string_unsplit (e : Entry) (wide : Bool) (tail : Bytes) (cont : List Bytes)
    (hlt : ∀ u ∈ e.units, u < 65536) (hcch : e.units.length < 65536)
    (hpack : wide = false → ∀ u ∈ e.units, u < 256)
    (hruns : runsLenOk e.runs) (hext : extLenOk e.ext) :
    readRichAt ⟨header e wide ++ (encUnits wide e.units ++ ((e.runs.getD []) ++ ((e.ext.getD []) ++ tail))), cont⟩
      = .ok (decodeUtf16 e.units, ⟨tail, cont⟩) := by
  rw [readRichAt_header e wide _ _ hcch hruns hext, readDbcs_last wide e.units _ _ hlt hpack]
  simp only [Res.bind_ok, skip_prefix]
  rfl

/-- an entry under any legal layout — CONTINUE break before it, breaks between its characters with a fresh
    flag byte and any 8/16-bit packing per segment, breaks inside rgRun and ExtRst — reads back as its text,
    and the reader stands exactly where the next entry starts (`lay rest`) -/
theorem read_string_split (e : Entry) (ly : EntryLayout) (hok : EntryOk e ly) (rest : List Tok) :
    readRich ⟨(lay (entryToks e ly ++ rest)).1, (lay (entryToks e ly ++ rest)).2⟩
      = .ok (decodeUtf16 e.units, ⟨(lay rest).1, (lay rest).2⟩) :=
  readRich_entry e ly hok rest

/-- no CONTINUE record produced by the encoder under a legal layout is empty (so `read_dbcs`'s `EoStream`
    answer for an empty CONTINUE record never arises on well-formed input) -/
theorem encoded_fragments_nonempty (cstTotal : Nat) (table : List Entry) (lys : List EntryLayout)
    (h : Legal cstTotal table lys) : ∀ f ∈ (encodeSst cstTotal table lys).tail, f ≠ [] :=
  encodeSst_tail_ne cstTotal table lys h.entries

/-- for every table and every legal layout λ (`lys`), framing the encoded SST + CONTINUE
    records — followed by any further records `rest` that do not start with a CONTINUE — and running
    `RecordIter` + `parse_sst` over the stream gives the text of every string, in order -/
theorem sst_roundtrip_in_stream (cstTotal : Nat) (table : List Entry) (lys : List EntryLayout)
    (h : Legal cstTotal table lys) (fuel : Nat) (rest : Bytes) (hrest : notCont rest) :
    sstFromStream (fuel + 1) (frameSst (encodeSst cstTotal table lys) ++ rest)
      = .ok (table.map fun e => decodeUtf16 e.units) :=
  sstFromStream_encode cstTotal table lys h.entries h.count
    (fun f hf => Nat.lt_of_le_of_lt (h.sizes f hf) (by decide)) fuel rest hrest

theorem sst_roundtrip (cstTotal : Nat) (table : List Entry) (lys : List EntryLayout)
    (h : Legal cstTotal table lys) (fuel : Nat) :
    sstFromStream (fuel + 1) (frameSst (encodeSst cstTotal table lys))
      = .ok (table.map fun e => decodeUtf16 e.units) := by
  have := sst_roundtrip_in_stream cstTotal table lys h fuel [] notCont_nil
  rwa [List.append_nil] at this

/-- the same at the level of the gathered record (what `parse_sst` is handed by `parse_workbook`) -/
theorem parseSst_roundtrip (cstTotal : Nat) (table : List Entry) (lys : List EntryLayout)
    (h : Legal cstTotal table lys) :
    parseSst ⟨0xFC, (encodeSst cstTotal table lys).headD [], (encodeSst cstTotal table lys).tail⟩
      = .ok (table.map fun e => decodeUtf16 e.units) :=
  parseSst_encode cstTotal table lys h.entries h.count 0xFC

/-- two legal layouts of the same table (different break sets, different packings,
    different cstTotal) decode to the same strings -/
theorem sst_layout_independent (t1 t2 : Nat) (table : List Entry) (l1 l2 : List EntryLayout)
    (h1 : Legal t1 table l1) (h2 : Legal t2 table l2) (f1 f2 : Nat) :
    sstFromStream (f1 + 1) (frameSst (encodeSst t1 table l1))
      = sstFromStream (f2 + 1) (frameSst (encodeSst t2 table l2)) := by
  rw [sst_roundtrip t1 table l1 h1, sst_roundtrip t2 table l2 h2]

/-- a table of texts (scalar values), stored as UTF-16 with optional runs / extended
    blocks, reads back as those texts under every legal layout -/
theorem sst_text_roundtrip (cstTotal : Nat) (texts : List (List Nat)) (table : List Entry) (lys : List EntryLayout)
    (htexts : table.map (·.units) = texts.map utf16) (hscalar : ∀ t ∈ texts, ∀ c ∈ t, isScalar c)
    (h : Legal cstTotal table lys) (fuel : Nat) :
    sstFromStream (fuel + 1) (frameSst (encodeSst cstTotal table lys)) = .ok texts := by
  have hmap : (table.map fun e => decodeUtf16 e.units) = (table.map (·.units)).map decodeUtf16 :=
    (List.map_map ..).symm
  have hid : texts.map (decodeUtf16 ∘ utf16) = texts.map id :=
    List.map_congr_left fun t ht => utf16_roundtrip t (hscalar t ht)
  rw [sst_roundtrip cstTotal table lys h, hmap, htexts, List.map_map, hid, List.map_id]

/-- Every cell that refers to a shared string is unaffected by the layout of the table.
    A workbook stream = globals substream (any records `pre` whose arms succeed, the SST + CONTINUE records of
    `table` under a legal layout, more such records `post`, EOF) followed by the sheet substreams `sheets`.
    `BiffWorkbook.workbookSheet` = `parse_workbook` as far as strings go: the globals loop's `strings`
    (C12's `parseSst` on the gathered record), then C02's worksheet loop `BiffCells.sheetRange` with
    `env.strings = strings` on the substream at the sheet's offset.
    (1) For ANY two legal layouts (break sets, per-segment packings, cstTotal) of the same table — rich-text runs
        and extended blocks included — every sheet substream decodes to the same `Range`: both equal the range read
        with `strings` = the stored texts. The offsets differ (`p1`, `p2`: the SST has another size) but point at
        the same bytes.
    (2) Under that table a LABELSST record with index `i` gives its cell exactly the text of `table[i]`
        (`parse_label_sst`: `strings[i]`). -/
theorem labelsst_cells_layout_independent (arm : Rec → Res Unit) (env0 : BiffCells.Env)
    (t1 t2 : Nat) (table : List Entry) (l1 l2 : List EntryLayout)
    (h1 : Legal t1 table l1) (h2 : Legal t2 table l2)
    (pre post : List (Nat × Bytes))
    (hpre : ∀ p ∈ pre, BiffWorkbook.inertRec arm p) (hpost : ∀ p ∈ post, BiffWorkbook.inertRec arm p)
    (sheets : Bytes) (hsheets : notCont sheets) (p1 p2 : Nat)
    (hp1 : p1 ≤ (BiffWorkbook.wbStream t1 table l1 pre post sheets).length)
    (hp2 : p2 ≤ (BiffWorkbook.wbStream t2 table l2 pre post sheets).length)
    (hsame : (BiffWorkbook.wbStream t1 table l1 pre post sheets).drop p1 =
             (BiffWorkbook.wbStream t2 table l2 pre post sheets).drop p2) :
    (BiffWorkbook.workbookSheet arm env0 (BiffWorkbook.wbStream t1 table l1 pre post sheets) p1 =
        BiffCells.sheetRange { env0 with strings := table.map fun e => decodeUtf16 e.units }
          ((BiffWorkbook.wbStream t1 table l1 pre post sheets).drop p1))
    ∧ (BiffWorkbook.workbookSheet arm env0 (BiffWorkbook.wbStream t1 table l1 pre post sheets) p1 =
        BiffWorkbook.workbookSheet arm env0 (BiffWorkbook.wbStream t2 table l2 pre post sheets) p2)
    ∧ (∀ (i row col xf : Nat) (e : Entry), table[i]? = some e → row < 65536 → col < 65536 →
        BiffCells.parseLabelSst { env0 with strings := table.map fun e => decodeUtf16 e.units }
            (BiffWorkbook.labelSstData row col xf i)
          = .ok (some (row, col, BiffCells.Val.str (decodeUtf16 e.units)))) := by
  have e1 := BiffWorkbook.workbookSheet_encode arm env0 t1 table l1 h1 pre post hpre hpost sheets hsheets p1 hp1
  have e2 := BiffWorkbook.workbookSheet_encode arm env0 t2 table l2 h2 pre post hpre hpost sheets hsheets p2 hp2
  refine ⟨e1, ?_, ?_⟩
  · rw [e1, e2, hsame]
  · intro i row col xf e he hr hc
    obtain ⟨hlt, _⟩ := List.getElem?_eq_some_iff.mp he
    exact BiffWorkbook.parseLabelSst_entry _ row col xf i (decodeUtf16 e.units) hr hc
      (Nat.lt_trans hlt (Nat.lt_trans h1.count (by decide))) (by rw [List.getElem?_map, he]; rfl)

/-- the sheet offsets of `labelsst_cells_layout_independent` exist: the substream `k` bytes into `sheets` sits
    at (length of the globals) + `k` in either stream -/
theorem sheet_offsets_exist (t : Nat) (table : List Entry) (l : List EntryLayout)
    (pre post : List (Nat × Bytes)) (sheets : Bytes) (k : Nat) :
    (BiffWorkbook.wbStream t table l pre post sheets).drop
        ((BiffWorkbook.wbStream t table l pre post []).length + k) = sheets.drop k :=
  BiffWorkbook.wbStream_drop t table l pre post sheets k

/-- label values: a LABEL cell (inline XLUnicodeString, either packing, the empty string included) holds the stored
    text: `parse_label` = cell header + `parse_string` (`string_roundtrip`); C02's `step_label` / `biff_sheet_roundtrip`
    place the cell in the range -/
theorem label_cell_text (row col xf : Nat) (wide : Bool) (us : List Nat) (trail : Bytes)
    (hr : row < 65536) (hc : col < 65536)
    (hlt : ∀ u ∈ us, u < 65536) (hcch : us.length < 65536) (hpack : wide = false → ∀ u ∈ us, u < 256) :
    BiffCells.parseLabel (le16 row ++ (le16 col ++ (le16 xf ++ (xlUnicodeString wide us ++ trail))))
      = .ok (row, col, BiffCells.Val.str (decodeUtf16 us)) :=
  BiffWorkbook.parseLabel_text row col xf wide us trail hr hc hlt hcch hpack

/-- formula-string values: the STRING (0x0207) arm is `parse_string(r.data)` on the whole payload, an XLUnicodeString
    (the empty one included), i.e. `trail = []`; C02's `step_string` attaches the text to the FORMULA position -/
theorem string_roundtrip (wide : Bool) (us : List Nat) (trail : Bytes)
    (hlt : ∀ u ∈ us, u < 65536) (hcch : us.length < 65536) (hpack : wide = false → ∀ u ∈ us, u < 256) :
    parseString (xlUnicodeString wide us ++ trail) true = .ok (decodeUtf16 us) :=
  parseString_roundtrip wide us trail hlt hcch hpack

/-- sheet names: the BoundSheet8 arm is `parse_short_string` on `r.data[6..]`, a ShortXLUnicodeString, followed by the
    deliberate removal of NUL characters; the whole record is C16's `boundsheet_roundtrip` / `boundsheet_name_exact`, on
    the same `Biff.parseShortString`. BIFF5 byte strings (code pages other than 1200) are outside the model: exercised
    by the harness only. -/
theorem short_string_roundtrip (wide : Bool) (us : List Nat) (trail : Bytes)
    (hlt : ∀ u ∈ us, u < 65536) (hcch : us.length < 256) (hpack : wide = false → ∀ u ∈ us, u < 256) :
    parseShortString (shortXlUnicodeString wide us ++ trail) true = .ok (decodeUtf16 us) :=
  parseShortString_roundtrip wide us trail hlt hcch hpack

/-- on ANY byte stream the record loop + `parse_sst` model finishes within `stream length + 1` steps of fuel
    (the budget the driver gives it): `outOfFuel` is never an answer -/
theorem sst_reader_never_out_of_fuel (s : Bytes) : sstFromStream (s.length + 1) s ≠ .outOfFuel :=
  (sstFromStream_returns (s.length + 1) s (Nat.lt_succ_self _)).ne_fuel

/-- `parse_sst` on ANY gathered record (any payload, any CONTINUE fragments) returns `Ok` or `Err`:
    no slice index, no `unwrap`, can fail -/
theorem parseSst_no_panic (r : Rec) : ∀ e, parseSst r ≠ .panic e := (parseSst_returns r).ne_panic

theorem nextRecord_no_panic (s : Bytes) (e : String) : nextRecord s ≠ some (.panic e) :=
  fun h => (nextRecord_returnsWith s _ h).returns.ne_panic e rfl

/-- on ANY byte stream, record framing + `parse_sst` (hook `sst_from_stream`) answers `Ok` or
    `Err` within the driver's fuel — never a panic, never out of fuel -/
theorem sstFromStream_total (s : Bytes) :
    (∃ v, sstFromStream (s.length + 1) s = .ok v) ∨ (∃ e, sstFromStream (s.length + 1) s = .err e) :=
  sstFromStream_returns (s.length + 1) s (Nat.lt_succ_self _)

/-- two malformed shapes are errors, not panics: a rich-text header cut by the end of its
    fragment, and a negative string count -/
example : sstFromStream 99 [0xFC, 0, 0x0B, 0, 1, 0, 0, 0, 1, 0, 0, 0, 0, 0, 0x0C] = .err "Len:rich extended string:2:0" := by
  decide +kernel
example : (sstFromStream 99 [0xFC, 0, 8, 0, 1, 0, 0, 0, 0xFF, 0xFF, 0xFF, 0xFF]).isOk = false := by decide +kernel

/-- "ab " then U+1F600 with one rich-text run and two ExtRst bytes -/
def exTable : List Entry :=
  [{ units := [0x61, 0x62, 0x20] }, { units := [0xD83D, 0xDE00], runs := some [1, 2, 3, 4], ext := some [0xAA, 0xBB] }]

/-- break after 'a' switching to 8-bit packing; break before the 2nd string; break inside ExtRst -/
def exLayoutA : List EntryLayout :=
  [{ wide0 := true, cuts := [(1, false)] }, { cutBefore := true, wide0 := true, extCuts := [1] }]

/-- no voluntary break, first string compressed -/
def exLayoutB : List EntryLayout := [{ wide0 := false }, { wide0 := true }]

theorem exLayoutA_legal : Legal 3 exTable exLayoutA := by decide +kernel
theorem exLayoutB_legal : Legal 2 exTable exLayoutB := by decide +kernel
example : Legal 3 exTable exLayoutA := exLayoutA_legal
example : Legal 2 exTable exLayoutB := exLayoutB_legal
example : frameSst (encodeSst 3 exTable exLayoutA) ≠ frameSst (encodeSst 2 exTable exLayoutB) := by decide +kernel
example : sstFromStream 1 (frameSst (encodeSst 3 exTable exLayoutA)) = .ok [[0x61, 0x62, 0x20], [0x1F600]] :=
  sst_roundtrip 3 exTable exLayoutA exLayoutA_legal 0
example : parseString (xlUnicodeString false [] ++ [7]) true = .ok [] := by decide
/-- workbook level: globals = BOF, CODEPAGE, the example table under layout A resp. B, EOF; one sheet with a
    LABELSST cell at (2,3) naming string 1: the two workbooks give the sheet the same range -/
def exPre : List (Nat × Bytes) := [(0x0809, [0, 6, 5, 0]), (0x0042, [0xB0, 4])]
def exSheets : Bytes :=
  frameRec 0x0809 [0, 6, 0x10, 0] [] ++ (frameRec 0x00FD (BiffWorkbook.labelSstData 2 3 0 1) [] ++ frameRec 0x000A [] [])

example (env0 : BiffCells.Env) :
    BiffWorkbook.workbookSheet (fun _ => .ok ()) env0 (BiffWorkbook.wbStream 3 exTable exLayoutA exPre [] exSheets)
        ((BiffWorkbook.wbStream 3 exTable exLayoutA exPre [] []).length + 0) =
    BiffWorkbook.workbookSheet (fun _ => .ok ()) env0 (BiffWorkbook.wbStream 2 exTable exLayoutB exPre [] exSheets)
        ((BiffWorkbook.wbStream 2 exTable exLayoutB exPre [] []).length + 0) := by
  refine (labelsst_cells_layout_independent (fun _ => .ok ()) env0 3 2 exTable exLayoutA exLayoutB exLayoutA_legal exLayoutB_legal
    exPre [] ?_ (by simp) exSheets
    (notCont_frameRec 0x0809 _ [] _ (by decide) (by decide)) _ _ ?_ ?_ ?_).2.1
  · intro p hp
    simp only [exPre, List.mem_cons, List.mem_nil_iff, or_false] at hp
    rcases hp with rfl | rfl <;> exact ⟨by decide, by decide, by decide, by decide, by decide, rfl⟩
  · rw [BiffWorkbook.wbStream_append 3 _ _ _ _ exSheets, List.length_append, Nat.add_zero]; exact Nat.le_add_right _ _
  · rw [BiffWorkbook.wbStream_append 2 _ _ _ _ exSheets, List.length_append, Nat.add_zero]; exact Nat.le_add_right _ _
  · rw [sheet_offsets_exist, sheet_offsets_exist]

/-- a break between the halves of a surrogate pair, and a CONTINUE record holding its flag byte alone, are
    legal and read back as the one character -/
example : Legal 1 [{ units := [0xD83D, 0xDE00] }] [{ wide0 := true, cuts := [(1, true), (0, true)] }] := by decide +kernel
example : sstFromStream 1 (frameSst (encodeSst 1 [{ units := [0xD83D, 0xDE00] }] [{ wide0 := true, cuts := [(1, true), (0, true)] }]))
    = .ok [[0x1F600]] := sst_roundtrip 1 _ _ (by decide +kernel) 0
/-- a CONTINUE record opened after the last character is not legal -/
example : ¬ Legal 1 [{ units := [0x61] }] [{ wide0 := true, cuts := [(1, true)] }] := by decide +kernel

end Biff
