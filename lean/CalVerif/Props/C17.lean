import CalVerif.Lemmas.Geometry
import CalVerif.Lemmas.GeometryXls
import CalVerif.Lemmas.GeometryTable
import CalVerif.Props.C05
/-! # C17 — merged regions and tables are reported with the geometry the file declares

    The theorems about `get_dimension` and its callers are stated for an arbitrary `Mode`, i.e. for the
    checked-arithmetic and for the saturating-arithmetic variant of the code alike (see `Model/Geometry.lean`) —
    except `table_by_name_no_panic`, which holds for the saturating variant only (the checked one panics on `B2:A1`).
    The XML layer is not modelled: the statements start at the event list (`Spec/Geometry.lean` renders the
    declarations as events under any namespace prefix and between arbitrary inert events). -/
namespace Geometry

/-- every cell name of the grid `A1 … XFD1048576` parses to its 0-based coordinates -/
theorem cell_roundtrip (m : Mode) (row col : Nat) (hr : row < 1048576) (hc : col < 16384) :
    getRowColumn m (renderCell row col) = .ok (row, col) :=
  getRowColumn_renderCell m row col hr hc

/-- `get_dimension` maps the reference text of every well-ordered rectangle up to `XFD1048576` back to that
    rectangle: in the form Excel writes (`B2` for one cell, `B2:D7` otherwise) and in the two-corner form
    (`B2:B2` for one cell) -/
theorem dimension_roundtrip (m : Mode) (d : Rect) (hv : d.Valid) :
    getDimension m (renderRef d) = .ok d ∧ getDimension m (renderRef2 d) = .ok d :=
  ⟨getDimension_renderRef m d hv, getDimension_renderRef2 m d hv⟩

/-- a single-cell reference denotes the one-cell rectangle -/
theorem dimension_single_cell (m : Mode) (row col : Nat) (hr : row < 1048576) (hc : col < 16384) :
    getDimension m (renderCell row col) = .ok ⟨row, col, row, col⟩ :=
  getDimension_renderCell m row col hr hc

example : (⟨0, 26, 1048575, 16383⟩ : Rect).Valid := by decide
example : renderRef ⟨0, 26, 1048575, 16383⟩ = [65, 65, 49, 58, 88, 70, 68, 49, 48, 52, 56, 53, 55, 54] := by decide
example : renderRef ⟨6, 701, 6, 701⟩ = [90, 90, 55] := by decide

/-- `read_merged_regions` (one sheet) and `worksheet_merge_cells` both return exactly the regions the sheet
    declares — same count, same order, same corners — whatever the namespace prefix, the other attributes of
    the `mergeCell` elements, the spelling of a one-cell region and the (inert) events around and between them;
    a sheet without a `mergeCells` element has none -/
theorem merge_regions_exact (m : Mode) (s : SheetDecl) (hs : s.Ok) :
    regionsOfSheet m s.events = .ok s.regions ∧ worksheetMergeCells m s.events = .ok s.regions := by
  obtain ⟨hp, hb, ha, hd, hmc⟩ := hs
  unfold SheetDecl.events SheetDecl.regions
  by_cases hmc' : s.mc = true
  · have hl := localName_qn s.pre nMergeCells hp nMergeCells_noColon
    rw [if_pos hmc', renderSheet, List.append_assoc, regionsOfSheet_inert m s.before _ hb, worksheetMergeCells_inert m s.before _ hb,
      List.cons_append, regionsOfSheet, hl, if_neg nMergeCell_ne.symm, worksheetMergeCells, if_pos hl,
      regionsOfSheet_render m s.pre hp s.after ha s.merges hd, readMergeCells_render m s.pre hp s.after s.merges hd]
    exact ⟨rfl, rfl⟩
  · have h1 := regionsOfSheet_inert m s.after [] ha
    have h2 := worksheetMergeCells_inert m s.after [] ha
    rw [List.append_nil] at h1 h2
    rw [if_neg hmc', hmc (Bool.eq_false_iff.mpr hmc'), regionsOfSheet_inert m s.before _ hb,
      worksheetMergeCells_inert m s.before _ hb, h1, h2]
    exact ⟨rfl, rfl⟩

/-- `read_merged_regions` over the workbook: the list is the declared regions of every sheet in sheet order,
    each attributed to the name and part path of the sheet that declares it -/
theorem merged_regions_attribution (m : Mode) : ∀ (sheets : List SheetDecl), (∀ s ∈ sheets, s.Ok) →
    mergedRegions m (sheets.map (·.part)) =
      .ok (sheets.flatMap (fun s => s.regions.map (fun d => (s.name, s.path, d))))
  | [], _ => rfl
  | s :: rest, h => by
    obtain ⟨hs, hrest⟩ := List.forall_mem_cons.mp h
    have ih := merged_regions_attribution m rest hrest
    have hs := (merge_regions_exact m s hs).1
    have hpart : s.part = ⟨s.name, s.path, some s.events⟩ := rfl
    simp only [List.map_cons, hpart, mergedRegions, hs, ih, List.flatMap_cons]

/-- `merged_regions_by_sheet`: for a sheet whose name no other sheet bears, exactly its own declared regions -/
theorem merged_regions_by_sheet_exact (m : Mode) (pre post : List SheetDecl) (s : SheetDecl)
    (hok : ∀ x ∈ pre ++ s :: post, x.Ok) (huniq : ∀ x ∈ pre ++ post, x.name ≠ s.name)
    (all : List (Bytes × Bytes × Rect)) (h : mergedRegions m ((pre ++ s :: post).map (·.part)) = .ok all) :
    mergedRegionsBySheet all s.name = s.regions.map (fun d => (s.name, s.path, d)) := by
  rw [merged_regions_attribution m _ hok] at h
  injection h with h
  subst h
  exact filter_flatMap_unique _ _ pre post s (List.forall_mem_map.mpr (fun d _ => decide_eq_true rfl))
    (fun x hx => List.forall_mem_map.mpr (fun d _ hd => huniq x hx (of_decide_eq_true hd)))

/-- a non-trivial sheet declaration meeting `SheetDecl.Ok`: prefix `x`, a text node before, two regions, the
    second a single cell spelled with two corners after an unrelated attribute -/
example : (⟨[83], [112], ['x'], [.text [10]], true,
    [{ rect := ⟨1, 1, 3, 2⟩ }, { rect := ⟨1048575, 16383, 1048575, 16383⟩, two := true, a1 := [(['i', 'd'], [49])], gap := [.text [32]] }],
    [.end_ ['x', ':', 'w', 'o', 'r', 'k', 's', 'h', 'e', 'e', 't']]⟩ : SheetDecl).Ok := by
  refine ⟨by decide, fun e he => ?_, fun e he => ?_, fun d hd => ?_, by decide⟩
  · obtain rfl := List.mem_singleton.mp he; trivial
  · obtain rfl := List.mem_singleton.mp he; show localName _ ≠ nMergeCells; decide
  · rcases List.mem_cons.mp hd with rfl | hd
    · exact ⟨by decide, fun a ha => (List.not_mem_nil ha).elim, fun e he => (List.not_mem_nil he).elim⟩
    · obtain rfl := List.mem_singleton.mp hd
      refine ⟨by decide, fun a ha => ?_, fun e he => ?_⟩
      · obtain rfl := List.mem_singleton.mp ha; decide
      · obtain rfl := List.mem_singleton.mp he; trivial

/-- `Xlsx::worksheet_merge_cells(name)` and `worksheet_merge_cells_at(n)`: the first sheet bearing the name
    (`n` = its index in the metadata) yields exactly its declared regions; a name no sheet bears yields `None` -/
theorem worksheet_merge_cells_at_exact (m : Mode) (pre post : List SheetDecl) (s : SheetDecl) (hok : s.Ok)
    (huniq : ∀ x ∈ pre, x.name ≠ s.name) :
    worksheetMergeCellsByName m ((pre ++ s :: post).map (·.part)) s.name = some (.ok s.regions) ∧
    worksheetMergeCellsAt ((pre ++ s :: post).map (·.name))
      (worksheetMergeCellsByName m ((pre ++ s :: post).map (·.part))) pre.length = some (.ok s.regions) ∧
    ∀ other, (∀ x ∈ pre ++ s :: post, x.name ≠ other) →
      worksheetMergeCellsByName m ((pre ++ s :: post).map (·.part)) other = none := by
  have hby : worksheetMergeCellsByName m ((pre ++ s :: post).map (·.part)) s.name = some (.ok s.regions) := by
    rw [worksheetMergeCellsByName, List.map_append, List.map_cons,
      find?_append_key SheetPart.name s.name _ _ s.part rfl (List.forall_mem_map.mpr huniq)]
    exact congrArg some (merge_regions_exact m s hok).2
  refine ⟨hby, ?_, fun other hother => ?_⟩
  · have := worksheetMergeCellsAt_nth (pre.map (·.name)) (post.map (·.name)) s.name
      (worksheetMergeCellsByName m ((pre ++ s :: post).map (·.part)))
    rw [hby, List.length_map] at this
    rwa [List.map_append, List.map_cons]
  · rw [worksheetMergeCellsByName, List.find?_eq_none.mpr (List.forall_mem_map.mpr
      (fun x hx hd => hother x hx (of_decide_eq_true hd)))]

/-- `parse_merge_cells` decodes the payload of a MERGEDCELLS record to exactly the encoded regions (count,
    order, corners), for any number of regions a record can hold and every `u16` coordinate (so in particular
    up to `IV65536`); bytes after the last entry are ignored -/
theorem mergecells_roundtrip (ds : List Rect) (hn : ds.length < 8192) (hfit : ∀ d ∈ ds, d.Fits16)
    (tail : Bytes) : parseMergeCells (encodeMergedCells ds ++ tail) = .ok ds := by
  have hr : encodeMergedCells ds ++ tail = u16le ds.length ++ (ds.flatMap encodeRef8 ++ tail) :=
    List.append_assoc ..
  have hlen : (encodeMergedCells ds ++ tail).length = 2 + (8 * ds.length + tail.length) := by
    rw [hr, List.length_append, List.length_append, u16le_length, flatMap_encodeRef8_length]
  -- of `hn` only `ds.length < 65536` is used: the count must survive its `u16` field
  rw [parseMergeCells, hlen, if_neg (Nat.not_lt.mpr (Nat.le_add_right 2 _)),
    readU16At_of_drop (Nat.lt_trans hn (by decide)) (congrArg (List.drop 0) hr)]
  simp only []  -- the scrutinee is now `.ok _`: reduces the model's `match`
  rw [if_neg (Nat.not_lt.mpr (Nat.add_le_add_left (Nat.le_add_right ..) 2))]
  exact mcLoop_of_drop _ tail ds 0 hfit (congrArg (List.drop 2) hr)

/-- `parse_merge_cells` answers `Ok` or `Err` on every payload, never a panic (true since the length checks
    of the robustness fix): a record shorter than its count or than the entries it announces is `Len`, any
    other record yields its regions -/
theorem parse_merge_cells_no_panic (r : Bytes) :
    (∃ ds, parseMergeCells r = .ok ds) ∨ parseMergeCells r = .err "Len:merge cells" := by
  rcases parseMergeCells_cases r with ⟨_, h⟩ | ⟨_, h⟩
  · exact .inr h
  · exact .inl h

/-- the sheet record loop: the regions of all MERGEDCELLS records before the EOF record, concatenated in
    record order; other records contribute nothing -/
theorem sheet_mergecells_exact : ∀ (recs : List (Nat × Bytes)) (blocks : List (List Rect)),
    (∀ r ∈ recs, r.1 ≠ 0x000A) →
    (recs.filter (fun r => r.1 = 0x00E5)).map (·.2) = blocks.map encodeMergedCells →
    (∀ b ∈ blocks, b.length < 8192 ∧ ∀ d ∈ b, d.Fits16) →
    ∀ (after : List (Nat × Bytes)), sheetMergeCells (recs ++ (0x000A, []) :: after) = .ok blocks.flatten
  := by
  intro recs
  induction recs with
  | nil =>
    intro blocks _ hb _ after
    cases blocks with
    | nil => rw [List.nil_append, sheetMergeCells, if_pos rfl]; rfl
    | cons b bs => cases hb
  | cons r rest ih =>
    intro blocks hne hb hfit after
    obtain ⟨typ, data⟩ := r
    obtain ⟨htyp, hne'⟩ := List.forall_mem_cons.mp hne
    rw [List.cons_append, sheetMergeCells, if_neg htyp]
    by_cases hm : typ = 0x00E5
    · rw [List.filter_cons_of_pos (p := fun r : Nat × Bytes => decide (r.1 = 0x00E5)) (decide_eq_true hm)] at hb
      cases blocks with
      | nil => cases hb
      | cons b bs =>
        injection hb with hdata hrest
        obtain ⟨hbfit, hbs⟩ := List.forall_mem_cons.mp hfit
        have hp := mergecells_roundtrip b hbfit.1 hbfit.2 []
        rw [List.append_nil, ← hdata] at hp
        rw [if_pos hm, hp, ih bs hne' hrest hbs after]
        rfl
    · rw [List.filter_cons_of_neg (p := fun r : Nat × Bytes => decide (r.1 = 0x00E5))
        (fun hd => hm (of_decide_eq_true hd))] at hb
      rw [if_neg hm, ih blocks hne' hb hfit after]

example : parseMergeCells (encodeMergedCells [⟨0, 0, 1, 1⟩, ⟨65535, 255, 65535, 255⟩]) =
    .ok [⟨0, 0, 1, 1⟩, ⟨65535, 255, 65535, 255⟩] := by decide

/-- workbook level: `Xls::worksheet_merge_cells(name)` — and `worksheet_merge_cells_at(n)` for the sheet's index `n`
    in the metadata — returns the regions of the substream that starts at
    the BoundSheet8 offset of the sheet bearing that name — the declared regions of *that* sheet, in record
    order —, for a sheet list `(lbPlyPos, name)` in which no later sheet repeats the name (a `BTreeMap` keeps the
    last). Hypotheses: every substream's loop ends normally (otherwise `Xls::new` fails as a whole), and the
    records `RecordIter` yields at that offset are `recs` followed by an EOF record (`BiffCells.items_frame_tail`,
    Lemmas/BiffSteps.lean, gives the items of a framed sequence of CONTINUE-free records followed by further
    bytes), whose MERGEDCELLS records carry the blocks. -/
theorem xls_merge_attribution {κ : Type} [DecidableEq κ] (stream : Bytes) (pre post : List (Nat × κ))
    (pos : Nat) (name : κ)
    (hall : ∀ s ∈ pre ++ (pos, name) :: post, s.1 ≤ stream.length ∧
      ∃ ds, sheetMergeItems (BiffCells.items (stream.drop s.1)) = .ok ds)
    (huniq : ∀ s ∈ post, s.2 ≠ name)
    (recs : List Biff.Rec) (d : Bytes) (c : List Bytes) (tail : List BiffCells.Item)
    (hitems : BiffCells.items (stream.drop pos) = recs.map .record ++ .record ⟨0x000A, d, c⟩ :: tail)
    (hne : ∀ r ∈ recs, r.typ ≠ 0x000A) (blocks : List (List Rect))
    (hb : ((recs.map (fun r => (r.typ, r.data))).filter (fun r => r.1 = 0x00E5)).map (·.2) =
      blocks.map encodeMergedCells)
    (hfit : ∀ b ∈ blocks, b.length < 8192 ∧ ∀ x ∈ b, x.Fits16) :
    ∃ map, xlsSheetsMerges stream (pre ++ (pos, name) :: post) [] = .ok map ∧
      xlsWorksheetMergeCells map name = some blocks.flatten ∧
      worksheetMergeCellsAt ((pre ++ (pos, name) :: post).map (·.2)) (xlsWorksheetMergeCells map) pre.length =
        some blocks.flatten := by
  obtain ⟨map, hmap, hA, _⟩ := xlsSheetsMerges_lookup stream (pre ++ (pos, name) :: post) [] hall
  obtain ⟨ds, hds, hlook⟩ := hA pre pos name post rfl huniq
  suffices hby : xlsWorksheetMergeCells map name = some blocks.flatten by
    refine ⟨map, hmap, hby, ?_⟩
    have := worksheetMergeCellsAt_nth (pre.map (·.2)) (post.map (·.2)) name (xlsWorksheetMergeCells map)
    simpa [hby] using this
  rw [hlook]
  rw [hitems, sheetMergeItems_records d c tail recs] at hds
  rw [sheet_mergecells_exact _ blocks (List.forall_mem_map.mpr hne) hb hfit []] at hds
  injection hds with hds
  rw [hds]

/-- for every table reference inside the grid, `headerRowCount ∈ {0, 1}`, any `totalsRowCount`
    and no insert row: the data rectangle computed from the `ref` text (in either spelling) is the reference
    minus its header rows at the top and its totals rows at the bottom when that leaves a data row, and the
    empty rectangle otherwise (after D17 and the robustness fix) -/
theorem table_geometry (m : Mode) (d : Rect) (hv : d.Valid) (h t : Nat) (hh : h ≤ 1) :
    let data : Rect := if d.sr + h + t ≤ d.er then ⟨d.sr + h, d.sc, d.er - t, d.ec⟩ else emptyRect d
    tableDims m (renderRef d) h t false = .ok data ∧ tableDims m (renderRef2 d) h t false = .ok data := by
  intro data
  rw [tableDims_of_getDimension (getDimension_renderRef m d hv),
    tableDims_of_getDimension (getDimension_renderRef2 m d hv),
    tableDimsOf_false d h t (hv.start_add_lt hh)]
  exact ⟨rfl, rfl⟩

/-- `table_by_name` on a table with a data row: the data range has exactly the data rectangle as bounds
    and shows the sheet's value at every position of it (the default value where the sheet's used range does
    not reach) — wherever the table lies relative to the used range, for an empty sheet too; on an empty or
    reversed rectangle the result is the empty range. In both cases `valAt` is the sheet's value inside the
    rectangle and the default outside. -/
theorem table_data_spec {α : Type} [Inhabited α] (rng : Range.Rng α) (hi : Range.Inv rng) (d : Rect)
    (t : Range.Rng α) (h : tableData rng d = .ok t) :
    (d.sr ≤ d.er ∧ d.sc ≤ d.ec → t.start = some (d.sr, d.sc) ∧ t.end_ = some (d.er, d.ec)) ∧
    (¬ (d.sr ≤ d.er ∧ d.sc ≤ d.ec) → t = Range.empty) ∧
    ∀ p q, t.valAt p q = if d.contains p q then rng.valAt p q else default := by
  by_cases hord : d.sr ≤ d.er ∧ d.sc ≤ d.ec
  · rw [tableData_range rng d hord] at h
    obtain ⟨_, _, hs, he⟩ := Range.inv_range rng hi d.sr d.sc d.er d.ec t h
    exact ⟨fun _ => ⟨hs, he⟩, fun hn => absurd hord hn, fun p q => by
      rw [ite_contains, Range.range_spec rng hi d.sr d.sc d.er d.ec t h p q]⟩
  · rw [tableData_empty rng d (by omega)] at h
    injection h with h
    subst h
    refine ⟨fun hn => absurd hn hord, fun _ => rfl, fun p q => ?_⟩
    rw [ite_contains, if_neg (fun hc => hord ⟨Nat.le_trans hc.1 hc.2.1, Nat.le_trans hc.2.2.1 hc.2.2.2⟩)]
    rfl

/-- a table whose header rows, totals rows and insert row leave no data row —
    whatever the counts, including a totals row on a reference ending in row 1 (the former `u32` underflow) and
    counts larger than the reference — gets the empty rectangle, and `table_by_name` returns it with an empty
    data range: `Ok`, never a panic -/
theorem table_degenerate_empty {α : Type} [Inhabited α] (rng : Range.Rng α) (d : Rect) (h t : Nat) (ins : Bool)
    (hdeg : d.er < d.sr + h + t + (if ins then 1 else 0)) :
    tableDimsOf d h t ins = emptyRect d ∧ tableData rng (tableDimsOf d h t ins) = .ok Range.empty := by
  have hd : tableDimsOf d h t ins = emptyRect d := by
    rw [tableDimsOf_eq, if_neg (fun hc => Nat.not_le.mpr hdeg hc.2)]
  rw [hd]
  exact ⟨rfl, tableData_empty rng _ (.inl (by simp [emptyRect]))⟩

/-- for the code of the tree (saturating reference parser), any `ref` text
    whatsoever, any header/totals counts, any `insertRow`, any sheet range: `read_table_metadata`'s geometry
    step returns `Err` (unparsable reference) or a rectangle, and `table_by_name` on that rectangle returns
    `Ok` provided its cell count fits `u32` — the dense allocation of `Range::new` beyond that is the known
    memory finding D37 (C06), not a property of the table code -/
theorem table_by_name_no_panic {α : Type} [Inhabited α] (m : Mode) (hm : m.satArith = true) (hd : m.satDim = true)
    (ref : Bytes) (h t : Nat) (ins : Bool) (rng : Range.Rng α) :
    (∃ e, tableDims m ref h t ins = .err e) ∨
    (∃ d, tableDims m ref h t ins = .ok d ∧
      ((d.er - d.sr + 1) * (d.ec - d.sc + 1) < Range.U32 → ∃ tbl, tableData rng d = .ok tbl)) := by
  unfold tableDims
  refine (getDimension_returns m hm hd ref).elim (fun d0 => .inr ⟨_, rfl, fun harea => ?_⟩) (fun e => .inl ⟨e, rfl⟩)
  generalize tableDimsOf d0 h t ins = d at harea ⊢
  by_cases hord : d.sr ≤ d.er ∧ d.sc ≤ d.ec
  · exact tableData_ok rng d hord harea
  · exact ⟨_, tableData_empty rng d (by omega)⟩

/-- end to end for one table: a reference inside the grid, 0/1 header rows, any number of totals rows, at least one
    data row, fewer than 2^32 data cells; whatever the sheet's range is (any consistent `Range`, empty or
    not, overlapping the table or not): the table's data range is the reference minus header and totals
    rows and shows the sheet's values over it -/
theorem table_exact {α : Type} [Inhabited α] (m : Mode) (rng : Range.Rng α) (hi : Range.Inv rng)
    (d : Rect) (hv : d.Valid) (h t : Nat) (hh : h ≤ 1) (hrows : d.sr + h + t ≤ d.er)
    (harea : (d.er - t - (d.sr + h) + 1) * (d.ec - d.sc + 1) < Range.U32) :
    ∃ dims tbl, tableDims m (renderRef d) h t false = .ok dims ∧ tableData rng dims = .ok tbl ∧
      tbl.start = some (d.sr + h, d.sc) ∧ tbl.end_ = some (d.er - t, d.ec) ∧
      ∀ p q, tbl.valAt p q =
        if d.sr + h ≤ p ∧ p ≤ d.er - t ∧ d.sc ≤ q ∧ q ≤ d.ec then rng.valAt p q else default := by
  have hg := (table_geometry m d hv h t hh).1
  rw [if_pos hrows] at hg
  have hord : d.sr + h ≤ d.er - t ∧ d.sc ≤ d.ec := ⟨Nat.le_sub_of_add_le hrows, hv.2.1⟩
  obtain ⟨tbl, hd⟩ := tableData_ok rng ⟨d.sr + h, d.sc, d.er - t, d.ec⟩ hord harea
  obtain ⟨hse, _, hval⟩ := table_data_spec rng hi _ tbl hd
  obtain ⟨hs, he⟩ := hse hord
  exact ⟨_, tbl, hg, hd, hs, he, fun p q => (hval p q).trans (ite_contains ..)⟩

/-- the table part reader returns what the part declares: display name, reference text, header/totals
    row counts (schema defaults 1 / 0 when omitted) and the column names in order — under any namespace
    prefix, with unrelated attributes and child elements (an `autoFilter` carrying its own `ref`) around -/
theorem table_part_exact (t : TableDecl) (ht : t.Ok) :
    readTablePart (renderTablePart t) {} [] = .ok (⟨t.name, renderRef2 t.rect, t.h, false, t.t⟩, t.cols) :=
  readTablePart_decl t ht

/-- where a table relationship of a sheet in folder `root/dir` points: `../tables/t.xml` resolves against
    `root`, an absolute part name `/xl/tables/t.xml` is the archive entry `xl/tables/t.xml` -/
theorem table_target_resolution (root dir p : Bytes) (hd : ∀ b ∈ dir, b ≠ 47) :
    tableLocation (root ++ 47 :: dir) (46 :: 46 :: 47 :: p) = .ok (some (root ++ 47 :: p)) ∧
    tableLocation (root ++ 47 :: dir) (47 :: p) = .ok (some p) := by
  rw [tableLocation_resolve root dir _ hd, tableLocation_resolve root dir _ hd]
  exact ⟨by simp [resolveTarget], by simp [resolveTarget]⟩

/-- the resolution of a table relationship target returns for arbitrary byte
    strings — sheet folder and target — and a `../` target of a sheet part stored directly in a top-level
    folder (no parent inside the part name) resolves against the package root (since fix d0ab106; the pinned
    code panicked with "Must be a parent folder") -/
theorem table_location_no_panic (base target : Bytes) :
    (∃ o, tableLocation base target = .ok o) ∧
    ((∀ b ∈ base, b ≠ 47) → ∀ p, tableLocation base (46 :: 46 :: 47 :: p) = .ok (some p)) := by
  constructor
  · unfold tableLocation
    by_cases h1 : target.take 3 = [46, 46, 47]
    · rw [if_pos h1]; cases rfindSlash base <;> exact ⟨_, rfl⟩
    · rw [if_neg h1, ← apply_ite, ← apply_ite]; exact ⟨_, rfl⟩
  · intro hb p
    rw [tableLocation, if_pos (show List.take 3 (46 :: 46 :: 47 :: p) = [46, 46, 47] from rfl),
      rfindSlash_noSlash base hb]
    rfl

/-- every sheet path `read_workbook` stores starts with `xl/` (its three arms produce
    `xl/…`), so the `rfind('/').expect("should be in a folder")` of `read_table_metadata` cannot fail -/
theorem rels_path_no_panic (rest : Bytes) : ∃ r, relsPathOf (120 :: 108 :: 47 :: rest) = .ok r :=
  relsPathOf_of_mem (.tail _ (.tail _ (.head _)))

/-- `read_table_metadata` over the workbook: `Xlsx::tables` holds exactly the declared tables — in sheet
    order, then in the order of the sheet's table relationships —, each with its declared name, the name of
    the sheet that declares it, its column names, and as dimensions the reference minus header and totals
    rows; relationships of other types are ignored, relative and absolute targets are followed -/
theorem table_metadata_exact (m : Mode) (parts : List (Bytes × List Ev)) :
    ∀ (sheets : List SheetTablesDecl), (∀ s ∈ sheets, s.Ok parts) →
      readTableMetadata m parts (sheets.map (fun s => (s.name, s.path))) = .ok (sheets.flatMap (·.entries))
  := by
  intro sheets h
  induction sheets with
  | nil => rfl
  | cons s rest ih =>
    obtain ⟨hs, hrest⟩ := List.forall_mem_cons.mp h
    exact readTableMetadata_sheet m parts s hs _ _ (ih hrest)

/-- `table_names_in_sheet(s)`: the names of the tables the sheet `s` declares, in load order — for the list
    `read_table_metadata` produces (`table_metadata_exact`) and a sheet name no other sheet bears -/
theorem table_names_in_sheet_exact (pre post : List SheetTablesDecl) (s : SheetTablesDecl)
    (huniq : ∀ x ∈ pre ++ post, x.name ≠ s.name) :
    tableNamesInSheet ((pre ++ s :: post).flatMap (·.entries)) s.name = s.tables.map (·.2.name) ∧
    tableNames ((pre ++ s :: post).flatMap (·.entries)) =
      (pre ++ s :: post).flatMap (fun x => x.tables.map (·.2.name)) := by
  constructor
  · rw [tableNamesInSheet,
      filter_flatMap_unique (fun t : TableEntry => decide (t.sheet = s.name)) SheetTablesDecl.entries pre post s
        (List.forall_mem_map.mpr (fun p _ => decide_eq_true rfl))
        (fun x hx => List.forall_mem_map.mpr (fun p _ hd => huniq x hx (of_decide_eq_true hd))),
      SheetTablesDecl.entries, List.map_map]
    rfl
  · simp only [tableNames, SheetTablesDecl.entries, List.map_flatMap, List.map_map]
    rfl

/-- `table_by_name` / `table_by_name_ref` and the getters of `Table`: the table found under a name carries the
    name, sheet name and column names of its entry of the loaded list (the declared ones, `table_metadata_exact`),
    its `data()` is the data window of that sheet's range (`table_data_spec`), and `Range::from(table)` is that
    `data` -/
theorem table_by_name_accessors {α : Type} [Inhabited α] (ts : List TableEntry)
    (sheetRange : Bytes → Res (Range.Rng α)) (name : Bytes) (t : Table α)
    (h : tableByName ts sheetRange name = .ok t) :
    ∃ e r, getTableMeta ts name = .ok e ∧ sheetRange e.sheet = .ok r ∧ tableData r e.dims = .ok t.data ∧
      t.name = e.name ∧ t.sheetName = e.sheet ∧ t.columns = e.columns ∧ t.toRange = t.data := by
  unfold tableByName at h
  cases he : getTableMeta ts name with
  | ok e =>
    simp only [he] at h
    cases hr : sheetRange e.sheet with
    | ok r =>
      simp only [hr] at h
      cases hd : tableData r e.dims with
      | ok d =>
        simp only [hd] at h
        injection h with h
        subst h
        exact ⟨e, r, rfl, hr, hd, rfl, rfl, rfl, rfl⟩
      | _ => simp [hd] at h
    | _ => simp [hr] at h
  | _ => simp [he] at h

/-- `table_by_name_ref` vs `table_by_name`: when every sheet's owned range is the cell-wise `Data::from` of its
    borrowed range (`DataConv.toOwnedRange`, C07 `owned_range_cells`), the owned table is the borrowed table
    with the same name, sheet and columns and with `data` converted cell by cell — same outcome class, same
    corners, every cell `toData` of the borrowed cell -/
theorem table_by_name_ref_agrees (ts : List TableEntry) (refRange : Bytes → Res (Range.Rng DataConv.DataRef))
    (name : Bytes) :
    tableByName ts (fun s => mapRes DataConv.toOwnedRange (refRange s)) name =
      mapRes (fun t => ⟨t.name, t.sheetName, t.columns, DataConv.toOwnedRange t.data⟩)
        (tableByName ts refRange name) := by
  unfold tableByName
  cases getTableMeta ts name with
  | ok e =>
    simp only
    cases refRange e.sheet with
    | ok r =>
      simp only [mapRes]
      rw [toOwnedRange_eq, tableData_map DataConv.toData rfl r e.dims]
      cases tableData r e.dims <;> rfl
    | _ => rfl
  | _ => rfl

/-- a sheet `x/w/s` whose relationship part lists a hyperlink and a table relationship `../t`, with the
    archive holding both parts: the hypotheses of `table_metadata_exact` are satisfiable. The archive stores the
    relationship part as `x/W/_rels/s.rels`: `findPart` compares names case-insensitively, as `xml_reader` does -/
example : ∃ parts, (⟨[83], [120], [119], [115],
    some ([], [⟨[104], [46, 46, 47, 116], [], false⟩, ⟨tableRelType, [46, 46, 47, 116], [(nId, [114])], true⟩]),
    [([120, 47, 116], exTable)]⟩ : SheetTablesDecl).Ok parts := by
  refine ⟨[([120, 47, 87, 47, 95, 114, 101, 108, 115, 47, 115, 46, 114, 101, 108, 115],
      renderSheetRels [] [⟨[104], [46, 46, 47, 116], [], false⟩, ⟨tableRelType, [46, 46, 47, 116], [(nId, [114])], true⟩]),
    ([120, 47, 116], renderTablePart exTable)], by decide, by decide, ⟨rfl, fun r hr => ?_, rfl⟩, fun p hp => ?_⟩
  · rcases List.mem_cons.mp hr with rfl | hr
    · exact fun a ha => (List.not_mem_nil ha).elim
    · obtain rfl := List.mem_singleton.mp hr
      intro a ha
      obtain rfl := List.mem_singleton.mp ha
      exact ⟨by decide, by decide⟩
  · obtain rfl := List.mem_singleton.mp hp
    exact ⟨rfl, exTable_ok⟩

/-- the ledger's D17 input: `ref="B2:C5"`, no header row, one totals row: the data are rows 2–4 -/
example (m : Mode) : tableDims m (renderRef ⟨1, 1, 4, 2⟩) 0 1 false = .ok ⟨1, 1, 3, 2⟩ :=
  (table_geometry m ⟨1, 1, 4, 2⟩ (by decide) 0 1 (by decide)).1

/-- C06's fault-search input: a header row and a totals row on `A1:A2` leave no data row -/
example (m : Mode) : tableDims m (renderRef ⟨0, 0, 1, 0⟩) 1 1 false = .ok ⟨1, 0, 0, 0⟩ :=
  (table_geometry m ⟨0, 0, 1, 0⟩ (by decide) 1 1 (by decide)).1

end Geometry
