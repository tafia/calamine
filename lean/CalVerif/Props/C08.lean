import CalVerif.Lemmas.HeaderRow
import CalVerif.Props.C05
/-! # C08 — the header-row option selects the first row without altering any cell
    Theorems about `Model/HeaderRow.lean` (the windowing code of the four readers), built on the
    `Range` contracts of C05 (`range_spec`, `fromSparse_spec_any`). -/
namespace HeaderRow
open Range
set_option linter.unusedSectionVars false
variable {α : Type} [Inhabited α]

/-- default option: the range built at open time is returned as it is -/
theorem eager_default (r : Rng α) : windowEager r .firstNonEmpty = .ok r := rfl

/-- an empty sheet stays empty under every option, without panic -/
theorem eager_empty_sheet (r : Rng α) (h : r.inner.length = 0) (hd : Hdr) : windowEager r hd = .ok r := by
  cases hd <;> simp [windowEager, h]

/-- header row after the last row: empty range, no panic (after ledger fix D03) -/
theorem eager_after_last (r : Rng α) (n : Nat) (hne : r.inner.length ≠ 0) (h : n > r.er) :
    windowEager r (.row n) = .ok empty := by
  simp [windowEager, hne, h]

/-- whatever the eager window returns shows the sheet's values from row `n` on and nothing from a row before -/
theorem eager_valAt (r : Rng α) (hi : Inv r) (n : Nat) (r' : Rng α) (h : windowEager r (.row n) = .ok r')
    (p q : Nat) : r'.valAt p q = if n ≤ p then r.valAt p q else default := by
  simp only [windowEager] at h
  split at h
  · rename_i hemp
    cases h
    rw [valAt_of_out r p q (fun c => c.1 hemp), ite_self]
  · split at h
    · rename_i hgt
      cases h
      rw [valAt_empty]
      split
      · exact (valAt_of_out r p q (by omega)).symm
      · rfl
    · rename_i hne hle
      rw [range_spec r hi n r.sc r.er r.ec r' h p q]
      by_cases hp : n ≤ p
      · rw [if_pos hp]
        split
        · rfl
        · exact (valAt_of_out r p q (by omega)).symm
      · rw [if_neg hp, if_neg (fun c => hp c.1)]

/-- header row at or before the last row: no panic (as long as the window fits `u32` arithmetic —
    a window of ≥ 2^32 cells cannot be allocated anyway), the range starts exactly at row `n`, keeps the
    sheet's column extent and last row, holds the sheet's values at every position with row ≥ n and
    nothing from a row < n. -/
theorem eager_window (r : Rng α) (hi : Inv r) (hne : r.inner.length ≠ 0) (n : Nat) (hn : n ≤ r.er)
    (hfit : rectPre n r.sc r.er r.ec) :
    ∃ r', windowEager r (.row n) = .ok r' ∧ Inv r' ∧
      r'.start = some (n, r.sc) ∧ r'.end_ = some (r.er, r.ec) ∧
      ∀ p q, r'.valAt p q = if n ≤ p then r.valAt p q else default := by
  obtain ⟨r', hr'⟩ := range_of_pre r n r.sc r.er r.ec hfit
  have hw : windowEager r (.row n) = .ok r' := by
    simp only [windowEager, if_neg hne, if_neg (Nat.not_lt.mpr hn), hr']
  obtain ⟨hinv, _, hs, he⟩ := inv_range r hi n r.sc r.er r.ec r' hr'
  exact ⟨r', hw, hinv, hs, he, eager_valAt r hi n r' hw⟩

theorem eager_no_earlier_rows (r : Rng α) (hi : Inv r) (hne : r.inner.length ≠ 0) (n : Nat) (hn : n ≤ r.er)
    (hfit : rectPre n r.sc r.er r.ec) (r' : Rng α) (h : windowEager r (.row n) = .ok r') (p q : Nat)
    (hp : p < n) : r'.valAt p q = default := by
  rw [eager_valAt r hi n r' h, if_neg (Nat.not_le_of_lt hp)]

section lazy
variable [DecidableEq α]

/-- no panic (lazy): for every sheet whose coordinates are sheet coordinates (`InSheet`) and every option (any
    `n`, in particular beyond the data), the lazy readers return a range; the order hypothesis `hs` is not used -/
theorem lazy_no_panic (cells : List (Nat × Nat × α)) (hs : RowSorted cells) (hb : InSheet cells) (h : Hdr) :
    ∃ r, windowLazy cells h = .ok r :=
  fromSparse_of_pre _ (sparsePre_of_sheet _ (keepLazy_inSheet cells hb h))

/-- **lazy readers, explicit header row, cells in ANY order** (no hypothesis on the order in which the part lists
    its cells): if some non-empty cell lies in a row ≥ n, the range starts exactly at row `n`, ends at the largest
    row holding a non-empty cell, and every position with row ≥ n shows the last non-empty cell stored there —
    nothing from a row < n -/
theorem lazy_window_any_order (cells : List (Nat × Nat × α)) (n : Nat)
    (hex : Kn cells n ≠ []) (r' : Rng α) (h : windowLazy cells (.row n) = .ok r') :
    r'.inner.length ≠ 0 ∧ r'.sr = n ∧ (∀ c ∈ Kn cells n, c.1 ≤ r'.er) ∧ (∃ c ∈ Kn cells n, c.1 = r'.er) ∧
    ∀ p q, r'.valAt p q = if n ≤ p then (lastAt (K0 cells) p q).getD default else default := by
  have hge : ∀ c ∈ Kn cells n, n ≤ c.1 := fun c hc => (mem_Kn.mp hc).2.2
  obtain ⟨c0, hc0⟩ := List.exists_mem_of_ne_nil _ hex
  -- what `from_sparse` sees: the kept cells and some cell in row `n`, nothing above row `n`, the kept cells' values
  obtain ⟨hsub, ⟨xn, hxn, hxn1⟩, hsup, hlast⟩ :
      (∀ x ∈ Kn cells n, x ∈ keepLazy cells (.row n)) ∧ (∃ x ∈ keepLazy cells (.row n), x.1 = n) ∧
      (∀ x ∈ keepLazy cells (.row n), x ∈ Kn cells n ∨ x.1 = n) ∧
      ∀ p q, (lastAt (keepLazy cells (.row n)) p q).getD default = (lastAt (Kn cells n) p q).getD default := by
    rcases keepLazy_row cells n with ⟨e, hn⟩ | ⟨c, _, e⟩ <;> rw [e]
    · exact ⟨fun _ hx => hx, hn hex, fun _ hx => Or.inl hx, fun _ _ => rfl⟩
    · exact ⟨fun _ hx => List.mem_cons_of_mem _ hx, ⟨_, List.mem_cons_self .., rfl⟩,
        fun x hx => (List.mem_cons.mp hx).elim (fun e => Or.inr (e ▸ rfl)) Or.inl, fun p q => lastAt_cons_default ..⟩
  unfold windowLazy at h
  obtain ⟨hpos, hmem, ⟨c1, hc1, e1⟩, ⟨c2, hc2, e2⟩, _, _, hv⟩ :=
    fromSparse_spec_any _ (List.ne_nil_of_mem (hsub c0 hc0)) r' h
  have hLge : ∀ x ∈ keepLazy cells (.row n), n ≤ x.1 := fun x hx => (hsup x hx).elim (hge x) (fun e => Nat.le_of_eq e.symm)
  have hsr : r'.sr = n := Nat.le_antisymm (hxn1 ▸ (hmem xn hxn).1) (e1 ▸ hLge c1 hc1)
  refine ⟨hpos, hsr, fun c hc => (hmem c (hsub c hc)).2.1, ?_, fun p q => ?_⟩
  · -- the largest row is attained by a kept cell: by c2 itself, or — if c2 is in row n — by any kept cell
    rcases hsup c2 hc2 with hk | hrow
    · exact ⟨c2, hk, e2⟩
    · exact ⟨c0, hc0, Nat.le_antisymm (hmem c0 (hsub c0 hc0)).2.1 (e2 ▸ hrow ▸ hge c0 hc0)⟩
  · rw [hv p q, hlast p q]
    by_cases hp : n ≤ p
    · rw [if_pos hp, lastAt_Kn cells n p q hp]
    · rw [if_neg hp, lastAt_eq_none (Kn cells n) p q]; · rfl
      exact fun c hc hpq => hp (hpq.1 ▸ hge c hc)

/-- **lazy readers: empty exactly when no non-empty cell lies in a row ≥ n** -/
theorem lazy_empty_iff (cells : List (Nat × Nat × α)) (n : Nat) (r' : Rng α)
    (h : windowLazy cells (.row n) = .ok r') :
    r'.inner.length = 0 ↔ ∀ c ∈ cells, c.2.2 ≠ default → c.1 < n := by
  rw [← Kn_eq_nil_iff]
  constructor
  · intro hemp
    exact Classical.byContradiction fun hex => (lazy_window_any_order cells n hex r' h).1 hemp
  · intro hnil
    rw [windowLazy_row_nil cells n hnil] at h; cases h; rfl

/-- **default option, lazy readers, any order**: the range starts at the FIRST ROW THAT CONTAINS A NON-EMPTY CELL
    (the smallest such row), ends at the largest, and shows at every position the last non-empty cell stored there -/
theorem lazy_default_any_order (cells : List (Nat × Nat × α)) (hne : K0 cells ≠ []) (r0 : Rng α)
    (h : windowLazy cells .firstNonEmpty = .ok r0) :
    r0.inner.length ≠ 0 ∧ (∀ c ∈ K0 cells, r0.sr ≤ c.1 ∧ c.1 ≤ r0.er) ∧
    (∃ c ∈ K0 cells, c.1 = r0.sr) ∧ (∃ c ∈ K0 cells, c.1 = r0.er) ∧
    ∀ p q, r0.valAt p q = (lastAt (K0 cells) p q).getD default := by
  unfold windowLazy keepLazy at h
  obtain ⟨hpos, hmem, t1, t2, _, _, hv⟩ := fromSparse_spec_any (K0 cells) hne r0 h
  exact ⟨hpos, fun c hc => ⟨(hmem c hc).1, (hmem c hc).2.1⟩, t1, t2, hv⟩

theorem lazy_agrees_with_default_any_order (cells : List (Nat × Nat × α)) (n : Nat)
    (r0 r' : Rng α) (h0 : windowLazy cells .firstNonEmpty = .ok r0) (h : windowLazy cells (.row n) = .ok r')
    (p q : Nat) : r'.valAt p q = if n ≤ p then r0.valAt p q else default := by
  rw [fromSparse_valAt (K0 cells) r0 h0 p q]
  by_cases hex : Kn cells n = []
  · rw [windowLazy_row_nil cells n hex] at h; cases h
    rw [valAt_empty]
    split
    · rename_i hp
      rw [← lastAt_Kn cells n p q hp, hex]; rfl
    · rfl
  · exact (lazy_window_any_order cells n hex r' h).2.2.2.2 p q

/-- on the same sheet the two implementations, lazy (xlsx, xlsb) and eager (xls, ods), show the same value at every
    position (their column extents may differ, values may not); the order hypothesis `hs` is not used -/
theorem lazy_eager_agree (cells : List (Nat × Nat × α)) (hs : RowSorted cells) (n : Nat)
    (r0 rl re : Rng α) (h0 : windowLazy cells .firstNonEmpty = .ok r0)
    (hl : windowLazy cells (.row n) = .ok rl) (he : windowEager r0 (.row n) = .ok re) (p q : Nat) :
    rl.valAt p q = re.valAt p q := by
  rw [lazy_agrees_with_default_any_order cells n r0 rl h0 hl p q,
    eager_valAt r0 (inv_fromSparse _ r0 h0).1 n re he p q]

end lazy

/-! ## emptiness as an "exactly when", agreement of the bounds

    `eager_after_last` alone proves "empty when n > r.er" for an ARBITRARY rectangle `r`, which is the property's
    "otherwise it is empty" only for a range that is tight at the bottom (counter-instance: the `example` below). -/

/-- the sheet's range is tight at the bottom: its last row holds a non-default cell. The readers build the
    bounding box of the non-empty cells (C02 `biff_sheet_roundtrip`, C04 `ods_range_spec`); for the lazy readers'
    default range this is `lazy_default_tight` -/
def TightBottom (r : Rng α) : Prop := ∃ q, r.valAt r.er q ≠ default

/-- **eager readers: empty exactly when no non-empty cell lies in a row ≥ n** (for a sheet range that is
    tight at the bottom; for an arbitrary rectangle only `→` would hold) -/
theorem eager_empty_iff (r : Rng α) (hi : Inv r) (hne : r.inner.length ≠ 0) (ht : TightBottom r) (n : Nat)
    (r' : Rng α) (h : windowEager r (.row n) = .ok r') :
    r'.inner.length = 0 ↔ ∀ p q, n ≤ p → r.valAt p q = default := by
  by_cases hgt : n > r.er
  · rw [eager_after_last r n hne hgt] at h; cases h
    exact ⟨fun _ p q hp => valAt_of_out r p q (by omega), fun _ => rfl⟩
  · simp only [windowEager, if_neg hne, if_neg hgt] at h
    obtain ⟨_, hpos, _, _⟩ := inv_range r hi n r.sc r.er r.ec r' h
    obtain ⟨q, hq⟩ := ht
    exact ⟨fun h0 => absurd h0 hpos, fun hall => absurd (hall r.er q (Nat.le_of_not_lt hgt)) hq⟩

/-- when it is not empty the eager window starts exactly at row `n` and ends at the sheet's last row -/
theorem eager_bounds (r : Rng α) (hi : Inv r) (hne : r.inner.length ≠ 0) (n : Nat) (hn : n ≤ r.er)
    (r' : Rng α) (h : windowEager r (.row n) = .ok r') :
    r'.inner.length ≠ 0 ∧ r'.start = some (n, r.sc) ∧ r'.end_ = some (r.er, r.ec) := by
  simp only [windowEager, if_neg hne, if_neg (Nat.not_lt.mpr hn)] at h
  exact (inv_range r hi n r.sc r.er r.ec r' h).2

section bounds
variable [DecidableEq α]

theorem lazy_default_tight (cells : List (Nat × Nat × α)) (hne : K0 cells ≠ []) (r0 : Rng α)
    (h : windowLazy cells .firstNonEmpty = .ok r0) : TightBottom r0 := by
  obtain ⟨_, _, _, ⟨c, hc, hce⟩, hv⟩ := lazy_default_any_order cells hne r0 h
  refine ⟨c.2.1, ?_⟩
  rw [hv, ← hce]
  -- some cell of K0 sits at (c.1, c.2.1): the last one there carries a non-default value
  unfold lastAt
  have hex : ∃ x ∈ (K0 cells).reverse, decide (x.1 = c.1 ∧ x.2.1 = c.2.1) = true :=
    ⟨c, List.mem_reverse.mpr hc, decide_eq_true ⟨rfl, rfl⟩⟩
  obtain ⟨x, hx⟩ := Option.isSome_iff_exists.mp (List.find?_isSome.mpr hex)
  rw [hx]
  exact (mem_K0.mp (List.mem_reverse.mp (List.mem_of_find?_eq_some hx))).2

/-- bounds and emptiness: on the same sheet (cells in any order) the lazy window and the
    eager window of the default range are empty together, and otherwise have the same first row `n` and the same
    last row (their column extents may differ: the lazy one is tight on the kept cells) -/
theorem lazy_eager_bounds_agree (cells : List (Nat × Nat × α)) (n : Nat) (r0 rl re : Rng α)
    (h0 : windowLazy cells .firstNonEmpty = .ok r0) (hl : windowLazy cells (.row n) = .ok rl)
    (he : windowEager r0 (.row n) = .ok re) :
    (rl.inner.length = 0 ↔ re.inner.length = 0) ∧
    (rl.inner.length ≠ 0 → rl.sr = n ∧ re.sr = n ∧ rl.er = re.er) := by
  obtain ⟨hi, hemp0⟩ := inv_fromSparse _ r0 h0
  by_cases hk0 : K0 cells = []
  · -- no non-empty cell at all: everything is empty
    have e0 : r0.inner.length = 0 := hemp0.mpr hk0
    have hkn : Kn cells n = [] := by rw [Kn_eq, hk0]; rfl
    rw [eager_empty_sheet r0 e0] at he; cases he
    rw [windowLazy_row_nil cells n hkn] at hl; cases hl
    exact ⟨⟨fun _ => e0, fun _ => rfl⟩, fun h => absurd rfl h⟩
  · obtain ⟨hpos0, hmem0, _, ⟨cmax, hcmax, hcm⟩, _⟩ := lazy_default_any_order cells hk0 r0 h0
    by_cases hex : Kn cells n = []
    · -- every non-empty cell is above row n
      have hlt : r0.er < n := by
        have := Kn_eq_nil_iff.mp hex cmax (mem_K0.mp hcmax).1 (mem_K0.mp hcmax).2
        omega
      rw [windowLazy_row_nil cells n hex] at hl; cases hl
      rw [eager_after_last r0 n hpos0 hlt] at he; cases he
      exact ⟨⟨fun _ => rfl, fun _ => rfl⟩, fun h => absurd rfl h⟩
    · obtain ⟨hposl, hsrl, hlel, ⟨cl, hcl, hcle⟩, _⟩ := lazy_window_any_order cells n hex rl hl
      have hclK := mem_Kn.mp hcl
      -- the largest non-empty row is ≥ n, so it is the largest kept row too
      have hn : n ≤ r0.er := by
        have b := (hmem0 cl (mem_K0.mpr ⟨hclK.1, hclK.2.1⟩)).2
        omega
      have her : rl.er = r0.er := by
        have a := hlel cmax (mem_Kn.mpr ⟨(mem_K0.mp hcmax).1, (mem_K0.mp hcmax).2, by omega⟩)
        have b := (hmem0 cl (mem_K0.mpr ⟨hclK.1, hclK.2.1⟩)).2
        omega
      obtain ⟨hpose, hse, hee⟩ := eager_bounds r0 hi hpos0 n hn re he
      rw [Rng.start, if_neg hpose] at hse
      rw [Rng.end_, if_neg hpose] at hee
      injection hse with hse; injection hee with hee
      exact ⟨⟨fun h => absurd h hposl, fun h => absurd h hpose⟩,
        fun _ => ⟨hsrl, (Prod.mk.inj hse).1, by rw [her, (Prod.mk.inj hee).1]⟩⟩

end bounds

/-- the counter-instance: on a rectangle that is NOT tight at the bottom the eager window under
    `Row(1)` is a non-empty all-default range, although no non-empty cell lies in a row ≥ 1 -/
example : windowEager (⟨0, 0, 2, 0, [5, 0, 0]⟩ : Rng Nat) (.row 1) = .ok ⟨1, 0, 2, 0, [0, 0]⟩ := by rfl
example : ¬ TightBottom (⟨0, 0, 2, 0, [5, 0, 0]⟩ : Rng Nat) := by
  intro ⟨q, hq⟩
  simp only [Rng.valAt] at hq
  split at hq
  · rename_i h
    have : q = 0 := by omega
    subst this
    exact hq (by decide)
  · exact hq rfl

example : windowEager (⟨1, 0, 2, 1, [5, 0, 0, 7]⟩ : Rng Nat) (.row 2) = .ok ⟨2, 0, 2, 1, [0, 7]⟩ := by rfl
example : windowEager (⟨1, 0, 2, 1, [5, 0, 0, 7]⟩ : Rng Nat) (.row 9) = .ok empty := by rfl
example : windowLazy [(1, 1, 5), (4, 2, 7), (6, 0, 9)] (.row 3) =
    (.ok ⟨3, 0, 6, 2, [0, 0, 0, 0, 0, 7, 0, 0, 0, 9, 0, 0]⟩ : Res (Rng Nat)) := by rfl
example : RowSorted [(1, 1, 5), (4, 2, 7), (6, 0, 9)] ∧ InSheet [(1, 1, 5), (4, 2, 7), (6, 0, 9)] := by
  refine ⟨by simp [RowSorted], ?_⟩
  intro c hc; simp at hc; rcases hc with rfl | rfl | rfl <;> decide

end HeaderRow
