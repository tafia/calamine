import CalVerif.Lemmas.SharedFormula
import CalVerif.Lemmas.SharedEvents
/-! # C15 — XLSX shared formulas expand to the translated formula of each member cell

    Model: `Model/SharedFormula.lean` (the Rust code after the fixes D11, D12, D13 and the map-by-`si` repair);
    grammar/spec: `Spec/FormulaTokens.lean`; helper lemmas: `Lemmas/SharedFormula.lean`; at the level of XML events:
    encoder `Spec/SharedSheet.lean`, lemmas `Lemmas/SharedEvents.lean`. -/

namespace C15
open SharedFormula
open FormulaTokens (Tok letter colLetters dec dollar renderTok render shiftTok shift move identChar
  cellLike firstChar endsRun notCallOrSheet inSheet tokWF wf WF bracketScan)

/-- offsetting a single rendered reference moves exactly its relative components
    (the `$` components stay), provided the reference and its image lie in the sheet. -/
theorem ref_shift (ca ra : Bool) (c r : Nat) (d : Int × Int) (hc : c < 16384) (hr : r < 1048576)
    (hin : inSheet ((r : Int) + (if ra then 0 else d.1)) ((c : Int) + (if ca then 0 else d.2)) = true) :
    offsetCellRef (renderTok (.ref ca c ra r)) d
      = some (renderTok (.ref ca (if ca then c else ((c : Int) + d.2).toNat) ra
                                  (if ra then r else ((r : Int) + d.1).toNat))) :=
  offsetCellRef_ref ca ra c r d hc hr hin

/-- `replace_cell_names` returns `Ok` on every text (after D13: no error on non-ASCII text, no
    panic, and the model's loop budget `fuel = length` always suffices). -/
theorem replace_never_fails (s : List Char) (d : Int × Int) : ∃ r, replaceCellNames s d = .ok r :=
  ⟨_, replaceCellNames_eq s d⟩

/-- a quoted region (`"…"` string literal or `'…'` sheet name) is reproduced
    unchanged whatever it contains, and the text after it is translated as if it stood alone. -/
theorem strings_opaque (q : Char) (hq : q = '"' ∨ q = '\'') (s rest : List Char) (d : Int × Int)
    (hs : ∀ x ∈ s, x ≠ q) :
    replaceCellNames (q :: (s ++ q :: rest)) d = pre (q :: s ++ [q]) (replaceCellNames rest d) := by
  rw [pre_replace, replaceCellNames_eq, rew_cons, next_quoted d q s rest hq hs]

/-- a balanced bracketed span `[…]` (structured-reference specifier, workbook
    index) is reproduced unchanged whatever it contains, and the text after it is translated as if it
    stood alone. -/
theorem structs_opaque (s rest : List Char) (d : Int × Int) (hs : bracketScan 0 s = some 0) :
    replaceCellNames ('[' :: (s ++ ']' :: rest)) d = pre ('[' :: s ++ [']']) (replaceCellNames rest d) := by
  rw [pre_replace, replaceCellNames_eq, rew_cons, next_bracket d s rest hs]

/-- a maximal run of identifier characters that does not look like a cell of
    the sheet, or that is followed by `(` (function name), `!` (sheet name) or `[` (table name), is reproduced
    unchanged, and the text after it is translated as if it stood alone. -/
theorem idents_unchanged (run rest : List Char) (d : Int × Int) (hne : run ≠ [])
    (hrun : ∀ x ∈ run, identChar x = true) (hmax : endsRun rest.head? = true)
    (h : cellLike run = false ∨ notCallOrSheet rest.head? = false) :
    replaceCellNames (run ++ rest) d = pre run (replaceCellNames rest d) := by
  rw [pre_replace, replaceCellNames_eq, rew_run d run rest hne (isNameChar_eq_identChar ▸ hrun) hmax,
    runOut_unchanged d run rest h]

/-- After D13: on every well-formed (unambiguously rendered) token list
    the implementation's rewriting is the translation of the formula: relative components of
    references move by the offset, absolute components, strings, sheet names, function and
    defined names, numbers and punctuation are reproduced unchanged. -/
theorem translate_correct (toks : List Tok) (d : Int × Int) (h : WF toks d) :
    replaceCellNames (render toks) d = .ok (render (shift toks d)) := by
  rw [replaceCellNames_eq, rew_render toks d h]

/-- After D11, against a description that does not mention the code's
    `Dimensions::contains`: for every master position `(mr, mc)`, every declared rectangle
    `(sr, sc)–(er, ec)` and every cell `(r, c)` of the sheet,
    * the cell gets an offset iff `sr ≤ r ≤ er` and `sc ≤ c ≤ ec`,
    * and the offset it gets is `(r − mr, c − mc)`; outside the rectangle it gets none. -/
theorem group_covers_ref (text : List Char) (sr sc er ec mr mc r c : Nat) :
    let g : Group := ⟨text, ⟨sr, sc, er, ec⟩, (mr, mc)⟩
    (g.offsetOf (r, c) = some ((r : Int) - (mr : Int), (c : Int) - (mc : Int))
        ↔ (sr ≤ r ∧ r ≤ er ∧ sc ≤ c ∧ c ≤ ec))
    ∧ (g.offsetOf (r, c) = none ↔ ¬ (sr ≤ r ∧ r ≤ er ∧ sc ≤ c ∧ c ≤ ec))
    ∧ (∀ o, g.offsetOf (r, c) = some o → o = ((r : Int) - (mr : Int), (c : Int) - (mc : Int))) := by
  intro g
  have e : g.offsetOf (r, c) = if sr ≤ r ∧ r ≤ er ∧ sc ≤ c ∧ c ≤ ec
      then some ((r : Int) - (mr : Int), (c : Int) - (mc : Int)) else none := by
    exact Group.offsetOf_eq g (r, c)
  rw [e]
  by_cases h : sr ≤ r ∧ r ≤ er ∧ sc ≤ c ∧ c ≤ ec
  · rw [if_pos h]
    exact ⟨⟨fun _ => h, fun _ => rfl⟩, ⟨fun hn => (nomatch hn), fun hn => absurd h hn⟩, fun o ho => (Option.some.inj ho).symm⟩
  · rw [if_neg h]
    exact ⟨⟨fun hs => (nomatch hs), fun hh => absurd hh h⟩, ⟨fun _ => h, fun _ => rfl⟩, fun o ho => nomatch ho⟩

/-- the same by enumeration: the cell `i` rows and `j` columns from the top-left corner of a
    declared range of height `h` and width `w` (`h = 1`: a row, `w = 1`: a column, otherwise a block)
    has the offset "its position − master position", whatever the master position -/
theorem group_covers_ref_enum (text : List Char) (sr sc h w mr mc i j : Nat) (hi : i < h) (hj : j < w) :
    (Group.mk text ⟨sr, sc, sr + (h - 1), sc + (w - 1)⟩ (mr, mc)).offsetOf (sr + i, sc + j)
      = some (((sr + i : Nat) : Int) - (mr : Int), ((sc + j : Nat) : Int) - (mc : Int)) :=
  ((group_covers_ref text sr sc (sr + (h - 1)) (sc + (w - 1)) mr mc (sr + i) (sc + j)).1).mpr
    ⟨Nat.le_add_right _ _, Nat.add_le_add_left (Nat.le_sub_one_of_lt hi) _,
      Nat.le_add_right _ _, Nat.add_le_add_left (Nat.le_sub_one_of_lt hj) _⟩

/-- After D12: formulas are stored and looked up by `si`, whatever the order in
    which the masters appear: after storing groups with pairwise distinct `si` in any order, looking
    up the `si` of any of them yields exactly that group. -/
theorem si_any_order (t : Table) (defs : List (Nat × Group)) (hd : (defs.map Prod.fst).Nodup)
    (si : Nat) (g : Group) (hm : (si, g) ∈ defs) : (storeAll t defs).lookup si = some g :=
  lookup_storeAll_of_mem t defs hd si g hm

/-- the table holds at most one entry per declared group, whatever the values of `si` (the repair of
    the table-sized-by-`si` regression: memory follows the number of groups) -/
theorem table_size_bounded (t : Table) (defs : List (Nat × Group)) :
    (storeAll t defs).length ≤ t.length + defs.length := by
  unfold storeAll
  induction defs generalizing t with
  | nil => simp
  | cons p ps ih =>
    simp only [List.foldl_cons, List.length_cons]
    have h1 := ih (t.store p.1 p.2)
    have h2 := Table.store_length t p.1 p.2
    omega

/-- a permutation of the master definitions (keys pairwise distinct) gives the same lookup for the `si` of a declared
    group (`lookup_storeAll_perm`: for every `si`) -/
theorem si_any_order_perm (t : Table) (defs defs' : List (Nat × Group)) (hp : defs.Perm defs')
    (hd : (defs.map Prod.fst).Nodup) (si : Nat) (g : Group) (hm : (si, g) ∈ defs) :
    (storeAll t defs').lookup si = (storeAll t defs).lookup si :=
  lookup_storeAll_perm t defs defs' hp hd si

/-- the master cell of a group reports its own formula text, and from then on
    the group is found under its `si` (with its declared range and the master's position). -/
theorem master_formula (t : Table) (pos : Nat × Nat) (text : List Char) (si : Nat) (ref : Rect) :
    ∃ t', cellFormula t ⟨pos, some (text, some ⟨some si, some ref⟩)⟩ = .ok (t', text)
      ∧ t'.lookup si = some ⟨text, ref, pos⟩
      ∧ ∀ sj, sj ≠ si → t'.lookup sj = t.lookup sj :=
  ⟨t.store si ⟨text, ref, pos⟩, rfl, Table.lookup_store_same _ _ _,
    fun sj h => Table.lookup_store_ne t sj si _ h⟩

/-- a cell without formula has none, a cell with a formula of its own
    keeps it, a cell that names a group but lies outside the group's declared range (or names an
    unknown group) keeps its own text; none of them changes the table of groups. -/
theorem non_members_unaffected (t : Table) (pos : Nat × Nat) (text : List Char) :
    cellFormula t ⟨pos, none⟩ = .ok (t, [])
    ∧ cellFormula t ⟨pos, some (text, none)⟩ = .ok (t, text)
    ∧ (∀ si, t.lookup si = none → cellFormula t ⟨pos, some (text, some ⟨some si, none⟩)⟩ = .ok (t, text))
    ∧ (∀ si g, t.lookup si = some g → g.ref.contains pos.1 pos.2 = false →
        cellFormula t ⟨pos, some (text, some ⟨some si, none⟩)⟩ = .ok (t, text)) := by
  refine ⟨rfl, rfl, fun si h => ?_, fun si g h hc => ?_⟩
  · rw [cellFormula_follower, followerText, h]
  · rw [cellFormula_follower, followerText, h]
    simp only [Group.offsetOf, hc, Bool.false_eq_true, if_false]

/-- The property, end to end on the model of `next_formula`: in any sheet,
    a member cell `c` of the group `si` — the master `m` with formula `render toks` and declared
    range `ref` appears earlier, no cell in between redefines `si`, and `c` lies in `ref` — reports
    the master formula translated by `c.pos − m.pos`, provided the formula is well-formed for that
    offset; the cells before the master and between master and member are arbitrary (other groups in
    any `si` order, non-members). -/
theorem member_formula (t0 t : Table) (before between : List CellIn) (m c : CellIn)
    (toks : List Tok) (si : Nat) (ref : Rect) (own : List Char)
    (hm : m.f = some (render toks, some ⟨some si, some ref⟩))
    (hbetween : ∀ x ∈ between, ¬ definesGroup x si)
    (hc : c.f = some (own, some ⟨some si, none⟩))
    (hin : ref.contains c.pos.1 c.pos.2 = true)
    (hwf : WF toks ((c.pos.1 : Int) - (m.pos.1 : Int), (c.pos.2 : Int) - (m.pos.2 : Int)))
    (hrun : runTable t0 (before ++ m :: between) = .ok t) :
    cellFormula t c = .ok (t, render (shift toks ((c.pos.1 : Int) - (m.pos.1 : Int), (c.pos.2 : Int) - (m.pos.2 : Int)))) := by
  have ht : t.lookup si = some ⟨render toks, ref, m.pos⟩ := by
    rw [lookup_runTable _ t0 t si hrun, lastMaster_master before between m (render toks) si ref hm hbetween]
    rfl
  obtain ⟨cpos, cf⟩ := c
  subst hc
  rw [cellFormula_follower, followerText, ht]
  simp only [Group.offsetOf, hin, if_true, rew_render toks _ hwf]

/-- `worksheet_formula` reports exactly what `next_formula` computes cell by cell: if the sheet is
    read without error, then for every cell `c` of the sheet (`cells = a ++ c :: b`) the table `ta`
    reached after the cells before it and the text `v` computed for it satisfy: `v` non-empty ⇒
    `(c.pos, v)` is in the reported list. Together with `member_formula` this carries the property
    to the output of `worksheet_formula`. -/
theorem sheet_reports_cell (t : Table) (a b : List CellIn) (c : CellIn) (out : List ((Nat × Nat) × List Char))
    (h : sheetFormulas t (a ++ c :: b) = .ok out) :
    ∃ ta tb v, runTable t a = .ok ta ∧ cellFormula ta c = .ok (tb, v) ∧ (v ≠ [] → (c.pos, v) ∈ out) := by
  induction a generalizing t out with
  | nil =>
    obtain ⟨t', v, rest, hc, _, rfl⟩ := sheetFormulas_cons_ok t c b out h
    exact ⟨t, t', v, rfl, hc, fun hv => by rw [if_neg hv]; exact List.mem_cons_self⟩
  | cons x xs ih =>
    obtain ⟨t', vx, rest, hx, hr, rfl⟩ := sheetFormulas_cons_ok t x (xs ++ c :: b) out h
    obtain ⟨ta, tb, v, h1, h2, h3⟩ := ih t' rest hr
    refine ⟨ta, tb, v, by simp only [runTable, hx]; exact h1, h2, fun hv => ?_⟩
    by_cases hvx : vx = []
    · rw [if_pos hvx]; exact h3 hv
    · rw [if_neg hvx]; exact List.mem_cons_of_mem _ (h3 hv)

/-- the `ref` attribute as written (`B1:C2`, or `B1` for a single cell) is read back by
    `get_dimension` as the declared range, for all positions of the sheet's columns -/
theorem ref_attribute_roundtrip (p q : Nat × Nat) (hp : p.2 < 16384) (hq : q.2 < 16384) :
    getDimension (a1 p ++ ':' :: a1 q) = .ok ⟨p.1, p.2, q.1, q.2⟩
    ∧ getDimension (a1 p) = .ok ⟨p.1, p.2, p.1, p.2⟩ := by
  constructor
  · unfold getDimension
    rw [splitColon_one _ _ (a1_no_colon p hp) (a1_no_colon q hq)]
    simp only [a1, getRowColumn_name _ _ hp, getRowColumn_name _ _ hq]
  · unfold getDimension
    rw [splitColon_none _ (a1_no_colon p hp)]
    simp only [a1, getRowColumn_name _ _ hp]

/-! ### the whole sheet, exactly

    A description of what `worksheet_formula` must return that does not mention the table of groups:
    the group a follower belongs to is found by looking back through the cells written before it. -/

/-- the formula a cell must report, given the cells written before it: nothing without `<f>`; its own
    text for a plain formula and for a master; for a follower of group `si` the text of the last
    master of `si` translated by (position − master position) if the cell lies in that master's declared
    range, and its own text otherwise (no such master, or outside the range) -/
def specText (before : List CellIn) (c : CellIn) : List Char :=
  match c.f with
  | none => []
  | some (text, none) => text
  | some (text, some ⟨_, some _⟩) => text
  | some (text, some ⟨none, none⟩) => text
  | some (text, some ⟨some si, none⟩) =>
    match lastMaster before si with
    | some g =>
      if g.ref.sr ≤ c.pos.1 ∧ c.pos.1 ≤ g.ref.er ∧ g.ref.sc ≤ c.pos.2 ∧ c.pos.2 ≤ g.ref.ec then
        translate g.text ((c.pos.1 : Int) - (g.master.1 : Int), (c.pos.2 : Int) - (g.master.2 : Int))
      else text
    | none => text

/-- the list `worksheet_formula` must hand to `Range::from_sparse`: the cells with a non-empty
    formula, in document order -/
def specOut : List CellIn → List CellIn → List ((Nat × Nat) × List Char)
  | _, [] => []
  | before, c :: cs =>
    (if specText before c = [] then [] else [(c.pos, specText before c)]) ++ specOut (before ++ [c]) cs

/-- every `t="shared"` formula carries a numeric `si` (otherwise the reader returns an error) -/
def hasSi (c : CellIn) : Prop :=
  ∀ text ref, c.f ≠ some (text, some ⟨none, ref⟩)

/-- one cell: the model of `next_formula` computes `specText`, and keeps the table equal to "last
    master per `si`" -/
theorem cellFormula_spec (t : Table) (before : List CellIn) (c : CellIn) (hsi : hasSi c)
    (hinv : ∀ si, t.lookup si = lastMaster before si) :
    ∃ t', cellFormula t c = .ok (t', specText before c) ∧ ∀ si, t'.lookup si = lastMaster (before ++ [c]) si := by
  have htext : ∃ t', cellFormula t c = .ok (t', specText before c) := by
    obtain ⟨pos, _ | ⟨text, _ | ⟨_ | sj, _ | ref⟩⟩⟩ := c
    · exact ⟨t, rfl⟩
    · exact ⟨t, rfl⟩
    · exact absurd rfl (hsi text none)
    · exact absurd rfl (hsi text (some ref))
    · refine ⟨t, ?_⟩
      rw [cellFormula_follower]
      simp only [followerText, specText, hinv sj, Group.offsetOf_eq, translate_eq]
      cases lastMaster before sj with
      | none => rfl
      | some g =>
        by_cases hin : g.ref.sr ≤ pos.1 ∧ pos.1 ≤ g.ref.er ∧ g.ref.sc ≤ pos.2 ∧ pos.2 ≤ g.ref.ec
        · simp only [if_pos hin]
        · simp only [if_neg hin]
    · exact ⟨_, rfl⟩
  obtain ⟨t', h⟩ := htext
  exact ⟨t', h, fun si => by rw [lookup_cellFormula t t' c _ si h, hinv si, lastMaster_snoc]⟩

theorem sheetFormulas_spec (cells before : List CellIn) (t : Table) (hsi : ∀ c ∈ cells, hasSi c)
    (hinv : ∀ si, t.lookup si = lastMaster before si) :
    sheetFormulas t cells = .ok (specOut before cells) := by
  induction cells generalizing before t with
  | nil => rfl
  | cons c cs ih =>
    obtain ⟨t', h1, h2⟩ := cellFormula_spec t before c (hsi c (by simp)) hinv
    simp only [sheetFormulas, h1, ih (before ++ [c]) t' (fun x hx => hsi x (by simp [hx])) h2, specOut]
    split <;> simp [*]

/-- on every sheet whose shared formulas carry an `si`, the list
    `worksheet_formula` builds is *exactly* `specOut [] cells` — every cell with a non-empty expected
    formula appears once, with that formula, in document order, and nothing else appears: masters and
    plain formulas with their own text, members with the translated master, cells outside every
    group (and cells without `<f>`) unaffected. -/
theorem sheet_formulas_exact (cells : List CellIn) (hsi : ∀ c ∈ cells, hasSi c) :
    sheetFormulas [] cells = .ok (specOut [] cells) :=
  sheetFormulas_spec cells [] [] hsi (fun _ => rfl)

/-- consequence: a position is reported iff some cell at that position has a non-empty expected formula -/
theorem specOut_mem (cells before : List CellIn) (p : Nat × Nat) (v : List Char) :
    (p, v) ∈ specOut before cells ↔
      ∃ a c b, cells = a ++ c :: b ∧ c.pos = p ∧ specText (before ++ a) c = v ∧ v ≠ [] := by
  induction cells generalizing before with
  | nil => simp [specOut]
  | cons x xs ih =>
    rw [specOut, List.mem_append, ih, exists_split_cons, List.append_nil]
    simp only [List.append_assoc, List.singleton_append]
    refine or_congr ?_ Iff.rfl
    -- the entry of `x` itself is there iff its text is not empty
    by_cases hx : specText before x = []
    · rw [if_pos hx, hx]; exact ⟨nofun, fun h => (h.2.2 h.2.1.symm).elim⟩
    · rw [if_neg hx, List.mem_singleton, Prod.mk.injEq]
      exact ⟨fun h => ⟨h.1.symm, h.2.symm, h.2 ▸ hx⟩, fun h => ⟨h.1.symm, h.2.1.symm⟩⟩

/-! ### the same on the XML events of the worksheet part

    `XlsxFormula.readFormulas` is the event-level model of `next_formula` (C01's event model, C14's
    formula reader, extended with the shared-formula arms); `SharedSheet.render` writes a logical sheet
    with shared groups as the event list of `<worksheet><sheetData><row><c><f t="shared" …>`. -/

open SharedSheet in
/-- what the reader must report for every `<c>` of the sheet, in document order (UTF-8 text, empty for a
    cell without formula), by the table-free description `specText` -/
def specAll : List CellIn → List CellIn → List (Nat × Nat × XlsxCells.Bytes)
  | _, [] => []
  | before, c :: cs => (c.pos.1, c.pos.2, Utf8.utf8Encode (specText before c)) :: specAll (before ++ [c]) cs

theorem specAll_append (before x y : List CellIn) :
    specAll before (x ++ y) = specAll before x ++ specAll (before ++ x) y := by
  induction x generalizing before with
  | nil => simp [specAll]
  | cons c cs ih => simp [specAll, ih, List.append_assoc]

theorem specAll_length (before x : List CellIn) : (specAll before x).length = x.length := by
  induction x generalizing before with
  | nil => rfl
  | cons c cs ih => simp [specAll, ih]

theorem texts_spec (cells before : List CellIn) (t : Table) (hsi : ∀ c ∈ cells, hasSi c)
    (hinv : ∀ si, t.lookup si = lastMaster before si) :
    SharedSheet.texts t cells = specAll before cells := by
  induction cells generalizing before t with
  | nil => rfl
  | cons c cs ih =>
    obtain ⟨t', h1, h2⟩ := cellFormula_spec t before c (hsi c (by simp)) hinv
    have hs : SharedSheet.stepCell t c = (t', specText before c) := by simp [SharedSheet.stepCell, h1]
    simp only [SharedSheet.texts, specAll, hs]
    rw [ih (before ++ [c]) t' (fun x hx => hsi x (by simp [hx])) h2]

theorem toCells_hasSi (s : SharedSheet.SSheet) : ∀ c ∈ SharedSheet.toCells s, hasSi c := by
  intro c hc
  simp only [SharedSheet.toCells, SharedSheet.rowCells, List.mem_flatMap, List.mem_map] at hc
  obtain ⟨row, _, cell, _, rfl⟩ := hc
  intro text ref h
  unfold SharedSheet.toCellIn at h
  cases hf : cell.2.f <;> simp [hf] at h

/-- on the XML events of any well-formed rendered sheet with shared groups (any
    shapes, any master positions, any `si` values and order, non-member cells, either element prefix)
    the event-level model of `next_formula` reports, for every `<c>` in document order, exactly the text
    the table-free description `specText` prescribes: own text for masters and plain formulas, the
    translated master for members, nothing for the others. -/
theorem sheet_events_exact (s : SharedSheet.SSheet) (p : Bool) (hwf : s.WF) :
    XlsxFormula.readFormulas (SharedSheet.render s p) = .ok (specAll [] (SharedSheet.toCells s)) := by
  rw [SharedSheet.readFormulas_render s p hwf, texts_spec _ [] [] (toCells_hasSi s) (fun _ => rfl)]

/-- on the events of a rendered sheet containing shared groups, a follower
    `c` of group `si` (its master `m` with text `render toks` and declared range `ref` comes earlier in
    the document, no cell in between redefines `si`, `c` lies in `ref`) is reported with the master formula
    translated by `c.pos − m.pos` — `replace_cell_names(master, Δ)`, which is `render (shift toks Δ)` for a
    formula well-formed for that offset — at its place in the document order. -/
theorem member_formula_events (s : SharedSheet.SSheet) (p : Bool) (hwf : s.WF)
    (a b rest : List CellIn) (m c : CellIn) (toks : List Tok) (si : Nat) (ref : Rect) (own : List Char)
    (hcells : SharedSheet.toCells s = a ++ m :: b ++ c :: rest)
    (hm : m.f = some (render toks, some ⟨some si, some ref⟩))
    (hb : ∀ x ∈ b, ¬ definesGroup x si)
    (hc : c.f = some (own, some ⟨some si, none⟩))
    (hin : ref.contains c.pos.1 c.pos.2 = true)
    (hwfT : WF toks ((c.pos.1 : Int) - (m.pos.1 : Int), (c.pos.2 : Int) - (m.pos.2 : Int))) :
    ∃ l1 l2, XlsxFormula.readFormulas (SharedSheet.render s p) =
        .ok (l1 ++ (c.pos.1, c.pos.2, Utf8.utf8Encode
              (render (shift toks ((c.pos.1 : Int) - (m.pos.1 : Int), (c.pos.2 : Int) - (m.pos.2 : Int))))) :: l2)
      ∧ l1.length = a.length + 1 + b.length
      ∧ replaceCellNames (render toks) ((c.pos.1 : Int) - (m.pos.1 : Int), (c.pos.2 : Int) - (m.pos.2 : Int))
          = .ok (render (shift toks ((c.pos.1 : Int) - (m.pos.1 : Int), (c.pos.2 : Int) - (m.pos.2 : Int)))) := by
  have htr := translate_correct toks _ hwfT
  have hlm := lastMaster_master a b m (render toks) si ref hm hb
  have hspec : specText (a ++ m :: b) c
      = render (shift toks ((c.pos.1 : Int) - (m.pos.1 : Int), (c.pos.2 : Int) - (m.pos.2 : Int))) := by
    obtain ⟨cpos, cf⟩ := c
    simp only at hc hin htr ⊢
    subst hc
    simp only [specText, hlm, if_pos ((Rect.contains_iff ..).mp hin), translate, htr]
  refine ⟨specAll [] (a ++ m :: b), specAll ((a ++ m :: b) ++ [c]) rest, ?_, ?_, htr⟩
  · rw [sheet_events_exact s p hwf, hcells]
    rw [specAll_append]
    simp only [specAll, List.nil_append, hspec]
  · rw [specAll_length, List.length_append, List.length_cons]; omega

/-! ### non-vacuity: concrete instances meeting the hypotheses -/

/-- `$A1+LOG10(A$1)&"é A1"+AB1!B2` is well-formed for the offset (1, 1) … -/
def demoToks : List Tok :=
  [.ref true 0 false 0, .punct '+', .ident "LOG10".toList, .punct '(', .ref false 0 true 0, .punct ')',
   .punct '&', .str "é A1".toList, .punct '+', .sheet "AB1".toList false, .ref false 1 false 1]

theorem demoToks_wf : WF demoToks (1, 1) := by decide +kernel

example : WF demoToks (1, 1) := demoToks_wf

theorem demoToks_render : render demoToks = "$A1+LOG10(A$1)&\"é A1\"+AB1!B2".toList := by decide +kernel

example : render demoToks = "$A1+LOG10(A$1)&\"é A1\"+AB1!B2".toList := demoToks_render

/-- … and `translate_correct` gives its translation: `$A2+LOG10(B$1)&"é A1"+AB1!C3` -/
example : replaceCellNames "$A1+LOG10(A$1)&\"é A1\"+AB1!B2".toList (1, 1)
    = .ok "$A2+LOG10(B$1)&\"é A1\"+AB1!C3".toList := by
  have h := translate_correct demoToks (1, 1) demoToks_wf
  have e2 : render (shift demoToks (1, 1)) = "$A2+LOG10(B$1)&\"é A1\"+AB1!C3".toList := by decide +kernel
  rw [demoToks_render, e2] at h; exact h

/-- structured references: the table name `Tbl1` (cell-like) and the specifier stay, `A1` moves -/
example : replaceCellNames "Tbl1[[#This Row],[Q1]]+A1".toList (1, 1) = .ok "Tbl1[[#This Row],[Q1]]+B2".toList := by
  let toks : List Tok := [.ident "Tbl1".toList, .struct "[#This Row],[Q1]".toList, .punct '+', .ref false 0 false 0]
  have ⟨hwf, e1, e2⟩ : WF toks (1, 1) ∧ render toks = "Tbl1[[#This Row],[Q1]]+A1".toList
      ∧ render (shift toks (1, 1)) = "Tbl1[[#This Row],[Q1]]+B2".toList := by decide +kernel
  have h := translate_correct toks (1, 1) hwf
  rw [e1, e2] at h; exact h

/-- a cell-like identifier not followed by `(`, `!` or `[` is *not* well-formed (it is a reference) -/
example : ¬ WF [.ident "TAX2021".toList] (1, 0) := by decide

/-- `member_formula` on the block `B1:C2` with master `B1` = `$A1+A$1`, read after the group `si = 1`
    was defined before the group `si = 0`: the member `C2` reports `$A2+B$1`. -/
example :
    let m : CellIn := ⟨(0, 1), some ("$A1+A$1".toList, some ⟨some 0, some ⟨0, 1, 1, 2⟩⟩)⟩
    let other : CellIn := ⟨(0, 0), some ("1".toList, some ⟨some 1, some ⟨0, 0, 0, 0⟩⟩)⟩
    let c1 : CellIn := ⟨(0, 2), some ([], some ⟨some 0, none⟩)⟩
    let c : CellIn := ⟨(1, 2), some ([], some ⟨some 0, none⟩)⟩
    ∃ t, runTable [] ([other] ++ m :: [c1]) = .ok t ∧ cellFormula t c = .ok (t, "$A2+B$1".toList) := by
  intro m other c1 c
  let toks : List Tok := [.ref true 0 false 0, .punct '+', .ref false 0 true 0]
  let t : Table := [(0, ⟨"$A1+A$1".toList, ⟨0, 1, 1, 2⟩, (0, 1)⟩), (1, ⟨"1".toList, ⟨0, 0, 0, 0⟩, (0, 0)⟩)]
  let d : Int × Int := ((c.pos.1 : Int) - (m.pos.1 : Int), (c.pos.2 : Int) - (m.pos.2 : Int))
  have ⟨hr, ht, hwf, e2⟩ : render toks = "$A1+A$1".toList ∧ runTable [] ([other] ++ m :: [c1]) = .ok t
      ∧ WF toks d ∧ render (shift toks d) = "$A2+B$1".toList := by decide +kernel
  refine ⟨t, ht, ?_⟩
  have hb : ∀ x ∈ [c1], ¬ definesGroup x 0 := by
    intro x hx
    simp only [List.mem_cons, List.not_mem_nil, or_false] at hx
    subst hx
    intro ⟨text, ref, h⟩
    cases h
  have := member_formula [] t [other] [c1] m c toks 0 ⟨0, 1, 1, 2⟩ [] (by rw [hr]) hb rfl (by decide) hwf ht
  rw [e2] at this; exact this

/-- the block `B1:C2` (master `B1` = `$A1+A$1`, `si = 7`) as XML events: the event-level reader reports
    the four cells with the translated formulas -/
def demoSheet : SharedSheet.SSheet :=
  [(0, [(1, ⟨.master 7 ⟨0, 1, 1, 2⟩ "$A1+A$1".toList, true⟩), (2, ⟨.follower 7, true⟩)]),
   (1, [(0, ⟨.plain "1+1".toList, false⟩), (1, ⟨.follower 7, true⟩), (2, ⟨.follower 7, false⟩)])]

theorem demoSheet_wf : demoSheet.WF := by
  refine ⟨by simp [demoSheet, XlsxSheet.Increasing], ?_, ?_⟩
  · intro row hrow
    simp only [demoSheet, List.mem_cons, List.not_mem_nil, or_false] at hrow
    rcases hrow with rfl | rfl <;> simp [XlsxSheet.Increasing]
  · intro row hrow c hc
    simp only [demoSheet, List.mem_cons, List.not_mem_nil, or_false] at hrow
    rcases hrow with rfl | rfl
    · simp only [List.mem_cons, List.not_mem_nil, or_false] at hc
      rcases hc with rfl | rfl <;> simp [SharedSheet.SCell.Ok]
    · simp only [List.mem_cons, List.not_mem_nil, or_false] at hc
      rcases hc with rfl | rfl | rfl <;> simp [SharedSheet.SCell.Ok]

example : XlsxFormula.readFormulas (SharedSheet.render demoSheet true) = .ok
    [(0, 1, Utf8.utf8Encode "$A1+A$1".toList), (0, 2, Utf8.utf8Encode "$A1+B$1".toList),
     (1, 0, Utf8.utf8Encode "1+1".toList), (1, 1, Utf8.utf8Encode "$A2+A$1".toList),
     (1, 2, Utf8.utf8Encode "$A2+B$1".toList)] := by
  rw [sheet_events_exact demoSheet true demoSheet_wf]
  decide +kernel

end C15
