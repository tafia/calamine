import CalVerif.Lemmas.XmlText
import CalVerif.Lemmas.XmlEscape
import CalVerif.Lemmas.XmlTextXlsxCells
/-! # C19 — cell text survives every storage form and escaping layer unchanged

    Models: `Model/XmlText.lean`, `Model/XmlEscape.lean`; storage forms and their rendering as event lists:
    `Spec/XmlText.lean`, `Spec/XmlEscape.lean`.  Definitions of the statements that stand in no Spec file: `NoCdataEnd`
    (`Lemmas/XmlText.lean`) in `cdata_sections_roundtrip`; `Ev.wf`, `convEv`, `convRes` with `errMap`
    (`Lemmas/XmlTextXlsxCells.lean`) in `readSharedStrings_eq_XlsxCells`.  The file is in three parts: the event readers
    (`namespace XmlText`), unescaping (`namespace XmlEscape`), then `XmlText` again for the CDATA cut and the agreement
    with C01's model of the shared string table.

    The reader theorems start at the XML *event list* (xlsx, ods) and at the UTF-16 *code units* (xlsb).
    Below the event list, entity / character-reference **unescaping** is modelled (`Model/XmlEscape.lean`,
    mirroring quick-xml 0.37 `escape::unescape`) and proved to invert the writer's escaping in every spelling
    (`unescape_escape`), and the writer's CDATA cut is proved to produce terminator-free sections that
    concatenate back (`cdata_sections_roundtrip`).  Still trusted (correspondence run only): quick-xml's
    tokenizer (where elements, text, CDATA sections and comments begin and end; attribute parsing; encoding
    detection) and encoding_rs (UTF-16 → `String`).  The property as a whole is therefore **partially** proved:
    every theorem below is complete for the layer it speaks about.

    Reader configuration assumed by every event-level theorem (it is what `xml_reader` in src/xlsx/mod.rs and
    the two `Reader` set-ups in src/ods.rs establish, for every part and hence for `<t>`, `<v>`, `<f>`, `<is>`,
    `text:p` alike): `trim_text(false)` — a Text event carries the character data between two tags exactly,
    leading / trailing / white-space-only text included, nothing is dropped or trimmed;
    `expand_empty_elements = true` — `<x/>` arrives as `Start x`, `End x`; `check_end_names = false` — an end
    tag is delivered whatever its name (the loops compare names themselves); `check_comments = false`.
    The harness observes these settings through strings with leading, trailing and only white space, empty
    elements written both ways, and white-space text between elements.
    The xls string readers are property C12's model (`Model/BiffStrings.lean`). -/
namespace XmlText

/-- A plain item `lead <t>…</t> trail </closing>` reads as the text of its `<t>`, for every prefix of the
    `t` element, every attribute (`xml:space`), every split of the character data into Text / CData events,
    every inert material before the `<t>` and everything (phonetic runs, `phoneticPr`, extensions) between
    the `</t>` and the closing tag; the reader stops exactly after the closing tag. -/
theorem plain_roundtrip (closing : Name) (lead : List Ev) (t : TElem) (trail rest : List Ev)
    (h : (StringForm.plain lead t trail).wf closing = true) :
    readString closing (renderSi closing (.plain lead t trail) ++ rest) = .ok (some t.txt, rest) :=
  (runSi_eq ..).trans (runSi_form closing _ rest h)

/-- Rich text: the result is the concatenation, in order, of the text of the `<t>` of every run `<r>`;
    phonetic runs `<rPh>` (whatever they contain) and inert material contribute nothing, wherever they are
    interleaved; element prefixes are arbitrary and may differ from element to element.  With no run at all
    (empty item `<si/>`, phonetic-only item) `read_string` returns `None`. -/
theorem rich_concat (closing : Name) (items : List RunItem) (rest : List Ev)
    (h : (StringForm.rich items).wf closing = true) :
    readString closing (renderSi closing (.rich items) ++ rest) =
      .ok (if items.any RunItem.isRun then some (((items.filter RunItem.isRun).map RunItem.txt).flatten) else none, rest) := by
  have hf : ((items.filter RunItem.isRun).map RunItem.txt).flatten = (items.map RunItem.txt).flatten := by
    clear h
    induction items with
    | nil => rfl
    | cons it is ih => cases it <;> simp [List.filter, RunItem.isRun, RunItem.txt, ih]
  rw [hf]
  exact (runSi_eq ..).trans (runSi_form closing _ rest h)

/-- Both results in one statement: every well-formed form reads as `resultOf` (= `some (textOf form)` as
    soon as the item has a `<t>` or a run). -/
theorem readString_spec (closing : Name) (f : StringForm) (rest : List Ev) (h : f.wf closing = true) :
    readString closing (renderSi closing f ++ rest) = .ok (resultOf f, rest) :=
  (runSi_eq ..).trans (runSi_form closing f rest h)

/-- Text and CData events contribute alike, in any split (with comments / PIs in between): a `<t>` whose
    character data arrives as the chunk list `cs` reads like the same `<t>` with one Text event. -/
theorem text_kinds (closing : Name) (lead : List Ev) (t : TElem) (cs : List Chunk) (trail rest : List Ev)
    (h : (StringForm.plain lead t trail).wf closing = true) :
    readString closing (renderSi closing (.plain lead { t with body := cs } trail) ++ rest) =
      readString closing (renderSi closing (.plain lead { t with body := [.text (chunksText cs)] } trail) ++ rest) := by
  rw [plain_roundtrip closing lead { t with body := cs } trail rest h,
    plain_roundtrip closing lead { t with body := [.text (chunksText cs)] } trail rest h]
  exact congrArg (fun s => Res.ok (some s, rest)) (List.append_nil _).symm

/-- the same inside a rich run -/
theorem text_kinds_rich (closing : Name) (pre post : List RunItem) (p : Option String) (props tail : List Ev)
    (t : TElem) (cs : List Chunk) (rest : List Ev)
    (h : (StringForm.rich (pre ++ .run p props { t with body := cs } tail :: post)).wf closing = true) :
    readString closing (renderSi closing (.rich (pre ++ .run p props { t with body := cs } tail :: post)) ++ rest) =
      readString closing
        (renderSi closing (.rich (pre ++ .run p props { t with body := [.text (chunksText cs)] } tail :: post)) ++ rest) := by
  have h' : (StringForm.rich (pre ++ .run p props { t with body := [.text (chunksText cs)] } tail :: post)).wf closing = true := by
    simpa only [StringForm.wf, List.all_append, List.all_cons, RunItem.wf] using h
  have e : chunksText [.text (chunksText cs)] = chunksText cs := List.append_nil _
  rw [readString_spec _ _ _ h, readString_spec _ _ _ h']
  simp only [resultOf, List.any_append, List.any_cons, List.map_append, List.map_cons, RunItem.isRun, RunItem.txt,
    TElem.txt, e]

/-- `read_shared_strings` yields exactly one entry per `<si>`, in order, equal to the item's text —
    including empty items `<si/>` and phonetic-only items (entry `""`), whatever the prefixes and whatever
    ignorable material lies between the items. -/
theorem sst_strings (sstPre : Option String) (items : List SstItem) (tailGap : List Ev)
    (h : items.all SstItem.wf = true) (hg : tailGap.all gapEv = true) (before rest : List Ev)
    (hb : before.all gapEv = true) :
    readSharedStrings (before ++ renderSst sstPre items tailGap ++ rest) = .ok (items.map fun it => textOf it.form) := by
  have h0 : gapEv (.start ⟨sstPre, "sst"⟩ []) = true := decide_eq_true (by decide : "sst" ≠ "si")
  simp only [readSharedStrings, renderSst, List.append_assoc, List.cons_append, List.nil_append]
  rw [runSst_gap _ _ _ hb, runSst_skip _ _ h0, runSst_items _ _ _ h,
    runSst_gap _ _ _ hg, runSst_end_sst, List.nil_append]

/-- Shared-string indices always designate the i-th item of the table, including when some items are
    empty: the i-th entry of the vector is the text of the i-th `<si>`. -/
theorem sst_alignment (sstPre : Option String) (items : List SstItem) (tailGap : List Ev)
    (h : items.all SstItem.wf = true) (hg : tailGap.all gapEv = true) (i : Nat) (hi : i < items.length) :
    ∃ strings, readSharedStrings (renderSst sstPre items tailGap) = .ok strings ∧
      strings.length = items.length ∧ strings[i]? = some (textOf items[i].form) := by
  refine ⟨items.map fun it => textOf it.form, ?_, by simp, by simp [hi]⟩
  have := sst_strings sstPre items tailGap h hg [] [] rfl
  simpa using this

/-- `t="s"`: the cell is the `i`-th shared string (index written in decimal, any split of the digits into
    Text / CData events, any prefix on `v` and `c`). -/
theorem shared_cell (strings : List Txt) (i : Nat) (hi : i < strings.length) (h64 : i < 18446744073709551616)
    (vp cp : Option String) (cs : List Chunk) (hcs : chunksText cs = decimal i) (rest : List Ev) :
    cellText (some "s") strings
      (.start ⟨vp, "v"⟩ [] :: chunksEvs cs ++ [.end_ ⟨vp, "v"⟩, .end_ ⟨cp, "c"⟩] ++ rest)
      = .ok (.shared strings[i], rest) := by
  have h2 : readV (some "s") strings (chunksText cs) = .cont (.inC (.shared strings[i])) := by
    simp [hcs, readV, atoiUsize_decimal i h64, hi]
  simp only [cellText, runCell_eq, List.cons_append, List.append_assoc, List.nil_append]
  exact runCell_v _ _ _ vp cp cs rest h2

/-- `t="str"` (a formula's string result): the cell is the character data of `<v>`, after an optional
    `<f>…</f>` element (skipped whatever it contains). -/
theorem str_cell (strings : List Txt) (fp vp cp : Option String) (fa : List (String × Txt)) (fbody : List Ev)
    (hf : fbody.all (noClosing ⟨fp, "f"⟩) = true) (withF : Bool) (cs : List Chunk) (rest : List Ev) :
    cellText (some "str") strings
      ((if withF then .start ⟨fp, "f"⟩ fa :: fbody ++ [.end_ ⟨fp, "f"⟩] else []) ++
        .start ⟨vp, "v"⟩ [] :: chunksEvs cs ++ [.end_ ⟨vp, "v"⟩, .end_ ⟨cp, "c"⟩] ++ rest)
      = .ok (.str (chunksText cs), rest) := by
  cases withF with
  | false =>
    simp only [cellText, runCell_eq, List.cons_append, List.append_assoc, List.nil_append, Bool.false_eq_true, if_false]
    exact runCell_v _ _ _ vp cp cs rest rfl
  | true =>
    simp only [cellText, runCell_eq, List.cons_append, List.append_assoc, List.nil_append, if_true]
    rw [runCell_f _ _ _ ⟨fp, "f"⟩ rfl _ _ _ hf]
    exact runCell_v _ _ _ vp cp cs rest rfl

/-- Inline string `<is>…</is>`: the cell is the item's text for every storage form of the item (whatever the
    cell's `t` attribute says); an item without `<t>` and without run gives an empty cell. -/
theorem inline_cell (t : Option String) (strings : List Txt) (ip cp : Option String) (ia : List (String × Txt))
    (f : StringForm) (h : f.wf ⟨ip, "is"⟩ = true) (rest : List Ev) :
    cellText t strings (.start ⟨ip, "is"⟩ ia :: renderSi ⟨ip, "is"⟩ f ++ [.end_ ⟨cp, "c"⟩] ++ rest)
      = .ok (CellVal.ofOpt (resultOf f), rest) := by
  simp only [cellText, runCell_eq, List.cons_append, List.append_assoc, List.nil_append]
  rw [runLoop_cont _ (cellStep_start_is ..), runCell_inIs, runSi_form _ _ _ h]
  exact runLoop_done _ (cellStep_end_c ..)

/-- The formula text of a cell (`worksheet_formula`) is the character data of its `<f>`, Text and CData
    alike, whether the cached value `<v>…</v>` follows or not. -/
theorem formula_text (fp vp cp : Option String) (fa : List (String × Txt)) (cs : List Chunk) (withV : Bool)
    (vbody : List Ev) (hv : vbody.all (noClosing ⟨vp, "v"⟩) = true) (rest : List Ev) :
    formulaText (.start ⟨fp, "f"⟩ fa :: chunksEvs cs ++ [.end_ ⟨fp, "f"⟩] ++
        (if withV then .start ⟨vp, "v"⟩ [] :: vbody ++ [.end_ ⟨vp, "v"⟩] else []) ++ [.end_ ⟨cp, "c"⟩] ++ rest)
      = .ok (chunksText cs, rest) := by
  have h3 : fmlaStep (.inC (some (chunksText cs))) (.end_ ⟨cp, "c"⟩) = .done (chunksText cs) :=
    fmlaStep_end_c ..
  simp only [formulaText, runFmla_eq, List.cons_append, List.append_assoc, List.nil_append]
  rw [runFmla_f]
  cases withV with
  | false => exact runLoop_done _ h3
  | true =>
    simp only [if_true, List.cons_append, List.append_assoc, List.nil_append]
    rw [runFmla_skip _ ⟨vp, "v"⟩ (.inr rfl) _ _ _ hv, runLoop_done _ h3]

/-- `read_string`, `read_shared_strings` and the cell loop return `Ok` or `Err` on every event list. -/
theorem xlsx_readers_total (closing : Name) (t : Option String) (strings : List Txt) (evs : List Ev) :
    ((∃ r, readString closing evs = .ok r) ∨ (∃ e, readString closing evs = .err e)) ∧
    ((∃ r, readSharedStrings evs = .ok r) ∨ (∃ e, readSharedStrings evs = .err e)) ∧
    ((∃ r, cellText t strings evs = .ok r) ∨ (∃ e, cellText t strings evs = .err e)) := by
  refine ⟨?_, runSst_returns _ _ evs, ?_⟩
  · rw [readString, runSi_eq]
    exact runLoop_returns (siStep_isPanic closing) _ evs
  · rw [cellText, runCell_eq]
    exact runLoop_returns (cellStep_isPanic t strings) _ evs

/-- The ods text loop returns `Ok` or `Err` on every event list (an unterminated annotation is `Err(Eof)`
    since /repo d6b5c9c). -/
theorem ods_reader_total (evs : List Ev) :
    (∃ r, odsCellText evs = .ok r) ∨ (∃ e, odsCellText evs = .err e) := by
  rw [odsCellText, runOds_eq]
  exact runLoop_returns odsStep_isPanic _ evs

theorem ods_reader_no_panic (evs : List Ev) (x : String) : odsCellText evs ≠ .panic x :=
  Res.Returns.ne_panic (ods_reader_total evs) x

/-- The text of a string cell is the paragraphs' texts joined by `\n`; inside a paragraph literal character
    data (Text or CData), `<text:s text:c="n"/>` (n spaces), `<text:s/>` (one space) concatenate in order and
    every other element (`text:span`, `text:a`, … nested to any depth) is looked through; an annotation in
    front of the paragraphs contributes nothing, whatever it contains. -/
theorem ods_text (annot : Option (List Ev)) (paras : List Para) (covered : Bool) (rest : List Ev)
    (ha : ∀ c, annot = some c → annotWf c = true) (hp : paras.all Para.wf = true) :
    odsCellText (renderCell annot paras covered ++ rest) = .ok (cellTextOf paras, rest) := by
  have hend : ∀ s first r, runLoop odsStep odsEof (.normal s first) (.end_ (if covered then coveredCell else tableCell) :: r)
      = .ok (s, r) := by
    intro s first r
    exact runLoop_done _ (odsStep_end_cell s first covered)
  have hbody : ∀ r, runLoop odsStep odsEof (.normal [] true) ((paras.map Para.evs).flatten ++ r)
      = runLoop odsStep odsEof (.normal (cellTextOf paras) (paras.isEmpty)) r := by
    intro r
    cases paras with
    | nil => rfl
    | cons p ps =>
      simp only [List.all_cons, Bool.and_eq_true] at hp
      simp only [List.map_cons, List.flatten_cons, List.append_assoc]
      rw [runOds_para p [] true _ hp.1, runOds_paras_tail ps _ _ hp.2]
      simp [cellTextOf, intercalate_cons, Function.comp_def]
  rw [odsCellText, runOds_eq]
  unfold renderCell
  cases annot with
  | none =>
    simp only [List.nil_append, List.append_assoc]
    rw [hbody, List.cons_append, List.nil_append, hend]
  | some c =>
    simp only [List.append_assoc]
    rw [runOds_annot c _ _ _ (ha c rfl), hbody, List.cons_append, List.nil_append, hend]

/-- `office:string-value` is the value of the cell wherever it stands among the attributes — before or after
    `office:value-type`, with any other attributes around — as long as no other value attribute precedes it;
    the element content (display text) is then irrelevant. -/
theorem ods_string_value_attr (pre post : List (String × Txt)) (v : Txt) (evs : List Ev)
    (hpre : ∀ kv ∈ pre, kv.1 ≠ "office:value" ∧ kv.1 ≠ "office:string-value" ∧ kv.1 ≠ "office:date-value" ∧
      kv.1 ≠ "office:time-value" ∧ kv.1 ≠ "office:boolean-value") :
    odsCellValue (pre ++ ("office:string-value", v) :: post) evs = .ok (some v) := by
  have hpost : ∀ (l : List (String × Txt)) (b : Bool) (x : OdsAttrVal), odsAttrLoop l b (some x) = (b, some x) := by
    intro l
    induction l with
    | nil => intro b x; rfl
    | cons kv l ih => intro b x; obtain ⟨k, w⟩ := kv; simp [odsAttrLoop, ih]
  have hloop : ∀ b, ∃ b', odsAttrLoop (pre ++ ("office:string-value", v) :: post) b none = (b', some (.strAttr v)) := by
    induction pre with
    | nil => intro b; exact ⟨b, by simp [odsAttrLoop, hpost]⟩
    | cons kv l ih =>
      intro b
      obtain ⟨k, w⟩ := kv
      have hk := hpre (k, w) (List.mem_cons_self ..)
      simp only [List.cons_append, odsAttrLoop, hk.1, hk.2.1, hk.2.2.1, hk.2.2.2.1, hk.2.2.2.2, if_false, or_self]
      split <;> exact ih (fun x hx => hpre x (List.mem_cons_of_mem _ hx)) _
  obtain ⟨b', hb⟩ := hloop false
  simp [odsCellValue, odsAttrs, hb]

/-- `wide_str` returns exactly the stored UTF-16 code units and the number of bytes they occupy, whatever
    follows the string in the record (formula bytes, rich-text runs). -/
theorem widestr_roundtrip (us : List UInt16) (rest : List UInt8) (h : us.length < 4294967296) :
    wideStr (encodeWide us ++ rest) = .ok (us, 4 + us.length * 2) := by
  have hlen : ((us.map unitBytes).flatten).length = us.length * 2 := by
    rw [← List.flatMap_def, ListLoops.length_flatMap_const _ 2 us fun _ _ => rfl, Nat.mul_comm]
  simp only [encodeWide, List.cons_append, List.nil_append, wideStr, u32le_encode _ h, List.length_cons,
    List.length_append, hlen]
  rw [if_neg (by omega), unitsOf_units]

/-- `<si><r><t>ab</t></r><rPh sb="0" eb="1"><t>XY</t></rPh><r><rPr><b/></rPr><t xml:space="preserve"> c</t></r></si>`
    with an `x:` prefix on the second run, the second text split into Text + CData -/
example :
    let si : Name := ⟨some "x", "si"⟩
    let items : List RunItem := [
      .run none [] ⟨none, [], [.text [97, 98]]⟩ [],
      .phonetic none [("sb", [48]), ("eb", [49])] [.start ⟨none, "t"⟩ [], .text [88, 89], .end_ ⟨none, "t"⟩],
      .run (some "x") [.start ⟨some "x", "rPr"⟩ [], .start ⟨some "x", "b"⟩ [], .end_ ⟨some "x", "b"⟩, .end_ ⟨some "x", "rPr"⟩]
        ⟨some "x", [("xml:space", [112])], [.text [32], .noise, .cdata [99]]⟩ []]
    (StringForm.rich items).wf si = true ∧
    readString si (renderSi si (.rich items)) = .ok (some [97, 98, 32, 99], []) := by
  decide +kernel

/-- a table `<sst><si><t>a</t></si><si/><si><rPh><t>p</t></rPh></si><si><t>b</t><phoneticPr/></si></sst>`:
    four entries, the empty and the phonetic-only item keep their index -/
example :
    let items : List SstItem := [
      ⟨[], none, [], .plain [] ⟨none, [], [.text [97]]⟩ []⟩,
      ⟨[.text [10]], none, [], .rich []⟩,
      ⟨[], none, [], .rich [.phonetic none [] [.start ⟨none, "t"⟩ [], .text [112], .end_ ⟨none, "t"⟩]]⟩,
      ⟨[], none, [], .plain [] ⟨none, [], [.text [98]]⟩ [.start ⟨none, "phoneticPr"⟩ [], .end_ ⟨none, "phoneticPr"⟩]⟩]
    items.all SstItem.wf = true ∧
    readSharedStrings (renderSst none items []) = .ok [[97], [], [], [98]] := by
  decide +kernel

/-- `<text:p>a<text:s text:c="3"/><text:span>b</text:span></text:p><text:p><text:s/></text:p>` behind an
    annotation holding its own paragraph: "a   b\n " -/
example :
    let paras : List Para := [
      ⟨[], [.lit (.text [97]), .spaces 3, .mark (.start ⟨some "text", "span"⟩ []), .lit (.cdata [98]),
            .mark (.end_ ⟨some "text", "span"⟩)]⟩,
      ⟨[], [.space1]⟩]
    let annot : List Ev := [.start textP [], .text [110], .end_ textP]
    annotWf annot = true ∧ paras.all Para.wf = true ∧
    odsCellText (renderCell (some annot) paras false) = .ok ([97, 32, 32, 32, 98, 10, 32], []) := by
  intro paras annot
  have ha : annotWf annot = true := by decide
  have hp : paras.all Para.wf = true := by decide
  refine ⟨ha, hp, ?_⟩
  have := ods_text (some annot) paras false [] (by intro c hc; cases hc; exact ha) hp
  rw [List.append_nil] at this
  rw [this]
  decide

example : wideStr (encodeWide [0x41, 0xD83D, 0xDE00] ++ [7, 7]) = .ok ([0x41, 0xD83D, 0xDE00], 10) := by
  decide

end XmlText

namespace XmlEscape

/-- Round trip of escaping: whatever spelling the writer chooses for each character — the character
    itself (anything but `&`), its predefined entity, a decimal or a hexadecimal character reference with any
    number of leading zeros and either digit case (anything but U+0000) — unescaping gives the text back.  This is a
    statement over characters: nothing here connects `unescape` with the `Txt` (UTF-8 bytes, "already unescaped") of an
    `Ev.text`; between the two lie UTF-8 decoding and the tokenizer, which are trusted. -/
theorem unescape_escape (cs : List (Char × Spelling)) (h : ∀ p ∈ cs, okSpelling p = true) :
    unescape (escape cs) = .ok (cs.map Prod.fst) := by
  unfold unescape escape
  induction cs with
  | nil => rfl
  | cons p ps ih =>
    have hp := h p (List.mem_cons_self ..)
    have := ih (fun q hq => h q (List.mem_cons_of_mem _ hq))
    simp only [List.map_cons, List.flatten_cons]
    rw [escape1_spec p.1 p.2 _ hp, this]
    rfl

/-- the same under the hypothesis of the property: every character is an XML 1.0 `Char` (so none is U+0000)
    and `&` is not written literally -/
theorem unescape_escape_xmlchar (cs : List (Char × Spelling)) (hx : ∀ p ∈ cs, XmlChar p.1 = true)
    (hamp : ∀ p ∈ cs, p.2 = .lit → p.1 ≠ '&') :
    unescape (escape cs) = .ok (cs.map Prod.fst) := by
  apply unescape_escape
  intro p hp
  have hc := hx p hp
  have h0 : p.1.toNat ≠ 0 := by
    intro e
    simp [XmlChar, e] at hc
  obtain ⟨c, sp⟩ := p
  cases sp with
  | lit => simpa [okSpelling] using hamp (c, .lit) hp rfl
  | named => rfl
  | dec z => simpa [okSpelling] using h0
  | hex z up => simpa [okSpelling] using h0

/-- a text without `&` is returned unchanged (`;` is an ordinary character outside a reference) -/
theorem unescape_no_amp_identity (s : List Char) (h : ∀ c ∈ s, c ≠ '&') : unescape s = .ok s := by
  unfold unescape
  induction s with
  | nil => rfl
  | cons c r ih =>
    rw [unesc_lit c r (h c (List.mem_cons_self ..)), ih (fun d hd => h d (List.mem_cons_of_mem _ hd))]
    rfl

/-- `unescape` returns `Ok` or `Err` on every input (no panic, no loop) -/
theorem unescape_total (s : List Char) : (∃ r, unescape s = .ok r) ∨ (∃ e, unescape s = .err e) :=
  unesc_returns none s

/-- What quick-xml does with a numeric reference, for every value below 2^32 written in decimal with any
    number of leading zeros: 0 is refused, surrogates and values above U+10FFFF are refused, and *every other
    scalar value is accepted* — also the ones outside the XML `Char` production (`&#1;`, `&#xFFFE;`): quick-xml
    is more permissive than XML 1.0 here, which is harmless for reading (property C19 quantifies over `Char`). -/
theorem charref_semantics (z n : Nat) (h : n < 4294967296) :
    unescape ('&' :: '#' :: (List.replicate z '0' ++ digits 10 false n ++ [';'])) =
      if n = 0 then .err "InvalidCharRef(IllegalCharacter)"
      else if isScalar n then .ok [Char.ofNat n]
      else .err "InvalidCharRef(InvalidCodepoint)" := by
  refine (unesc_charref _ [] n (refbody_clean _ (zeros_digits_hex z 10 (.inl rfl) false n)) (parseCode_dec z n h)).trans ?_
  split
  · rfl
  · split <;> rfl

/-- the malformed shapes: a lone or unterminated `&`, an unknown entity, an empty or signed number,
    an upper-case `X`, a number that does not fit 32 bits, U+0000, a surrogate -/
example :
    unescape "a&".toList = .err "UnterminatedEntity" ∧
    unescape "&amp".toList = .err "UnterminatedEntity" ∧
    unescape "&a&b;".toList = .err "UnterminatedEntity" ∧
    unescape "&unknown;".toList = .err "UnrecognizedEntity" ∧
    unescape "&;".toList = .err "UnrecognizedEntity" ∧
    unescape "&#;".toList = .err "InvalidCharRef(InvalidNumber)" ∧
    unescape "&#x;".toList = .err "InvalidCharRef(InvalidNumber)" ∧
    unescape "&#X41;".toList = .err "InvalidCharRef(InvalidNumber)" ∧
    unescape "&#+65;".toList = .err "InvalidCharRef(UnexpectedSign)" ∧
    unescape "&#99999999999;".toList = .err "InvalidCharRef(InvalidNumber)" ∧
    unescape "&#0;".toList = .err "InvalidCharRef(IllegalCharacter)" ∧
    unescape "&#xD800;".toList = .err "InvalidCharRef(InvalidCodepoint)" ∧
    unescape "&#1;;&#x0041;&#065;&lt;".toList = .ok [Char.ofNat 1, ';', 'A', 'A', '<'] := by
  decide +kernel

/-- non-vacuity of `unescape_escape`: `a & <😀` spelled five ways -/
example :
    let cs : List (Char × Spelling) := [('a', .lit), (' ', .dec 2), ('&', .named), (' ', .hex 0 true), ('<', .hex 1 false), ('😀', .dec 0), ('>', .named), ('x', .named)]
    (∀ p ∈ cs, okSpelling p = true) ∧ (∀ p ∈ cs, XmlChar p.1 = true) := by
  decide

end XmlEscape

namespace XmlText

/-- CDATA sections, writer against reader: the writer cuts a text into sections before every `>` that
    follows `]]`; no section then contains the terminator `]]>` (so each is delimited unambiguously, whatever
    the text), the sections concatenate back to the text, and the reader — which appends CData events like
    Text events — returns exactly the text.  (Where the tokenizer ends a section is quick-xml's part.) -/
theorem cdata_sections_roundtrip (closing : Name) (lead : List Ev) (t : TElem) (s : Txt) (trail rest : List Ev)
    (h : (StringForm.plain lead t trail).wf closing = true) :
    (∀ sec ∈ cdataSplit s, NoCdataEnd sec) ∧ (cdataSplit s).flatten = s ∧
    readString closing (renderSi closing (.plain lead { t with body := (cdataSplit s).map Chunk.cdata } trail) ++ rest)
      = .ok (some s, rest) := by
  refine ⟨cdataSplitAux_noEnd s [] (noCdataEnd_short _ (by simp)), by simp [cdataSplit, cdataSplitAux_flatten], ?_⟩
  rw [plain_roundtrip _ _ _ _ _ (by simpa [StringForm.wf] using h)]
  simp [TElem.txt, chunksText_cdata, cdataSplit, cdataSplitAux_flatten]

/-- `read_shared_strings` is modelled twice (property C01: `Model/XlsxCells`, property C19: `Model/XmlText`):
    on the converted events the two models return the same table (and fail together; only the error names
    differ). `Ev.wf`: every element name is split at its first colon, as the tokenizer delivers it. -/
theorem readSharedStrings_eq_XlsxCells (evs : List Ev) (hev : ∀ e ∈ evs, e.wf) :
    XlsxCells.readSharedStrings (evs.map convEv) = convRes (readSharedStrings evs) := by
  have := sstLoop_conv evs hev .top trivial []
  simpa [XlsxCells.readSharedStrings, readSharedStrings, convSst] using this


/-- non-vacuity: prefixed and unprefixed names are well-formed, `x:si` has local name `si` in both models -/
example : (Ev.start ⟨some "x", "si"⟩ []).wf ∧ XlsxCells.localName (nameBytes ⟨some "x", "si"⟩) = XlsxCells.nSi := by
  refine ⟨?_, ?_⟩
  · show (58 : Nat) ∉ sb "x"
    decide
  · rfl

/-- `a]]>b]]` is written as the sections `a]]` and `>b]]` -/
example : cdataSplit [97, 93, 93, 62, 98, 93, 93] = [[97, 93, 93], [62, 98, 93, 93]] := by decide

end XmlText
