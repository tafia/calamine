import CalVerif.Lemmas.Cfb
/-! # C13 — compound-file streams are recovered whatever the container's physical layout

    The property theorems; the lemmas they rest on are in `Lemmas/Cfb.lean` and, for the codecs and for the sector
    cache, chain loop and allocation of one sector space, in `Lemmas/CfbBytes.lean` and `Lemmas/CfbSectors.lean`.

    * reader model: `Model/Cfb.lean` (`Cfb.new`, `Cfb.getStream`, `Cfb.readStream`, …), mirroring
      `src/cfb.rs` after the fixes D25, D29 and their follow-ups (total `to_u32`, names decoded without
      BOM sniffing, whole DIFAT sectors, chains / DIFAT walk / allocation table bounded by the bytes actually
      read; the `len` argument is a capacity hint only);
    * encoder: `Spec/CfbLayout.lean`: `layoutCfb streams L` lays the streams out as the layout `L`
      (data) says; `Valid streams L` is the decidable consistency condition. It constrains neither
      the sector size (512/4096), nor the allocation (`owner` is an arbitrary array: any injective
      assignment of sector numbers to chain positions, any fragmentation, any free sectors), nor the
      number of FAT sectors (any `nfat` with `nfat * perFat ≥ total`), nor the number of DIFAT
      sectors (any `ndif` with `109 + ndif * (perFat - 1) ≥ nfat`), nor the order of the directory
      entries or the unused entries among them, nor the mini-sector allocation, nor the padding byte.

    Main result: `cfb_roundtrip`. -/
namespace Cfb

/-- in ANY allocation table in which `ids` is recorded as a chain
    (`fats[ids[i]] = ids[i+1]`, the last one maps to ENDOFCHAIN), the bounded loop of `get_chain`
    started at `ids[0]` returns exactly the sectors `ids[0], …, ids[n-1]` in this order (their
    contents concatenated), whatever the state of the lazy sector cache, provided the sectors are
    distinct and the file holds them entirely (then the accumulation guard of the fixed loop — never
    more bytes than have been read — cannot fire: pigeonhole); `hlazy`: the cache is filled from the file on
    demand (the sectors of the file) or already holds the chain (the mini stream, which never reads the file).
    No ordering assumption on `ids`:
    permuted and fragmented chains are covered. -/
theorem chain_follow (fats : List Nat) (body : Bytes) (ids : List Nat) (rem : Nat) (s : Sectors) (rd : Bytes)
    (hcache : s.data ++ rd = body) (hrem : ids.length ≤ rem) (hss : 0 < s.size)
    (hlazy : s.lazy = true ∨ ∀ x ∈ ids, (x + 1) * s.size ≤ s.data.length)
    (hchain : ∀ i (h : i < ids.length), ids[i] ≠ ENDOFCHAIN ∧ fats[ids[i]]? = some (ids[i+1]?.getD ENDOFCHAIN))
    (hdistinct : ids.Nodup) (hfull : ∀ x ∈ ids, (x + 1) * s.size ≤ body.length) :
    ∃ s' rd', Sectors.chainLoop fats rem (ids[0]?.getD ENDOFCHAIN) s rd 0 =
        .ok ((ids.map (sec body s.size)).flatten, s', rd') ∧ s'.data ++ rd' = body ∧ s'.size = s.size :=
  chainLoop_follow fats body ids rem s rd hcache hrem hss hlazy hchain hdistinct hfull

/-- the lazily filled cache is transparent: `Sectors::get` returns the sector of the underlying sector area
    (clipped at EOF), whatever has been read before; an in-memory `Sectors` (the mini stream) returns the bytes
    it holds and never touches the reader -/
theorem sector_get_cache_independent (s : Sectors) (id : Nat) (rd body : Bytes) (h : s.data ++ rd = body)
    (hlazy : s.lazy = true) :
    (s.get id rd).1 = sec body s.size id ∧ (s.get id rd).2.1.data ++ (s.get id rd).2.2 = body :=
  ⟨(Sectors.get_spec s id rd body h (Or.inl hlazy)).1, (Sectors.get_spec s id rd body h (Or.inl hlazy)).2.1⟩

/-- the mini stream is held in memory: reading a mini sector never advances the file reader, even when the
    sector reaches behind the end of the mini stream (unpadded root size) -/
theorem mini_get_never_reads (s : Sectors) (id : Nat) (rd : Bytes) (h : s.lazy = false) :
    (s.get id rd).2 = (s, rd) ∧ (s.get id rd).1 = (s.data.drop (min (id * s.size) s.data.length)).take
      (min (id * s.size + s.size) s.data.length - min (id * s.size) s.data.length) := by
  obtain ⟨d, z, l⟩ := s
  simp only at h
  subst h
  simp [Sectors.get]

/-- reading the sectors of chain `c` of a space in chain order yields the
    chain's data cut into sector-sized pieces (the last one padded), for every allocation `sp`
    that passes `chainOK` (owner and chain views agree) -/
theorem read_chain_concat (sp : Space) (ss : Nat) (hss : 0 < ss) (fill : UInt8) (P : Array (Array Bytes))
    (fatSec difSec : Nat → Bytes)
    (hP : UniformP ss P) (hf : ∀ j, (fatSec j).length = ss) (hd : ∀ j, (difSec j).length = ss)
    (c : Nat) (D : Bytes) (hPc : P[c]? = some (pieces ss fill D))
    (hok : chainOK sp c (nsect ss D.length) = true) :
    ((sp.ids c).map (sec (sp.body ss fill P fatSec difSec) ss)).flatten = (padChunks ss fill D.length D).flatten := by
  rw [Space.read_chain sp ss hss fill P fatSec difSec hP hf hd c D hPc hok]

/-- the padded pieces, concatenated and truncated to the declared size, are the data -/
theorem truncate_to_size (ss : Nat) (fill : UInt8) (hss : 0 < ss) (D : Bytes) :
    ((padChunks ss fill D.length D).flatten).take D.length = D :=
  padChunks_flatten_take ss fill hss D.length D (Nat.le_refl _)

/-- a chain of `n` distinct sectors fits the bound of the fixed loop (`remaining = fats.len()`):
    the pigeonhole step that makes the cycle guard harmless on valid files -/
theorem chain_fits_table (sp : Space) (c n : Nat) (h : chainOK sp c n = true) : n ≤ sp.owner.size :=
  chain_size_le sp c n h

/-- chain read = data, for any chain of any space (main sectors or mini sectors), any `owner` -/
theorem chain_roundtrip (sp : Space) (ss : Nat) (hss : 0 < ss) (fill : UInt8) (P : Array (Array Bytes))
    (fatSec difSec : Nat → Bytes)
    (hP : UniformP ss P) (hf : ∀ j, (fatSec j).length = ss) (hd : ∀ j, (difSec j).length = ss)
    (c : Nat) (D : Bytes) (hPc : P[c]? = some (pieces ss fill D))
    (hok : chainOK sp c (nsect ss D.length) = true)
    (len : Nat) (hlen : sp.owner.size ≤ len) (hres : sp.owner.size ≤ RESERVED)
    (s : Sectors) (rd : Bytes) (hsz : s.size = ss) (hinv : s.data ++ rd = sp.body ss fill P fatSec difSec)
    (hlazy : s.lazy = true ∨ ss * sp.owner.size ≤ s.data.length) :
    ∃ s' rd', s.getChain (chainStart sp c) (sp.fats len) rd D.length = .ok (D, s', rd') ∧
      s'.data ++ rd' = sp.body ss fill P fatSec difSec ∧ s'.size = ss := by
  obtain ⟨s', rd', he, hi, hz⟩ := Space.getChain_gen sp ss hss fill P fatSec difSec hP hf hd c D hPc hok len hlen
    hres s rd [] hsz (by rw [List.append_nil]; exact hinv) hlazy D.length
  rw [stream_read_result ss fill hss] at he
  rw [List.append_nil] at hi
  exact ⟨s', rd', he, hi, hz⟩

/-- the reader recovers every header field and the 109 header DIFAT entries, and
    is positioned at the first sector (512- and 4096-byte sectors) -/
theorem header_roundtrip (streams : List Stream) (L : Layout) (h : Valid streams L) :
    Header.fromReader (layoutCfb streams L) = .ok (hdrOf streams L, hdrDifat L, mainBody streams L) :=
  fromReader_layout streams L (hdrFields_lt streams L (valid_unpack streams L h))
    (hdrDifat_lt streams L (valid_unpack streams L h))

/-- name (UTF-16, BMP and astral, up to 31 units), start sector and size
    (32 bits in version 3, 64 bits in version 4) and object type of a directory entry are recovered -/
theorem dir_entry_roundtrip (name : List Char) (typ : UInt8) (start size ss : Nat) (hn : nameEncOK name = true)
    (hs : start < 4294967296)
    (hsz : (ss = 512 ∧ size < 4294967296) ∨ (ss ≠ 512 ∧ size < 18446744073709551616)) :
    Dir.fromSlice (dirEntry name typ start size) ss = .ok ⟨name, start, size, typ.toNat⟩ :=
  fromSlice_dirEntry name typ start size ss hn hs hsz

/-- UTF-16 encoding/decoding of names round-trips (whatever follows) -/
theorem utf16_roundtrip (cs : List Char) (t : List Nat) : decodeUtf16 (utf16Units cs ++ t) = cs ++ decodeUtf16 t :=
  decode_units cs t

/-- `Cfb::new` succeeds on every generated container and knows every stream -/
theorem new_ok (streams : List Stream) (L : Layout) (h : Valid streams L) :
    ∃ c rd, Cfb.new (layoutCfb streams L) (layoutCfb streams L).length = .ok (c, rd) ∧
      Good streams L c rd ∧ ∀ st ∈ streams, hasDirectory c st.name = true := by
  have hv := valid_unpack streams L h
  obtain ⟨c, rd, he, hg⟩ := new_layout_good streams L hv
  exact ⟨c, rd, he, hg, fun st hst => hasDirectory_layout streams L hv c rd hg st hst⟩

/-- `get_stream` returns the logical stream and keeps the reader state good: streams can be read
    in any order, any number of times, on the same `Cfb` and reader -/
theorem get_stream_ok (streams : List Stream) (L : Layout) (h : Valid streams L) (c : CfbSt) (rd : Bytes)
    (hg : Good streams L c rd) (st : Stream) (hst : st ∈ streams) :
    ∃ c' rd', getStream c st.name rd = .ok (st.data, c', rd') ∧ Good streams L c' rd' := by
  obtain ⟨s0, hs0, rfl⟩ := List.getElem_of_mem hst
  exact getStream_layout streams L (valid_unpack streams L h) c rd hg s0 streams[s0] (by simp [hs0])

/-- **C13**: for every set of streams and every valid physical layout, opening the
    container and reading a stream by name yields the byte-exact logical stream — regular chains
    and mini stream, 512- and 4096-byte sectors, any permutation/fragmentation, any number of FAT and
    DIFAT sectors, any directory order, unused entries and free sectors. -/
theorem cfb_roundtrip (streams : List Stream) (L : Layout) (h : Valid streams L) (st : Stream) (hst : st ∈ streams) :
    readStream (layoutCfb streams L) st.name = .ok st.data := by
  obtain ⟨c, rd, he, hg, _⟩ := new_ok streams L h
  obtain ⟨c', rd', hget, _⟩ := get_stream_ok streams L h c rd hg st hst
  unfold readStream
  rw [he]
  simp only [Res.bind_ok]
  rw [hget]
  rfl

/-- a name lookup reaches the directory entry of that stream whatever the directory order, the unused
    entries and the root entry: `get_stream` continues with the entry's start sector and size -/
theorem get_stream_entry (streams : List Stream) (L : Layout) (h : Valid streams L) (c : CfbSt) (rd : Bytes)
    (hg : Good streams L c rd) (s0 : Nat) (st : Stream) (hst : streams[s0]? = some st) :
    getStream c st.name rd = getStreamAt c (streamDir streams L s0) rd :=
  getStream_entry streams L (valid_unpack streams L h) c rd hg s0 st hst

/-- the mini-stream case: a stream shorter than 4096 bytes is read THROUGH THE MINI STREAM. Its directory entry
    starts at the mini chain `L.mini.ids s0`; `get_stream` follows that chain in the mini FAT the state holds, over
    the mini stream the state holds (the root entry's chain, loaded by `Cfb::new`), reads nothing from the file,
    and the result is the concatenation of those 64-byte mini sectors truncated to the size -/
theorem cfb_roundtrip_mini (streams : List Stream) (L : Layout) (h : Valid streams L) (c : CfbSt) (rd : Bytes)
    (hg : Good streams L c rd) (s0 : Nat) (st : Stream) (hst : streams[s0]? = some st)
    (hmini : st.data.length < 4096) :
    (streamDir streams L s0).start = chainStart L.mini s0 ∧ (streamDir streams L s0).len = st.data.length ∧
    c.mini.getChain (chainStart L.mini s0) c.miniFats rd st.data.length = .ok (st.data, c.mini, rd) ∧
    getStream c st.name rd = .ok (st.data, c, rd) ∧
    st.data = (((L.mini.ids s0).map (sec c.mini.data 64)).flatten).take st.data.length := by
  have hv := valid_unpack streams L h
  have hm : isMini st = true := decide_eq_true hmini
  obtain ⟨s', rd', he, _, hx⟩ := getStream_layout_state streams L hv c rd hg s0 st hst
  rw [if_pos hm] at hx
  obtain ⟨⟨rfl, rfl⟩, hsub⟩ := hx
  refine ⟨by simp [streamDir, hst, hm], by simp [streamDir, hst], hsub, he, ?_⟩
  rw [hg.mini]; exact mini_stream_sectors streams L hv s0 st hst hm

/-- the regular case: a stream of at least 4096 bytes is read THROUGH THE FAT. Its directory entry starts at the
    chain `L.main.ids (3 + s0)`; `get_stream` follows it in the FAT over the sectors of the file, and the result is
    the concatenation of those sectors truncated to the size -/
theorem cfb_roundtrip_regular (streams : List Stream) (L : Layout) (h : Valid streams L) (c : CfbSt) (rd : Bytes)
    (hg : Good streams L c rd) (s0 : Nat) (st : Stream) (hst : streams[s0]? = some st)
    (hreg : 4096 ≤ st.data.length) :
    (streamDir streams L s0).start = chainStart L.main (3 + s0) ∧ (streamDir streams L s0).len = st.data.length ∧
    (∃ s' rd', c.sectors.getChain (chainStart L.main (3 + s0)) c.fats rd st.data.length = .ok (st.data, s', rd') ∧
      getStream c st.name rd = .ok (st.data, { c with sectors := s' }, rd')) ∧
    st.data = (((L.main.ids (3 + s0)).map (sec (mainBody streams L) L.ss)).flatten).take st.data.length := by
  have hv := valid_unpack streams L h
  have hm : isMini st = false := decide_eq_false (Nat.not_lt.mpr hreg)
  obtain ⟨s', rd', he, _, hx⟩ := getStream_layout_state streams L hv c rd hg s0 st hst
  rw [hm, if_neg Bool.false_ne_true] at hx
  exact ⟨by simp [streamDir, hst, hm], by simp [streamDir, hst], ⟨s', rd', hx, he⟩,
    regular_stream_sectors streams L hv s0 st hst hm⟩

/-- the reader as a lookup function (interface used by C18's `project` and by `Xls`): on a generated container it
    returns exactly the streams — every stream by its name, nothing for any other name (the root entry and the
    unused entries are not stream entries: a stream may even be called `Root Entry`) -/
theorem lookup_streams (streams : List Stream) (L : Layout) (h : Valid streams L) (c : CfbSt) (rd : Bytes)
    (hg : Good streams L c rd) :
    (∀ st ∈ streams, lookupOf c rd st.name = some st.data) ∧
    (∀ name, (∀ st ∈ streams, st.name ≠ name) → lookupOf c rd name = none) :=
  ⟨fun st hst => lookupOf_stream streams L (valid_unpack streams L h) c rd hg st hst,
   fun name h3 => lookupOf_absent streams L (valid_unpack streams L h) c rd hg name h3⟩

/-- entry types: `get_stream` looks at STREAM entries only. On ANY reader state, entries of another type —
    storages (a UserForm's designer storage carries the name of the form's module stream), the root, unused
    entries — are invisible to it, whatever their names, start sectors, sizes and positions in the directory -/
theorem get_stream_ignores_non_streams (c : CfbSt) (name : List Char) (rd : Bytes) :
    getStream c name rd =
      match (c.dirs.filter (fun d => d.kind = STREAM_OBJECT)).find? (fun d => d.name = name) with
      | none => .err "notfound"
      | some d => getStreamAt c d rd :=
  getStream_streams_only c name rd

/-- every stream reads the same from two containers holding the same streams, whatever their layouts -/
theorem containers_equal (streams : List Stream) (L₁ L₂ : Layout) (h₁ : Valid streams L₁) (h₂ : Valid streams L₂)
    (st : Stream) (hst : st ∈ streams) :
    readStream (layoutCfb streams L₁) st.name = readStream (layoutCfb streams L₂) st.name := by
  rw [cfb_roundtrip streams L₁ h₁ st hst, cfb_roundtrip streams L₂ h₂ st hst]

theorem chainLoop_total (fats : List Nat) (rem id : Nat) (s : Sectors) (rd : Bytes) (acc : Nat) :
    Sectors.chainLoop fats rem id s rd acc ≠ .outOfFuel :=
  (chainLoop_clean fats rem id s rd acc).2

/-- on ANY allocation table `get_chain` terminates with a result or an error (never out of fuel, never
    a panic): the loop is bounded by `fats.len()` iterations -/
theorem getChain_total (s : Sectors) (start : Nat) (fats : List Nat) (rd : Bytes) (len : Nat) :
    s.getChain start fats rd len ≠ .outOfFuel ∧ ∀ m, s.getChain start fats rd len ≠ .panic m :=
  ⟨(getChain_clean s start fats rd len).2, (getChain_clean s start fats rd len).1⟩

/-- allocation bound for `get_chain`: on ANY allocation table (cyclic, corrupt) and for ANY `len` argument the bytes
    it returns never exceed what has been read of the file (the sector cache afterwards), and cache plus unread
    bytes are conserved — so they never exceed the file -/
theorem getChain_alloc_bound (s : Sectors) (start : Nat) (fats : List Nat) (rd : Bytes) (len : Nat)
    (x : Bytes) (s' : Sectors) (rd' : Bytes) (h : s.getChain start fats rd len = .ok (x, s', rd')) :
    x.length ≤ s'.data.length ∧ s'.data.length + rd'.length = s.data.length + rd.length :=
  getChain_alloc s start fats rd len x s' rd' h

/-- `Cfb::new` on ARBITRARY bytes terminates, whatever `len` hint it is given (the DIFAT walk is bounded by
    the bytes read, the chains by the table and the bytes read) -/
theorem new_terminates (file : Bytes) (len : Nat) : Cfb.new file len ≠ .outOfFuel := (new_clean file len).2.1

/-- `Cfb::new` is total: on EVERY byte string and for EVERY `len` hint it returns `Ok` or `Err`, it never panics -/
theorem new_no_panic (file : Bytes) (len : Nat) (m : String) : Cfb.new file len ≠ .panic m :=
  (new_clean file len).1 m

/-- allocation bound for `Cfb::new` on ARBITRARY bytes: the allocation tables (4 bytes per entry) and the mini stream are
    no larger than what has been read of the file, which together with the unread rest is at most the file -/
theorem new_alloc_bound (file : Bytes) (len : Nat) (c : CfbSt) (rd : Bytes) (h : Cfb.new file len = .ok (c, rd)) :
    c.fats.length * 4 ≤ c.sectors.data.length ∧ c.mini.data.length ≤ c.sectors.data.length ∧
    c.miniFats.length * 4 ≤ c.sectors.data.length ∧ c.sectors.data.length + rd.length ≤ file.length :=
  (new_clean file len).2.2 c rd h

/-- `get_stream` on ARBITRARY reader state never panics and always terminates -/
theorem getStream_no_panic (c : CfbSt) (name : List Char) (rd : Bytes) :
    (∀ m, getStream c name rd ≠ .panic m) ∧ getStream c name rd ≠ .outOfFuel :=
  getStream_clean c name rd

/-- allocation bound for `get_stream`: a stream is never longer than the bytes the state holds (both caches and the
    unread rest), and that quantity is conserved; after `Cfb::new` it is at most twice the file length -/
theorem getStream_alloc_bound (c : CfbSt) (name : List Char) (rd : Bytes) (x : Bytes) (c' : CfbSt) (rd' : Bytes)
    (h : getStream c name rd = .ok (x, c', rd')) :
    x.length ≤ c.bytes rd ∧ c'.bytes rd' = c.bytes rd :=
  getStream_alloc c name rd x c' rd' h

theorem bytes_after_new (file : Bytes) (len : Nat) (c : CfbSt) (rd : Bytes) (h : Cfb.new file len = .ok (c, rd)) :
    c.bytes rd ≤ 2 * file.length := by
  obtain ⟨_, h2, _, h3⟩ := new_alloc_bound file len c rd h
  simp only [CfbSt.bytes]; omega

/-! ### time: sector reads (`Sectors::get` calls), counted by cost functions that mirror the loops of the model
    call by call (`newCost`, `getStreamCost` in `Model/Cfb.lean`). The `≠ outOfFuel` theorems above only say that
    each loop stays within its own budget; the bound below is GLOBAL: all loops of `Cfb::new` and of one
    `get_stream` together perform a number of sector reads linear in the file length, on ARBITRARY bytes. (Not
    counted: the 128-byte directory entries parsed, at most `|file| / 128`, and the linear name search.)
    `2 · |file| + 110`: at most `|file| + 1` DIFAT sectors (the walk's budget), one read per DIFAT entry, of which
    there are at most `109 + |file| / 4` (header, then four bytes of file each), and three chains of at most
    `|file| / 4` sectors (an allocation table of four bytes per entry fits the file); `get_stream` adds one chain. -/

theorem new_cost_linear (file : Bytes) : newCost file ≤ 2 * file.length + 110 := newCost_linear file

theorem read_cost_linear (file : Bytes) (len : Nat) (c : CfbSt) (rd : Bytes) (h : Cfb.new file len = .ok (c, rd))
    (name : List Char) : newCost file + getStreamCost c name rd ≤ 3 * file.length + 110 := by
  have h1 := new_cost_linear file
  have h2 := getStreamCost_le c name rd
  obtain ⟨a1, _, a3, a4⟩ := new_alloc_bound file len c rd h
  omega

/-- on an acyclic (valid) chain of distinct sectors the bounds are never the reason for an error: a fuel of
    the number of sectors of the chain suffices (statement of `chain_follow` with `rem = ids.length`) -/
theorem chain_fuel_suffices (fats : List Nat) (body : Bytes) (ids : List Nat) (s : Sectors) (rd : Bytes)
    (hcache : s.data ++ rd = body) (hss : 0 < s.size) (hlazy : s.lazy = true)
    (hchain : ∀ i (h : i < ids.length), ids[i] ≠ ENDOFCHAIN ∧ fats[ids[i]]? = some (ids[i+1]?.getD ENDOFCHAIN))
    (hdistinct : ids.Nodup) (hfull : ∀ x ∈ ids, (x + 1) * s.size ≤ body.length) :
    ∃ r, Sectors.chainLoop fats ids.length (ids[0]?.getD ENDOFCHAIN) s rd 0 = .ok r := by
  obtain ⟨s', rd', he, _, _⟩ := chain_follow fats body ids ids.length s rd hcache (Nat.le_refl _) hss
    (Or.inl hlazy) hchain hdistinct hfull
  exact ⟨_, he⟩

/-- a self-referencing chain is an error, not a hang (the D29 input) -/
example : Sectors.getChain ⟨[], 512, true⟩ 0 [0] [1, 2, 3] 0 = .err "io" := by decide

/-- a non-trivial instance: version 3, one regular stream of 4100 bytes (9 sectors, fragmented and
    out of order, the last sector stored first), one mini stream of 100 bytes (2 mini sectors in reverse
    order with a free mini sector between them), a free sector, directory order unused/mini/regular -/
def exRegular : Stream := ⟨"Workbook".toList, (List.range 4100).map (fun i => UInt8.ofNat (i * 7 + i / 256))⟩
def exMini : Stream := ⟨"é😀".toList, (List.range 100).map (fun i => UInt8.ofNat (255 - i))⟩
def exStreams : List Stream := [exRegular, exMini]

def exLayout : Layout :=
  { v4 := false
    main := { owner := #[.data 3 8, .fat 0, .data 0 0, .data 3 0, .free, .data 3 2, .data 3 1, .data 2 0,
                          .data 3 3, .data 1 0, .data 3 5, .data 3 4, .data 3 7, .data 3 6]
              chains := #[#[2], #[9], #[7], #[3, 6, 5, 8, 11, 10, 13, 12, 0], #[]] }
    fatIds := #[1]
    difIds := #[]
    mini := { owner := #[.data 1 1, .free, .data 1 0], chains := #[#[], #[2, 0]] }
    dirOrder := [none, some 1, some 0]
    fill := 0xAA }

/-- the hypotheses of `cfb_roundtrip` are satisfiable by a non-trivial instance -/
theorem exValid : Valid exStreams exLayout := by decide +kernel

example : readStream (layoutCfb exStreams exLayout) exMini.name = .ok exMini.data :=
  cfb_roundtrip exStreams exLayout exValid exMini (List.mem_cons_of_mem _ (List.mem_cons_self ..))

/-- the same by plain evaluation of the encoder and the reader model in the kernel -/
example : readStream (layoutCfb exStreams exLayout) exMini.name = .ok exMini.data := by decide +kernel

end Cfb
