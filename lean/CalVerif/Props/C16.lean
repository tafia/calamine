import CalVerif.Lemmas.Metadata
import CalVerif.Lemmas.MetadataFormula
import CalVerif.Lemmas.MetadataCompose
import CalVerif.Props.C01
import CalVerif.Props.C02
import CalVerif.Props.C03
/-! # C16 — workbook metadata is reported faithfully and in workbook order

    Theorems about the model `CalVerif/Model/Metadata.lean` (tied to /repo by `harness/src/bin/c16.rs`) and the
    encoders `CalVerif/Spec/MetadataEnc.lean` (the layouts the harness writes; checked against the files by the
    `encbs` / `encbundle` requests). The code tables are the generated ones (`Gen/SheetCodes.lean`).

    For xlsx and ods the XML layer (text → events, quick-xml) is trusted: those theorems speak about event
    lists and the assurance is chiefly the correspondence run. -/

open Meta MetaEnc MetaLemmas
open Biff (byte le16 le32)

namespace C16

/-- two codes that decode to the same visibility are the same code (xls BoundSheet8 hsState, after masking) -/
theorem vis_table_injective_xls (a b : Nat) (v : SheetVisible)
    (ha : Gen.xlsVisTable.lookup a = some v) (hb : Gen.xlsVisTable.lookup b = some v) : a = b :=
  lookup_inj _ (by decide) a b v ha hb

/-- every visibility has a code, and the code fits the 6 bits the reader keeps -/
theorem vis_table_surjective_xls (v : SheetVisible) : ∃ c, c < 64 ∧ Gen.xlsVisTable.lookup c = some v :=
  ⟨xlsVisCode v, by cases v <;> decide⟩

theorem vis_table_injective_xlsb (a b : Nat) (v : SheetVisible)
    (ha : Gen.xlsbVisTable.lookup a = some v) (hb : Gen.xlsbVisTable.lookup b = some v) : a = b :=
  lookup_inj _ (by decide) a b v ha hb

theorem vis_table_surjective_xlsb (v : SheetVisible) : ∃ c, c < 4294967296 ∧ Gen.xlsbVisTable.lookup c = some v :=
  ⟨xlsbVisCode v, xlsbVis_lookup v⟩

theorem vis_table_injective_xlsx (a b : String) (v : SheetVisible)
    (ha : Gen.xlsxVisTable.lookup a = some v) (hb : Gen.xlsxVisTable.lookup b = some v) : a = b :=
  lookup_inj _ (by decide) a b v ha hb

theorem vis_table_surjective_xlsx (v : SheetVisible) : ∃ s, Gen.xlsxVisTable.lookup s = some v :=
  ⟨xlsxVisName v, xlsxVis_lookup v⟩

/-- the three formats with numeric / named states agree on the meaning of a state (0/1/2 ↔ visible/hidden/veryHidden) -/
theorem vis_tables_agree (v : SheetVisible) :
    xlsVisCode v = xlsbVisCode v ∧ Gen.xlsxVisTable.lookup (xlsxVisName v) = Gen.xlsVisTable.lookup (xlsVisCode v) :=
  ⟨by cases v <;> rfl, (xlsxVis_lookup v).trans (by cases v <;> rfl)⟩

/-- xls sheet types: the four dt values MS-XLS 2.4.28 defines, one kind each, no two codes for one kind -/
theorem kind_table_xls :
    Gen.xlsKindTable.lookup 0 = some .workSheet ∧ Gen.xlsKindTable.lookup 1 = some .macroSheet ∧
    Gen.xlsKindTable.lookup 2 = some .chartSheet ∧ Gen.xlsKindTable.lookup 6 = some .vba ∧
    (∀ a b k, Gen.xlsKindTable.lookup a = some k → Gen.xlsKindTable.lookup b = some k → a = b) :=
  ⟨rfl, rfl, rfl, rfl, lookup_inj _ (by decide)⟩

/-- xlsx / xlsb sheet kinds after fix D27: the four folders Excel uses, one kind each (no folder for VBA modules,
    which these formats keep in `vbaProject.bin`), and no two folders for one kind -/
theorem kind_table_xlsx :
    xlsxFolder .workSheet = some "worksheets" ∧ xlsxFolder .chartSheet = some "chartsheets" ∧
    xlsxFolder .dialogSheet = some "dialogsheets" ∧ xlsxFolder .macroSheet = some "macrosheets" ∧ xlsxFolder .vba = none ∧
    (∀ a b k, Gen.xlsxKindTable.lookup a = some k → Gen.xlsxKindTable.lookup b = some k → a = b) :=
  ⟨rfl, rfl, rfl, rfl, rfl, lookup_inj _ (by decide)⟩

/-- xlsx and xlsb derive the kind from the same path segments -/
theorem kind_tables_xlsx_xlsb_agree : Gen.xlsxKindTable = Gen.xlsbKindTable := rfl

/-- the kind of a sheet part `xl/<folder>/<file>`: the table entry of the folder -/
theorem kind_of_part_path (tbl : List (String × SheetType)) (folder file : List Char)
    (hf : '/' ∉ folder) :
    kindOfPath tbl ("xl/".toList ++ folder ++ '/' :: file) = tbl.lookup (String.ofList folder) := by
  have h2 : (folder ++ '/' :: file).takeWhile (· != '/') = folder := by
    rw [List.takeWhile_append_of_pos (fun c hc => bne_iff_ne.mpr fun (h : c = '/') => hf (h ▸ hc)),
      List.takeWhile_cons_of_neg (by simp), List.append_nil]
  have h1 : afterSlash ("xl/".toList ++ folder ++ '/' :: file) = some (folder ++ '/' :: file) := by
    simp [afterSlash]
  unfold kindOfPath seg1
  rw [h1]
  simp only [Option.map_some, h2]

/-- **BoundSheet8 round trip.** For every stream offset below 2^32, every visibility (with any value of the two
    reserved bits of the hsState byte), every kind BIFF8 can express, and every name of at most 255 UTF-16
    units stored 8-bit (all units < 256) or 16-bit, the reader returns the offset, the kind, the visibility and
    the name (decoded from UTF-16, NUL characters removed as the code does). -/
theorem boundsheet_roundtrip (off : Nat) (hoff : off < 4294967296) (vis : SheetVisible) (reserved : Nat)
    (kind : SheetType) (dt : Nat) (hk : xlsKindCode kind = some dt)
    (us : List Nat) (hlen : us.length < 256) (wide : Bool) (hunits : ∀ u ∈ us, u < (if wide then 65536 else 256)) :
    parseSheetMetadata (encodeBoundSheet off (xlsVisCode vis + 64 * reserved) dt us wide) true
      = .ok (off, ⟨(Biff.decodeUtf16 us).filter (· != 0), kind, vis⟩) :=
  parseSheetMetadata_encoded off hoff vis reserved kind dt hk us hlen wide hunits

/-- the hypotheses of `boundsheet_roundtrip` are satisfiable: a very hidden chart sheet "Aé" stored 8-bit -/
example :
    parseSheetMetadata (encodeBoundSheet 0x1234 (xlsVisCode .veryHidden + 64 * 3) 2 [65, 233] false) true
      = .ok (0x1234, ⟨[65, 233], .chartSheet, .veryHidden⟩) := by
  have := boundsheet_roundtrip 0x1234 (by omega) .veryHidden 3 .chartSheet 2 (by decide) [65, 233] (by decide) false (by decide)
  simpa [Biff.decodeUtf16, Biff.isHigh, Biff.isLow] using this

/-- **names are exact.** A sheet name given as Unicode scalar values (none of them NUL, at most 255 UTF-16 units —
    non-BMP characters count two), stored 16-bit, comes back character for character -/
theorem boundsheet_name_exact (off : Nat) (hoff : off < 4294967296) (vis : SheetVisible) (reserved : Nat)
    (kind : SheetType) (dt : Nat) (hk : xlsKindCode kind = some dt)
    (name : Text) (hs : ∀ c ∈ name, isScalar c) (hz : ∀ c ∈ name, c ≠ 0) (hlen : (utf16 name).length < 256) :
    parseSheetMetadata (encodeBoundSheet off (xlsVisCode vis + 64 * reserved) dt (utf16 name) true) true
      = .ok (off, ⟨name, kind, vis⟩) := by
  rw [boundsheet_roundtrip off hoff vis reserved kind dt hk (utf16 name) hlen true (by simpa using utf16_lt name hs)]
  rw [decodeUtf16_utf16 name hs, List.filter_eq_self.mpr fun c hc => by simp [hz c hc]]

/-- satisfiable with a non-BMP character and XML specials: "A&<😀" -/
example :
    parseSheetMetadata (encodeBoundSheet 7 (xlsVisCode .hidden) 0 (utf16 [65, 38, 60, 0x1F600]) true) true
      = .ok (7, ⟨[65, 38, 60, 0x1F600], .workSheet, .hidden⟩) := by
  have := boundsheet_name_exact 7 (by omega) .hidden 0 .workSheet 0 (by decide) [65, 38, 60, 0x1F600]
    (by intro c hc; simp at hc; unfold isScalar; omega) (by decide) (by decide)
  simpa using this

/-- a state the table does not know is an error, never a silent default (here hsState = 3) -/
theorem boundsheet_unknown_state_rejected (off dt : Nat) (us : List Nat) (wide : Bool) :
    ∃ e, parseSheetMetadata (encodeBoundSheet off 3 dt us wide) true = .err e := by
  refine ⟨unrec "BoundSheet8:hsState" "3", ?_⟩
  have hl : ¬ (encodeBoundSheet off 3 dt us wide).length < 6 := Nat.not_lt.mpr (Nat.le_add_left 6 _)
  have h4 : byteAt (encodeBoundSheet off 3 dt us wide) 4 = 3 := rfl
  unfold parseSheetMetadata
  simp only [hl, if_false, h4]
  rfl

/-- **xls: sheets and defined names in stream order.** A globals substream is BOF, any sequence of BoundSheet8
    records (each with a 32-bit offset inside the stream, any visibility and reserved bits, any sheet type of
    MS-XLS 2.4.28, a name of up to 255 UTF-16 units in either packing), DATEMODE records, Lbl records (name in
    either packing, any formula bytes the formula decoder `pd` accepts), ExternSheet records and records the
    loop does not interpret, then EOF and the rest of the stream (which must not begin with a CONTINUE record).
    `parse_workbook` then reports exactly the declared sheets in stream order with their names (UTF-16 decoded,
    NULs removed), kinds and visibilities; the defined names in stream order, each with the text of `pd`,
    prefixed by `<sheet>!` where `pd` found a 3-D reference — the sheet being the `itab_first`-th declared sheet
    of the referenced XTI entry (`#REF` when the entry or the sheet does not exist); and the 1904 flag iff a
    DATEMODE record carries 1. `pd` (`parse_defined_names`, C14) is arbitrary. -/
theorem sheets_in_order_xls (pd : Bytes → Res (Option Nat × Text))
    (recs : List GRec) (hall : ∀ r ∈ recs, r.ok pd) (tail : Bytes) (htail : Biff.notCont tail)
    (hoff : ∀ s ∈ declaredSheets recs, s.offset ≤ (encodeGlobals recs tail).length) :
    parseWorkbookXls pd (encodeGlobals recs tail) =
      .ok ⟨(declaredSheets recs).map (fun s => s.decoded.2),
           (declaredNames pd recs).map (resolveName (declaredXtis recs) ((declaredSheets recs).map XlsSheet.decoded)),
           declared1904 recs⟩ :=
  parseWorkbookXls_encoded pd recs hall tail htail hoff

theorem defined_names_in_order_xls (pd : Bytes → Res (Option Nat × Text))
    (recs : List GRec) (hall : ∀ r ∈ recs, r.ok pd) (tail : Bytes) (htail : Biff.notCont tail)
    (hoff : ∀ s ∈ declaredSheets recs, s.offset ≤ (encodeGlobals recs tail).length) :
    ∀ wb, parseWorkbookXls pd (encodeGlobals recs tail) = .ok wb →
      wb.names = (declaredNames pd recs).map (resolveName (declaredXtis recs) ((declaredSheets recs).map XlsSheet.decoded)) := by
  intro wb h
  rw [sheets_in_order_xls pd recs hall tail htail hoff] at h
  cases h
  rfl

/-- **the XTI → sheet resolution against an independent specification.** `Refers` / `NameMeets` (Spec/MetadataEnc) are
    written from MS-XLS 2.4.105 / 2.4.150 / 2.5.198.x, not from the code: a 3-D reference through XTI entry `ixti`
    designates the sheet with BoundSheet8 index `itabFirst` (signed 16 bit) of that entry; a reference that designates
    no sheet of the workbook (no such entry, `itabFirst` = −1 / −2 / beyond the last sheet) reads `#REF`. For every
    declared Lbl, whatever its scope `itab` (global or sheet-local: the encoder takes any value and the result does
    not mention it), the reader reports at the same position the name and the text the specification demands. -/
theorem defined_names_xls_meet_spec (pd : Bytes → Res (Option Nat × Text))
    (recs : List GRec) (hall : ∀ r ∈ recs, r.ok pd) (tail : Bytes) (htail : Biff.notCont tail)
    (hoff : ∀ s ∈ declaredSheets recs, s.offset ≤ (encodeGlobals recs tail).length)
    (wb : Workbook Text) (h : parseWorkbookXls pd (encodeGlobals recs tail) = .ok wb) :
    wb.names.length = (declaredNames pd recs).length ∧
    ∀ (i : Nat) (decl : Text × Option Nat × Text), (declaredNames pd recs)[i]? = some decl → ∃ got : Text × Text, wb.names[i]? = some got ∧
      NameMeets ((declaredSheets recs).map (fun s => s.decoded.2.name)) (declaredXtiTriples recs) decl got := by
  have hn := defined_names_in_order_xls pd recs hall tail htail hoff wb h
  rw [hn, declaredXtis_eq]
  refine ⟨by simp, ?_⟩
  intro i decl hd
  refine ⟨_, by rw [List.getElem?_map, hd]; rfl, ?_⟩
  have := resolveName_meets ((declaredSheets recs).map XlsSheet.decoded) (declaredXtiTriples recs) decl
  simpa [List.map_map, Function.comp_def] using this

/-- **defined names decoded (formula decoder instantiated with C14's model).** With `pd` = C14's model of
    `parse_defined_names`: a Lbl whose formula is a 3-D cell reference (`PtgRef3d`, any operand class) through XTI
    entry `ixti` to the cell `a` (row below 2^16, column below 2^14, absolute or relative row / column) is acceptable
    to the decoder, and when the reference designates the sheet named `s` it is reported, at the position of the Lbl
    among the Lbl records, as `<name>` ↦ `s!<A1 text of a>` — `$` exactly before the absolute parts (C14
    `ref_text_flags`), e.g. `S1!$B$3`, `S1!A1` — by `parse_workbook`. -/
theorem defined_names_xls_decoded
    (pre post : List GRec) (us : List Nat) (wide : Bool) (itab : Nat) (op : UInt8) (hop : op = 0x3A ∨ op = 0x5A ∨ op = 0x7A)
    (ixti : Nat) (hi : ixti < 65536) (a : Formula.CellRef) (hr : a.row < 65536) (hcol : a.col < 16384)
    (hall : ∀ r ∈ pre ++ .lbl us wide itab (op :: (Biff.le16 ixti ++ (Biff.le16 a.row ++ Biff.le16 (Formula.colRel a)))) :: post, r.ok pdC14)
    (tail : Bytes) (htail : Biff.notCont tail)
    (hoff : ∀ s ∈ declaredSheets (pre ++ .lbl us wide itab (op :: (Biff.le16 ixti ++ (Biff.le16 a.row ++ Biff.le16 (Formula.colRel a)))) :: post),
      s.offset ≤ (encodeGlobals (pre ++ .lbl us wide itab (op :: (Biff.le16 ixti ++ (Biff.le16 a.row ++ Biff.le16 (Formula.colRel a)))) :: post) tail).length)
    (s : Text)
    (href : Refers ((declaredSheets (pre ++ .lbl us wide itab (op :: (Biff.le16 ixti ++ (Biff.le16 a.row ++ Biff.le16 (Formula.colRel a)))) :: post)).map (fun s => s.decoded.2.name))
      (declaredXtiTriples (pre ++ .lbl us wide itab (op :: (Biff.le16 ixti ++ (Biff.le16 a.row ++ Biff.le16 (Formula.colRel a)))) :: post)) ixti s)
    (wb : Workbook Text)
    (h : parseWorkbookXls pdC14 (encodeGlobals (pre ++ .lbl us wide itab (op :: (Biff.le16 ixti ++ (Biff.le16 a.row ++ Biff.le16 (Formula.colRel a)))) :: post) tail) = .ok wb) :
    wb.names[(declaredNames pdC14 pre).length]? = some (Biff.decodeUtf16 us, s ++ 33 :: textOfChars (Formula.cellText a)) := by
  obtain ⟨_, hsp⟩ := defined_names_xls_meet_spec pdC14 _ hall tail htail hoff wb h
  have hpd := pdC14_ref3d op hop ixti hi a hr hcol
  have hdecl : (declaredNames pdC14 (pre ++ .lbl us wide itab (op :: (Biff.le16 ixti ++ (Biff.le16 a.row ++ Biff.le16 (Formula.colRel a)))) :: post))[(declaredNames pdC14 pre).length]? =
      some (Biff.decodeUtf16 us, some ixti, textOfChars (Formula.cellText a)) := by
    rw [declaredNames_append]
    simp [declaredNames, pdValue, hpd]
  obtain ⟨got, hg, hname, hrest⟩ := hsp _ _ hdecl
  rw [hg]
  simp only at hrest hname
  have := hrest.1 s href
  obtain ⟨g1, g2⟩ := got
  simp only at hname this
  rw [hname, this]

/-- the decoder hypothesis of `defined_names_xls_decoded` holds for concrete tokens: `PtgRef3d` (value class) through
    XTI 0 to `$B$3`, and to the relative `B3` -/
example :
    pdC14 (0x5A :: (Biff.le16 0 ++ (Biff.le16 2 ++ Biff.le16 (Formula.colRel ⟨2, 1, true, true⟩)))) =
      .ok (some 0, textOfChars (Formula.cellText ⟨2, 1, true, true⟩)) ∧
    pdC14 (0x3A :: (Biff.le16 0 ++ (Biff.le16 2 ++ Biff.le16 (Formula.colRel ⟨2, 1, false, false⟩)))) =
      .ok (some 0, textOfChars (Formula.cellText ⟨2, 1, false, false⟩)) :=
  ⟨pdC14_ref3d 0x5A (by decide) 0 (by decide) ⟨2, 1, true, true⟩ (by decide) (by decide),
   pdC14_ref3d 0x3A (by decide) 0 (by decide) ⟨2, 1, false, false⟩ (by decide) (by decide)⟩

/-- **xls: the date-system flag** read from the globals is the one DATEMODE declares -/
theorem date1904_flag_xls (pd : Bytes → Res (Option Nat × Text))
    (recs : List GRec) (hall : ∀ r ∈ recs, r.ok pd) (tail : Bytes) (htail : Biff.notCont tail)
    (hoff : ∀ s ∈ declaredSheets recs, s.offset ≤ (encodeGlobals recs tail).length) :
    ∀ wb, parseWorkbookXls pd (encodeGlobals recs tail) = .ok wb → wb.is1904 = declared1904 recs := by
  intro wb h
  rw [sheets_in_order_xls pd recs hall tail htail hoff] at h
  cases h
  rfl

set_option maxRecDepth 8000 in
/-- satisfiable: WRITEACCESS noise, DATEMODE 1, a hidden macro sheet stored 16-bit and a very hidden chart sheet
    stored 8-bit with reserved bits set, an ExternSheet whose second entry points at the first sheet, a 16-bit
    defined name "Жы" (the case of ledger D35) whose formula the decoder reads as a reference through XTI 1, and a
    name without sheet -/
example :
    parseWorkbookXls (fun rg => .ok (if rg = [1] then (some 1, [36, 65, 36, 49]) else (none, [55])))
      (encodeGlobals [.neutral 0x005C [1, 2, 3], .date 1, .sheet ⟨40, 0, .hidden, 1, [0x416, 0x44B], true⟩,
                      .neutral 0x0293 [], .sheet ⟨60, 3, .veryHidden, 2, [65, 233], false⟩,
                      .extern [(0, 1, 1), (0, 0, 0), (0, 0xFFFE, 0xFFFE)],
                      .lbl [0x416, 0x44B] true 0 [1], .lbl [110] false 0 [2], .lbl [98] false 0 [1]] []) =
      .ok ⟨[⟨[0x416, 0x44B], .macroSheet, .hidden⟩, ⟨[65, 233], .chartSheet, .veryHidden⟩],
           [([0x416, 0x44B], [0x416, 0x44B, 33, 36, 65, 36, 49]), ([110], [55]), ([98], [0x416, 0x44B, 33, 36, 65, 36, 49])],
           true⟩ := by
  decide +kernel

/-- **BrtBundleSh round trip.** For every visibility, tab id below 2^32, relationship id and sheet name of
    fewer than 2^31 UTF-16 units each, with a relationship that resolves to a part in a known folder: the record
    decodes to the declared name (UTF-16 decoded), visibility, the kind of the folder, and the part path. -/
theorem bundlesh_roundtrip (rels : List (Text × String)) (s : XlsbSheet) (hs : s.ok rels) :
    bundleSh rels (encodeBundleSh (xlsbVisCode s.vis) s.tabId s.relUnits s.nameUnits) = .ok (some (s.decoded rels)) :=
  bundleSh_encoded rels s hs

/-- xlsb names are exact: a BrtBundleSh whose name is the UTF-16 encoding of a text of scalar values decodes to that text -/
theorem bundlesh_name_exact (rels : List (Text × String)) (vis : SheetVisible) (tabId : Nat) (relUnits : List Nat) (name : Text)
    (hn : ∀ c ∈ name, isScalar c) (hs : XlsbSheet.ok rels ⟨vis, tabId, relUnits, utf16 name⟩) :
    ∃ kind path, bundleSh rels (encodeBundleSh (xlsbVisCode vis) tabId relUnits (utf16 name)) = .ok (some (⟨name, kind, vis⟩, path)) := by
  refine ⟨((XlsbSheet.decoded rels ⟨vis, tabId, relUnits, utf16 name⟩).1).typ, (XlsbSheet.decoded rels ⟨vis, tabId, relUnits, utf16 name⟩).2, ?_⟩
  have := bundlesh_roundtrip rels ⟨vis, tabId, relUnits, utf16 name⟩ hs
  simp only at this
  rw [this]
  simp only [XlsbSheet.decoded, decodeUtf16_utf16 name hn]

/-- **xlsb: sheets in part order, whatever the framing.** `workbook.bin` is any sequence of BrtBundleSh records,
    BrtWbProp records and records the loop does not interpret (any id below 2^14 other than the three it knows,
    any payload — BrtBookView, BrtFileVersion, future records), each framed with any legal id width and length
    width, then BrtEndBundleShs and one of the records that follow the defined names. `read_workbook` (after fix
    C16-a) reports exactly the declared sheets in order, and bit 0 of the last BrtWbProp as the date system.
    `pf` (the formula decoder, C14) is arbitrary; the defined names are described by `defined_names_in_order_xlsb`. -/
theorem sheets_in_order_xlsb (pf : Bytes → List Text → List (Text × Text) → Res Text) (rels : List (Text × String))
    (recs : List WRec) (hall : ∀ r ∈ recs, r.ok rels) (ew : Bool) (el : Nat)
    (nrecs : List NRec) (hok : namesOk pf ((declaredW recs).map (XlsbSheet.decoded rels)) ([], []) nrecs)
    (t : Nat) (ht : isAfterNames t = true) (tw : Bool) (tl : Nat) (rest : Bytes) :
    readWorkbookXlsb pf rels (encodeWorkbookBin recs ew el (nrecs.flatMap NRec.bytes ++ (Xlsb.frame t [] tw tl ++ rest))) =
      .ok (⟨(declaredW recs).map (fun s => (s.decoded rels).1),
            (nrecs.foldl (applyN pf ((declaredW recs).map (XlsbSheet.decoded rels))) ([], [])).2, flagW recs⟩,
           (declaredW recs).map (fun s => (s.decoded rels).2)) :=
  XlsbBook.readWorkbookXlsb_encoded pf rels recs hall ew el nrecs hok t ht tw tl rest

/-- **xlsb: defined names in part order.** After the sheet list: any sequence of BrtExternSheet records, BrtName
    records (any flags, scope, name, formula bytes the formula decoder accepts in the state reached so far,
    anything after the formula) and records the loop does not interpret, under any framing, up to one of the
    records that follow the names. The reader reports one entry per BrtName, in order: the name (UTF-16 decoded)
    and the text `pf` gives for the formula bytes, the extern-sheet names current at that point (each XTI's first
    sheet resolved against the sheet list) and the names defined before it. -/
theorem defined_names_in_order_xlsb (pf : Bytes → List Text → List (Text × Text) → Res Text) (rels : List (Text × String))
    (recs : List WRec) (hall : ∀ r ∈ recs, r.ok rels) (ew : Bool) (el : Nat)
    (nrecs : List NRec) (hok : namesOk pf ((declaredW recs).map (XlsbSheet.decoded rels)) ([], []) nrecs)
    (t : Nat) (ht : isAfterNames t = true) (tw : Bool) (tl : Nat) (rest : Bytes) :
    ∀ wb p, readWorkbookXlsb pf rels (encodeWorkbookBin recs ew el (nrecs.flatMap NRec.bytes ++ (Xlsb.frame t [] tw tl ++ rest))) = .ok (wb, p) →
      wb.names = (nrecs.foldl (applyN pf ((declaredW recs).map (XlsbSheet.decoded rels))) ([], [])).2 := by
  intro wb p h
  rw [sheets_in_order_xlsb pf rels recs hall ew el nrecs hok t ht tw tl rest] at h
  cases h
  rfl

set_option maxRecDepth 8000 in
/-- satisfiable: one sheet "A", an ExternSheet whose entries point at this workbook, at sheet 0 and at a missing
    sheet, an unknown record with payload, and two names; the stand-in formula decoder shows which extern-sheet
    table and how many earlier names it was handed -/
example :
    readWorkbookXlsb (fun rg ext names => .ok ((ext.getD 1 []) ++ [33] ++ rg.map (·.toNat) ++ [48 + names.length]))
      [([114, 73, 100, 49], "worksheets/sheet1.bin")]
      (encodeWorkbookBin [.sheet ⟨.visible, 1, [114, 73, 100, 49], [65]⟩ false 0] false 0
        ([NRec.extern [(0, 0xFFFFFFFE, 0xFFFFFFFE), (0, 0, 0), (0, 7, 7)] false 0, .other 0x0C00 [0x27, 0x6A] true 2,
          .name ⟨0, 0xFFFFFFFF, [110, 0x416], [7], [0, 0, 0, 0]⟩ false 0,
          .name ⟨2, 0, [98], [8, 9], []⟩ true 4].flatMap NRec.bytes ++ Xlsb.frame 0x0084 [] false 0)) =
      .ok (⟨[⟨[65], .workSheet, .visible⟩], [([110, 0x416], [65, 33, 7, 48]), ([98], [65, 33, 8, 9, 49])], false⟩,
           ["xl/worksheets/sheet1.bin".toList]) := by
  decide +kernel

/-- **xlsb: the date-system flag** is bit 0 of BrtWbProp -/
theorem date1904_flag_xlsb (pf : Bytes → List Text → List (Text × Text) → Res Text) (rels : List (Text × String))
    (recs : List WRec) (hall : ∀ r ∈ recs, r.ok rels) (ew : Bool) (el : Nat)
    (t : Nat) (ht : isAfterNames t = true) (tw : Bool) (tl : Nat) (rest : Bytes) :
    ∀ wb p, readWorkbookXlsb pf rels (encodeWorkbookBin recs ew el (Xlsb.frame t [] tw tl ++ rest)) = .ok (wb, p) →
      wb.is1904 = flagW recs := by
  intro wb p h
  have := sheets_in_order_xlsb pf rels recs hall ew el [] trivial t ht tw tl rest
  simp only [List.flatMap_nil, List.nil_append] at this
  rw [this] at h
  cases h
  rfl

def bookViewPayload : Bytes :=
  [0x9C, 0x01, 0, 0, 0, 0, 0, 0, 0x90, 0x01, 0, 0, 0x0C, 0x30, 0, 0, 0x58, 0x02, 0, 0, 0, 0, 0, 0, 0, 0, 0, 0, 0x78]

def c16aRels : List (Text × String) := [([114, 73, 100, 49], "chartsheets/sheet1.bin"), ([114, 73, 100, 50], "worksheets/sheet2.bin")]

def c16aBook : Bytes :=
  encodeWorkbookBin
    [.other 0x0083 [] false 0, .wbprop 1 false 0, .other 0x0087 [] false 0, .other 0x009E bookViewPayload true 3,
     .other 0x0088 [] false 0, .other 0x008F [] false 0,
     .sheet ⟨.hidden, 1, [114, 73, 100, 49], [0x416, 0xD83D, 0xDE00]⟩ false 0,
     .sheet ⟨.veryHidden, 2, [114, 73, 100, 50], [65]⟩ true 4]
    false 0 (Xlsb.frame 0x0084 [] false 0)

set_option maxRecDepth 8000 in
/-- satisfiable: BrtBeginBook, BrtWbProp with f1904, a BrtBookView whose window geometry holds the bytes `90 01`
    and `9C 01` (the pinned reader lost every sheet on it, finding C16-a), two sheets (hidden chart sheet,
    very hidden work sheet) under mixed framings, BrtEndBundleShs, BrtEndBook -/
example :
    readWorkbookXlsb (fun _ _ _ => .ok []) c16aRels c16aBook =
      .ok (⟨[⟨[0x416, 0x1F600], .chartSheet, .hidden⟩, ⟨[65], .workSheet, .veryHidden⟩], [], true⟩,
           ["xl/chartsheets/sheet1.bin".toList, "xl/worksheets/sheet2.bin".toList]) := by
  decide +kernel

/-- finding C16-a as a checked statement: on the same part the pinned reader (payload bytes of unknown records
    read as record ids) ends the sheet list at the bytes `90 01` inside BrtBookView and reports no sheet at all -/
theorem c16a_witness :
    readWorkbookXlsbPinned (fun _ _ _ => .ok []) c16aRels
      (encodeWorkbookBin
        [.other 0x0083 [] false 0, .wbprop 1 false 0, .other 0x0087 [] false 0,
         .other 0x009E ([0, 0, 0, 0, 0, 0, 0, 0, 0x90, 0x01, 0, 0] ++ List.replicate 17 0) false 0,
         .other 0x0088 [] false 0, .other 0x008F [] false 0,
         .sheet ⟨.hidden, 1, [114, 73, 100, 49], [65]⟩ false 0]
        false 0 (Xlsb.frame 0x0084 [] false 0)) = .ok (⟨[], [], true⟩, []) := by
  decide +kernel

def d22Events : List Ev :=
  [.start "x:workbook" [], .start "x:workbookPr" [("date1904", "1")], .end_ "x:workbookPr",
   .start "x:sheets" [], .start "x:sheet" [("name", "S1"), ("sheetId", "1"), ("r:id", "rId1")], .end_ "x:sheet",
   .end_ "x:sheets", .end_ "x:workbook"]

def d22Rels : List (String × String) := [("rId1", "worksheets/sheet1.xml")]

/-- **xlsx: sheets, defined names and the date flag in document order.** For every element prefix (`q` with
    `local_name (q s) = s`), every spelling of the relationship-id attribute with a prefix and local name `id`,
    every list of declared sheets whose relationship resolves to a part in a known folder, every list of
    defined names (character data in any number of pieces, each ordinary text or a CDATA section — both count
    alike after fix 5d9aab9) and every `workbookPr` attribute list:
    the reader reports exactly the declared sheets in order (name, kind from the folder, visibility from
    `state`, default visible), the defined names in order with their concatenated text, and
    `date1904 ∈ {"1","true"}` — and an `<extLst>` at the end of the workbook element changes nothing of this,
    whatever it contains (elements of any namespace and local name, text, comments; only a nested element with
    the list's own qualified name is excluded): after fix 4dbff9e its subtree is skipped. Between these children
    (five positions, `Gaps`) any inert events may occur: start tags whose local name is not one of the four the
    reader interprets (`fileVersion`, `bookViews`, `calcPr`, `mc:AlternateContent`, `externalReferences`,
    `pivotCaches`, … with any attributes and nesting), foreign `workbookPr` twins without a `date1904` attribute
    (before or after the real element), end tags other than the workbook's, text, comments, PIs. -/
theorem sheets_in_order_xlsx (rels : List (String × String)) (q : String → String) (hq : QOk q)
    (ridKey : String) (hk : ridKeyOk ridKey) (pr : Option (List (String × String)))
    (sheets : List XSheet) (hs : ∀ s ∈ sheets, s.ok rels) (names : List (String × List (Bool × String)))
    (ext : Option (List Ev)) (hext : ∀ body, ext = some body → ExtOk (q "extLst") body)
    (g : Gaps) (hg : g.ok) :
    readWorkbookXlsx rels (workbookEvents q ridKey pr sheets names ext g) =
      .ok (⟨sheets.map (fun s => ⟨s.name, s.kind, s.vis⟩), names.map dnValue, (pr.map date1904Attr).getD false⟩,
           sheets.map (fun s => xlsxPath s.target.toList)) :=
  readWorkbookXlsx_encoded rels q hq ridKey hk pr sheets hs names ext hext g hg

/-- the hypotheses of `sheets_in_order_xlsx` are satisfiable: prefix `x:`, `rel:id`, a hidden chart sheet and a
    very hidden macro sheet (kind known after fix D27), a defined name with XML specials split over a text event and a CDATA section -/
example :
    readWorkbookXlsx [("rId1", "chartsheets/sheet1.xml"), ("rId2", "/xl/macrosheets/sheet2.xml")]
      (workbookEvents (fun s => "x:" ++ s) "rel:id" (some [("date1904", "true")])
        [⟨"A & <B>", "1", .hidden, true, "rId1", "chartsheets/sheet1.xml", .chartSheet⟩,
         ⟨"😀", "2", .veryHidden, true, "rId2", "/xl/macrosheets/sheet2.xml", .macroSheet⟩]
        [("n", [(false, "1<2"), (true, "&\"x\"")])]) =
      .ok (⟨[⟨"A & <B>", .chartSheet, .hidden⟩, ⟨"😀", .macroSheet, .veryHidden⟩], [("n", "1<2&\"x\"")], true⟩,
           ["xl/chartsheets/sheet1.xml".toList, "xl/macrosheets/sheet2.xml".toList]) := by
  decide +kernel

/-- the hypotheses on the name qualifier and on the relationship-id attribute are satisfiable without a prefix
    (`q = id`: what Excel writes), with the prefix `x:`, and with the relationship prefixes `r`, `relationships`,
    `rel` — and even with a prefix literally named `id` (`id:id`), while the declaration `xmlns:id` of that prefix
    is NOT taken for the relationship id (fix f69fe90, finding C16-f) -/
example : QOk id ∧ QOk (fun s => "x:" ++ s) ∧ ridKeyOk "r:id" ∧ ridKeyOk "relationships:id" ∧ ridKeyOk "rel:id" ∧
    ridKeyOk "id:id" ∧ ¬ ridKeyOk "xmlns:id" := by
  unfold QOk ridKeyOk
  decide +kernel

/-- finding C16-f as a concrete run: every `<sheet>` declares the relationships namespace itself under the prefix `id`;
    the attribute list is `name, sheetId, xmlns:id, id:id` and the sheet is read through `id:id` -/
example :
    readWorkbookXlsx d22Rels
      [.start "workbook" [], .start "sheets" [],
       .start "sheet" [("name", "S1"), ("sheetId", "1"),
                       ("xmlns:id", "http://schemas.openxmlformats.org/officeDocument/2006/relationships"), ("id:id", "rId1")],
       .end_ "sheet", .end_ "sheets", .end_ "workbook"] =
      .ok (⟨[⟨"S1", .workSheet, .visible⟩], [], false⟩, ["xl/worksheets/sheet1.xml".toList]) := by
  decide +kernel

/-- **xlsx: defined names in document order; text and CDATA contribute alike.** The value reported for a name is
    the concatenation of all its character-data pieces in order, whether a piece is ordinary text or a CDATA
    section (`dnValue` ignores the flag) -/
theorem defined_names_in_order_xlsx (rels : List (String × String)) (q : String → String) (hq : QOk q)
    (ridKey : String) (hk : ridKeyOk ridKey) (pr : Option (List (String × String)))
    (sheets : List XSheet) (hs : ∀ s ∈ sheets, s.ok rels) (names : List (String × List (Bool × String))) :
    (readWorkbookXlsx rels (workbookEvents q ridKey pr sheets names)).isOk = true ∧
    ∀ wb p, readWorkbookXlsx rels (workbookEvents q ridKey pr sheets names) = .ok (wb, p) →
      wb.names = names.map (fun n => (n.1, n.2.foldl (fun acc c => acc ++ c.2) "")) := by
  rw [sheets_in_order_xlsx rels q hq ridKey hk pr sheets hs names none (by intro _ h; cases h) {} gaps_ok_empty]
  refine ⟨rfl, ?_⟩
  intro wb p h
  cases h
  rfl

/-- finding C16-d as a checked statement: `<definedName name="N">Sheet1!<![CDATA[$A$1]]></definedName>` — the reader
    before 5d9aab9 dropped the CDATA part, the current one reports the whole text -/
theorem c16d_witness :
    readWorkbookXlsxNoCData [] (workbookEvents id "r:id" none [] [("N", [(false, "Sheet1!"), (true, "$A$1")])]) =
      .ok (⟨[], [("N", "Sheet1!")], false⟩, []) ∧
    readWorkbookXlsx [] (workbookEvents id "r:id" none [] [("N", [(false, "Sheet1!"), (true, "$A$1")])]) =
      .ok (⟨[], [("N", "Sheet1!$A$1")], false⟩, []) := by
  decide +kernel

/-- **xlsx: the date-system flag** is `true` exactly for `date1904="1"` / `"true"` on the main-namespace
    `workbookPr`, whatever prefix that element has (fix D22), and inert foreign content does not change it: an
    extension list holding, e.g., `<x15:workbookPr chartTrackingRefBase="1"/>` (no `date1904` attribute; written
    by Excel 2013+), `x14:definedName` or any other element whose local name collides with one the reader
    interprets leaves the flag — and the sheets and names — as declared (fix 4dbff9e; finding C16-b) -/
theorem date1904_flag_xlsx (rels : List (String × String)) (q : String → String) (hq : QOk q)
    (ridKey : String) (hk : ridKeyOk ridKey) (v : String)
    (sheets : List XSheet) (hs : ∀ s ∈ sheets, s.ok rels) (names : List (String × List (Bool × String)))
    (ext : Option (List Ev)) (hext : ∀ body, ext = some body → ExtOk (q "extLst") body) (g : Gaps) (hg : g.ok) :
    ∀ wb p, readWorkbookXlsx rels (workbookEvents q ridKey (some [("date1904", v)]) sheets names ext g) = .ok (wb, p) →
      wb.is1904 = (v = "1" || v = "true") := by
  rw [sheets_in_order_xlsx rels q hq ridKey hk _ sheets hs names ext hext g hg]
  intro wb p h
  cases h
  simp [date1904Attr, List.lookup]

/-- the extension list Excel 2013+ writes, plus an Excel-2010 function description and a foreign `sheet` -/
def x15Ext : List Ev :=
  [.start "ext" [("uri", "{140A7094-0E35-4892-8432-C4D2E57EDEB5}")], .start "x15:workbookPr" [("chartTrackingRefBase", "1")],
   .end_ "x15:workbookPr", .end_ "ext",
   .start "ext" [("uri", "{46BE6895-7355-4a93-B00E-2C351335B9C9}")], .start "x14:definedName" [("name", "ExtFn")],
   .text "first argument", .end_ "x14:definedName", .start "x15:sheet" [("name", "shadow")], .end_ "x15:sheet", .end_ "ext"]

/-- `x15Ext` meets the hypothesis of the two theorems above -/
example : ExtOk "extLst" x15Ext := by
  intro e he
  simp [x15Ext] at he
  rcases he with rfl | rfl | rfl | rfl | rfl | rfl | rfl | rfl | rfl | rfl | rfl <;> simp

/-- the inert content Excel really writes around the interpreted children meets `Gaps.ok` … -/
def excelGaps : Gaps :=
  { g0 := [.start "fileVersion" [("appName", "xl")], .end_ "fileVersion"],
    g1 := [.start "mc:AlternateContent" [], .start "mc:Choice" [("Requires", "x15")], .start "x15ac:absPath" [("url", "C:\\")],
           .end_ "x15ac:absPath", .end_ "mc:Choice", .end_ "mc:AlternateContent",
           .start "bookViews" [], .start "workbookView" [("xWindow", "0")], .end_ "workbookView", .end_ "bookViews"],
    g2 := [.start "mc:AlternateContent" [], .start "x15:workbookPr" [("chartTrackingRefBase", "1")], .end_ "x15:workbookPr",
           .end_ "mc:AlternateContent", .other, .start "externalReferences" [], .start "externalReference" [("r:id", "rId9")], .end_ "externalReference",
           .end_ "externalReferences"],
    g3 := [.start "calcPr" [("calcId", "191029")], .end_ "calcPr", .start "pivotCaches" [], .text "\n", .end_ "pivotCaches"],
    g4 := [.other] }

example : excelGaps.ok := by
  unfold Gaps.ok
  decide +kernel

/-- … and the full workbook with them reads as declared (concrete run of the model) -/
example :
    readWorkbookXlsx d22Rels
      (workbookEvents id "r:id" (some [("date1904", "1")]) [⟨"S1", "1", .hidden, true, "rId1", "worksheets/sheet1.xml", .workSheet⟩]
        [("N", [(false, "S1!$A$1")])] (some x15Ext) excelGaps) =
      .ok (⟨[⟨"S1", .workSheet, .hidden⟩], [("N", "S1!$A$1")], true⟩, ["xl/worksheets/sheet1.xml".toList]) := by
  decide +kernel

/-- finding C16-b as a checked statement. On a 1904-system workbook that carries `x15Ext`: the reader between the
    D22 fix and 4dbff9e (local-name match, flag reset, no skipping) opens the workbook, loses the flag, lists the
    function description as a defined name — and fails on the foreign `sheet`; restricted to the element Excel
    really writes it silently reports `is_1904 = false`. The current reader reports what the workbook declares. -/
theorem c16b_witness :
    readWorkbookXlsxD22Fix d22Rels
      (workbookEvents id "r:id" (some [("date1904", "1")]) [⟨"S1", "1", .visible, false, "rId1", "worksheets/sheet1.xml", .workSheet⟩] []
        (some (x15Ext.take 4))) = .ok (⟨[⟨"S1", .workSheet, .visible⟩], [], false⟩, ["xl/worksheets/sheet1.xml".toList]) ∧
    readWorkbookXlsx d22Rels
      (workbookEvents id "r:id" (some [("date1904", "1")]) [⟨"S1", "1", .visible, false, "rId1", "worksheets/sheet1.xml", .workSheet⟩] []
        (some x15Ext)) = .ok (⟨[⟨"S1", .workSheet, .visible⟩], [], true⟩, ["xl/worksheets/sheet1.xml".toList]) := by
  decide +kernel

/-- the pinned snapshot (`e.name() == "workbookPr"`) opens the prefixed workbook but loses the flag; the code
    after fix D22 (`local_name`) reports it -/
theorem d22_witness :
    readWorkbookXlsxD22 d22Rels d22Events = .ok (⟨[⟨"S1", .workSheet, .visible⟩], [], false⟩, ["xl/worksheets/sheet1.xml".toList]) ∧
    readWorkbookXlsx d22Rels d22Events = .ok (⟨[⟨"S1", .workSheet, .visible⟩], [], true⟩, ["xl/worksheets/sheet1.xml".toList]) := by
  decide +kernel

/-- **ods: sheets and named ranges in document order**, whatever inert elements (`InertO`: any start tag the reader
    does not interpret, any end tag, text, comments, PIs) sit at the five positions between the interpreted parts. -/
theorem sheets_in_order_ods (styles : List (String × Option Bool)) (tables : List OTable) (ht : ∀ t ∈ tables, t.ok)
    (names : List (String × String)) (g : Gaps) (hg : g.okO) :
    parseContentOds (contentEvents styles tables names g) =
      .ok ⟨tables.map (fun t => ⟨t.name, .workSheet, tableVis styles t⟩), names, false⟩ := by
  unfold parseContentOds contentEvents
  obtain ⟨hg0, hg1, hg2, hg3, hg4⟩ := hg
  rw [ods_top_start_skip _ _ _ _ _ _ _ (by simp [odsInterpreted]), ods_inert g.g0 hg0,
    ods_top_start_skip _ _ _ _ _ _ _ (by simp [odsInterpreted]), ods_inert g.g1 hg1, ods_styles, ods_top_end,
    ods_top_start_skip _ _ _ _ _ _ _ (by simp [odsInterpreted]), ods_top_start_skip _ _ _ _ _ _ _ (by simp [odsInterpreted]),
    ods_inert g.g2 hg2, List.append_nil, ods_tables styles tables ht, ods_inert g.g3 hg3, ods_named_elem, ods_inert g.g4 hg4,
    ods_top_end, ods_top_end, ods_top_end]
  simp [odsLoop]

/-- satisfiable: two tables sharing a hidden style, one without style, a redefined style name (the later
    definition wins), named ranges with XML specials -/
example :
    parseContentOds (contentEvents [("ta1", some false), ("ta2", some false), ("ta2", none)]
        [⟨"A & <B>", some "ta1", [.start "table:table-row" [], .end_ "table:table-row"]⟩, ⟨"b", some "ta2", []⟩, ⟨"c", none, []⟩, ⟨"d", some "nope", []⟩]
        [("n1", "$'A & <B>'.$A$1"), ("n2", "")]) =
      .ok ⟨[⟨"A & <B>", .workSheet, .hidden⟩, ⟨"b", .workSheet, .visible⟩, ⟨"c", .workSheet, .visible⟩, ⟨"d", .workSheet, .visible⟩],
           [("n1", "$'A & <B>'.$A$1"), ("n2", "")], false⟩ := by
  decide +kernel

/-! ## the date-system flag reaches the date cells: open, then read a sheet

    The workbook-level model of this property composed with the cell-reader models of C03 (xlsb), C02 (xls) and C01
    (xlsx) — `Model/MetadataCompose.lean`: the cell readers take their flag from the state that opening the workbook
    produced. The theorems below are about the bytes / events of generated workbooks (the encoders of this property for
    the workbook level, those of C03 / C02 / C01 for the sheet) and cover every numeric record kind and encoding,
    because the sheet-level theorems they rest on (`xlsb_sheet_roundtrip`, `biff_sheet_date_typing`,
    `range_view_spec` with `toData_expect`, `numeric_cell_by_style`) do. What this property contributes is independent of the
    sheet part (`openReadXlsb_encoded`, `openReadXls_encoded`, `openReadXlsx_encoded`, Lemmas/MetadataCompose.lean). -/

/-- **xlsb hand-over: open, then read a sheet.** The workbook part declares the date system `d = flagW recs`
    (bit 0 of BrtWbProp); `worksheet_range` builds the cell reader's context from the state `read_workbook` left
    (`xlsbCtx`). For every sheet part laid out by C03's encoder (any prologue, any framing, any cell records), reading
    it through the composed model succeeds with C03's range, and
    (a) the range holds at every cell position the value the sheet specification lists for it (distinct positions),
    (b) no `DateTime` anywhere in the sheet carries a flag other than `d`,
    (c) a numeric cell of ANY record kind and encoding — BrtCellReal, BrtFmlaNum (`real`), BrtCellRk integer,
        integer÷100, float, float÷100 (`rk w`, all `w`) — under a date/time style is listed as a `DateTime` with
        flag `d`. -/
theorem date1904_reaches_cells_xlsb (pf : Bytes → List Text → List (Text × Text) → Res Text) (rels : List (Text × String))
    (recs : List WRec) (hall : ∀ r ∈ recs, r.ok rels) (ew : Bool) (el : Nat)
    (nrecs : List NRec) (hok : namesOk pf ((declaredW recs).map (XlsbSheet.decoded rels)) ([], []) nrecs)
    (t : Nat) (ht : isAfterNames t = true) (tw : Bool) (tl : Nat) (rest : Bytes)
    (formats : List Nat) (strings : List (List Nat))
    (pre1 pre2 : List Xlsb.Seg) (dims : Bytes) (dw : Bool) (dl : Nat) (bp : Bytes) (bw : Bool) (bl : Nat)
    (data : List Xlsb.Framed) (ew' : Bool) (el' : Nat) (post : Bytes)
    (h1 : ∀ s ∈ pre1, s.OK 0x0094 Xlsb.bounds1) (h2 : ∀ s ∈ pre2, s.OK 0x0091 Xlsb.bounds2)
    (hd : 16 ≤ dims.length ∧ dims.length < 268435456) (hb : bp.length < 268435456)
    (hokd : ∀ d ∈ data, d.item.OK ⟨formats, strings, flagW recs⟩)
    (hS : ∀ c ∈ Xlsb.specCells ⟨formats, strings, flagW recs⟩ (data.map (·.item)) 0, c.1 < 1048576 ∧ c.2.1 < 16384)
    (hdist : (Xlsb.specCells ⟨formats, strings, flagW recs⟩ (data.map (·.item)) 0).Pairwise (fun a b => ¬ (a.1 = b.1 ∧ a.2.1 = b.2.1))) :
    ∃ r, openReadXlsb pf rels (encodeWorkbookBin recs ew el (nrecs.flatMap NRec.bytes ++ (Xlsb.frame t [] tw tl ++ rest)))
          formats strings (Xlsb.sheetBytes pre1 dims dw dl pre2 bp bw bl data ew' el' post) = .ok r ∧
      (∀ c ∈ Xlsb.specCells ⟨formats, strings, flagW recs⟩ (data.map (·.item)) 0, r.valAt c.1 c.2.1 = c.2.2) ∧
      (∀ c ∈ Xlsb.specCells ⟨formats, strings, flagW recs⟩ (data.map (·.item)) 0, ∀ (b : Nat) (td f : Bool),
          c.2.2 = .dateTime b td f → f = flagW recs) ∧
      (∀ (style : Nat) (content : Xlsb.Content), xlsbNumeric content →
          (formats[style % 16777216]? = some 1 ∨ formats[style % 16777216]? = some 2) →
          ∃ bits td, Xlsb.valueOf ⟨formats, strings, flagW recs⟩ style content = some (.dateTime bits td (flagW recs))) := by
  -- of `xlsb_sheet_roundtrip` only the result (`hr`) and its last but one conjunct are used: with distinct positions,
  -- every specified cell is at its position (`hat`)
  obtain ⟨r, hr, _, _, _, _, _, hat, _⟩ :=
    Xlsb.xlsb_sheet_roundtrip ⟨formats, strings, flagW recs⟩ pre1 pre2 dims dw dl bp bw bl data ew' el' post h1 h2 hd hb hokd hS
  rw [openReadXlsb_encoded pf rels recs hall ew el nrecs hok t ht tw tl rest]
  exact ⟨r, hr, hat hdist, xlsb_specCells_flag ⟨formats, strings, flagW recs⟩ _ 0,
    fun style content => xlsb_valueOf_date ⟨formats, strings, flagW recs⟩ style content⟩

/-- **xls hand-over: open, then read a sheet.** The globals declare the date system `d = declared1904 recs` (a DATEMODE
    record with 1); the substream of a sheet follows at the stream offset `pos` right behind the globals (any logical
    sheet and any record layout of C02's encoder: NUMBER, every RK word that denotes the number — integer, integer÷100,
    float, float÷100 —, MULRK runs, FORMULA results, any XF per cell). `parse_workbook` reads that substream with the
    environment built from the state the globals loop left (`xlsEnv`): every numeric cell whose XF's format is a
    date/time (elapsed time) format reads `DateTime(x, DateTime (TimeDelta), d)` — the serial is the cell's number, the
    date system the one the globals declare; under any other XF it is not a `DateTime`. -/
theorem date1904_reaches_cells_xls (pd : Bytes → Res (Option Nat × Text)) (recs : List GRec) (hall : ∀ r ∈ recs, r.ok pd)
    (ops : BiffCells.FOps) (fmts : List CellFormat) (strings : List (List Nat))
    (S : List BiffCells.LCell) (lays : List BiffCells.Lay) (hS : ∀ c ∈ S, BiffCells.cellOk c) (hsorted : S.Pairwise BiffCells.cellLt)
    (hoff : ∀ s ∈ declaredSheets recs,
      s.offset ≤ (encodeGlobals recs (BiffCells.substream ⟨ops, fmts, declared1904 recs, strings⟩ S lays)).length)
    (i : Nat) (hi : i < S.length) (x : Nat) (hv : S[i].val = .num x) :
    ∃ r, openReadXls pd (encodeGlobals recs (BiffCells.substream ⟨ops, fmts, declared1904 recs, strings⟩ S lays))
          ops fmts strings (encodeGlobals recs []).length = .ok r ∧
      (fmts[(lays[i]?.getD default).xf % 65536]? = some .dateTime →
        r.valAt S[i].row S[i].col = .dt x .dateTime (declared1904 recs)) ∧
      (fmts[(lays[i]?.getD default).xf % 65536]? = some .timeDelta →
        r.valAt S[i].row S[i].col = .dt x .timeDelta (declared1904 recs)) ∧
      (fmts[(lays[i]?.getD default).xf % 65536]? ≠ some .dateTime → fmts[(lays[i]?.getD default).xf % 65536]? ≠ some .timeDelta →
        ∀ b k d, r.valAt S[i].row S[i].col ≠ .dt b k d) := by
  rw [openReadXls_encoded pd recs hall _ (notCont_substream _ S lays) hoff]
  exact BiffCells.biff_sheet_date_typing ⟨ops, fmts, declared1904 recs, strings⟩ S lays hS hsorted i hi x hv

open XlsxCells XlsxSheet in
/-- **xlsx hand-over: open, then read a sheet.** `xl/workbook.xml` declares the date system through
    `<workbookPr date1904="d"/>` (any prefix, inert siblings, any extension list); the cell reader of a worksheet part
    (any logical sheet, any legal layout of C01's encoder) types its numbers with the flag of the state `read_workbook`
    left (`xlsxEnv`). Every numeric cell — `<v>` with or without `t="n"`, with or without a formula (cached number) —
    whose style selects a date/time (elapsed-time) format reads, at its own position, `DateTime(b, DateTime (TimeDelta),
    d ∈ {"1","true"})` where `b` is the parsed number. -/
theorem date1904_reaches_cells_xlsx (rels : List (String × String)) (qf : String → String) (hq : QOk qf)
    (ridKey : String) (hk : ridKeyOk ridKey) (d : String)
    (sheets : List XSheet) (hs : ∀ s ∈ sheets, s.ok rels) (names : List (String × List (Bool × String)))
    (ext : Option (List Meta.Ev)) (hext : ∀ body, ext = some body → ExtOk (qf "extLst") body) (g : Gaps) (hg : g.ok)
    (cfg : Cfg) (parse : XlsxCells.Bytes → Option UInt64) (s : Sheet) (lay : Layout) (hl : lay.Legal) (hwf : s.WF)
    (hok : s.ContentOk cfg) (hnum : s.NumOk ⟨parse, (d = "1" || d = "true")⟩)
    (row : RowSpec) (hrow : row ∈ s) (cell : Nat × CellSpec) (hcell : cell ∈ row.2)
    (t : XlsxCells.Bytes) (tn : Bool) (style f : Option XlsxCells.Bytes) (b : UInt64)
    (hc : cell.2 = ⟨.num t tn, style, f⟩) (ht : t ≠ []) (hp : parse t = some b) :
    (styleFmt cfg style = .dateTime →
      openReadXlsx rels (workbookEvents qf ridKey (some [("date1904", d)]) sheets names ext g) cfg parse (renderSheet s lay) row.1 cell.1 =
        .ok (.num (.dateTime (.bits b) .dateTime (d = "1" || d = "true")))) ∧
    (styleFmt cfg style = .timeDelta →
      openReadXlsx rels (workbookEvents qf ridKey (some [("date1904", d)]) sheets names ext g) cfg parse (renderSheet s lay) row.1 cell.1 =
        .ok (.num (.dateTime (.bits b) .timeDelta (d = "1" || d = "true")))) := by
  have hflag : ((some [("date1904", d)]).map date1904Attr).getD false = (d = "1" || d = "true") := by simp [date1904Attr, List.lookup]
  obtain ⟨_, _, hdt, htd⟩ := XlsxCells.numeric_cell_by_style ⟨parse, (d = "1" || d = "true")⟩ cfg t tn style f b ht hp
  have key := openReadXlsx_cell rels qf hq ridKey hk (some [("date1904", d)]) sheets hs names ext hext g hg cfg parse s lay hl hwf hok
    (hflag ▸ hnum) row hrow cell hcell
  rw [hflag, hc] at key
  -- `key`: the cell reads as its documented value unless that is `Empty`; under a date style it is the `DateTime` (`hdt`, `htd`)
  exact ⟨fun h => by rw [key (by rw [hdt h]; simp), hdt h], fun h => by rw [key (by rw [htd h]; simp), htd h]⟩

end C16
