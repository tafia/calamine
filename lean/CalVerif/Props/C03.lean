import CalVerif.Lemmas.Xlsb
import CalVerif.Lemmas.XlsbCross
import CalVerif.Lemmas.XlsbBook
/-! # C03 — XLSB: every cell record reads back at its position with its value

    Namespace `Xlsb`: the record, string, cell and sheet readers of a part (lemmas: `Lemmas/Xlsb.lean`,
    `Lemmas/XlsbCross.lean`; model: `Model/Xlsb.lean`, `Model/Range.lean`; encoder and logical meaning of a sheet part:
    `Spec/XlsbEnc.lean`). Namespace `XlsbBook`, at the end: the container — relationships, the join in
    `read_workbook`, the part a sheet name resolves to (lemmas: `Lemmas/XlsbBook.lean`, and `Lemmas/MetadataXlsb.lean` for the two loops of
    `read_workbook` on encoded bytes; model: `Model/XlsbBook.lean`). -/

namespace Xlsb

/-- every 14-bit record id, written in one byte (ids below 128) or in two bytes (any id, also the
    non-minimal two-byte form of a small id), is read back by `read_type`, and reading stops exactly behind it -/
theorem varint_id_roundtrip (t : Nat) (ht : t < 16384) (wide : Bool) (rest : Bytes) :
    readType (encId t wide ++ rest) = .ok (t, rest) :=
  readType_encId t ht wide rest

/-- every length below 2^28 in every width 1..4 that can hold it — non-minimal encodings included — is read
    back by the varint loop of `fill_buffer` -/
theorem varint_len_roundtrip (n w : Nat) (hw1 : 1 ≤ w) (hw4 : w ≤ 4) (hn : n < 2 ^ (7 * w)) (rest : Bytes) :
    readLen (encLenW w n ++ rest) = .ok (n, rest) :=
  readLen_encLenW n w hw1 hw4 hn rest

/-- one framed record (any id width, any length width) is read back as `(id, payload)` and the reader is
    positioned on the next record -/
theorem record_roundtrip1 (t : Nat) (ht : t < 16384) (p : Bytes) (hp : p.length < 268435456) (wide : Bool)
    (w : Nat) (rest : Bytes) : readRecord (frame t p wide w ++ rest) = .ok (t, p, rest) :=
  readRecord_frame t ht p hp wide w rest

/-- an XLWideString is read back unit by unit whatever follows it -/
theorem widestr_roundtrip (us : List Nat) (hl : us.length < 4294967296) (h : ∀ u ∈ us, u < 65536) (rest : Bytes) :
    wideStr (wideBytes us ++ rest) = .ok (us, 4 + us.length * 2) :=
  wideStr_wideBytes us hl h rest

/-- The shared string table part is read back as exactly the texts of its items, in order: BrtBeginSst with any
    total count, any records in front of it; per item the flags byte with `fRichStr` / `fExtStr` set or not, the
    rich-text runs and the phonetic string with its runs behind the text, any foreign records (and skipped
    0x23 … 0x24 blocks) in front of the item, every record framed with any widths; whatever follows the last item
    is not read. Rich runs and phonetic data contribute nothing to the text, and indices stay aligned — so a
    `BrtCellIsst` index resolves to the stored string. -/
theorem sst_roundtrip (pre0 : List Seg) (total : Nat) (hw : Bool) (hl : Nat) (entries : List SstEntry) (post : Bytes)
    (hp0 : ∀ s ∈ pre0, s.OK 0x009F []) (hn : entries.length < 4294967296) (h : ∀ e ∈ entries, e.OK) :
    readSharedStrings (sstBytes pre0 total hw hl entries post) = .ok (entries.map (·.text)) := by
  have hl0 := encodeSegs_length_ge pre0
  unfold readSharedStrings sstBytes
  rw [nextSkipBlocks_enc 0x009F (by omega) [] (le32 total ++ le32 entries.length) (by simp [le32_length]) hw hl _ pre0 _ [] hp0
    (by simp only [List.length_append]; omega)]
  dsimp only
  rw [if_neg (by simp [le32_length]), List.drop_left' (le32_length _), ← List.append_nil (le32 entries.length),
    u32le_le32 entries.length hn, sstItems_enc post entries _ _ [] h fun e he => by
      have := sstEntriesBytes_length_ge post entries e he
      simp only [List.length_append]; omega]
  rfl

/-- non-vacuity: a plain item, a rich-text item behind a foreign record, an item with phonetic data behind a
    skipped block of future records -/
example :
    let entries : List SstEntry :=
      [⟨[104, 105], none, none, [], false, 0⟩,
       ⟨[0x6F22, 0x5B57], some [(0, 1), (1, 2)], none, [.one ⟨.raw 0x3FFF [1, 2], true, 3⟩], true, 4⟩,
       ⟨[0x6771], some [(0, 0)], some ([0x30D2, 0x30AC, 0x30B7], [(0, 0, 1)]),
        [.block ⟨.raw 0x23 [0xFF], false, 0⟩ [⟨.raw 0x13 [0, 9, 9, 9, 9], false, 0⟩] ⟨.raw 0x24 [], false, 0⟩], false, 2⟩]
    (∀ e ∈ entries, e.OK) ∧ entries.map (·.flags) = [0, 1, 3] := by
  refine ⟨?_, rfl⟩
  intro e he
  simp only [List.mem_cons, List.not_mem_nil, or_false] at he
  rcases he with rfl | rfl | rfl
  · exact ⟨by decide, by decide, by decide, fun _ h => nomatch h⟩
  · refine ⟨by decide, by decide, by decide, ?_⟩
    intro s hs
    simp only [List.mem_cons, List.not_mem_nil, or_false] at hs
    subst hs
    exact ⟨⟨by decide, by decide⟩, by decide, by decide⟩
  · refine ⟨by decide, by decide, by decide, ?_⟩
    intro s hs
    simp only [List.mem_cons, List.not_mem_nil, or_false] at hs
    subst hs
    refine ⟨⟨by decide, by decide⟩, by decide, by decide, ⟨by decide, by decide⟩, ?_⟩
    intro x hx
    simp only [List.mem_cons, List.not_mem_nil, or_false] at hx
    subst hx
    exact ⟨⟨by decide, by decide⟩, by decide⟩

/-- `wide_str` is modelled twice: the copy in `Model/XmlText.lean` (C19) and this property's `wideStr`
    agree on every buffer that holds the 4-byte count (units compared as numbers) -/
theorem widestr_models_agree (buf : Bytes) (h : 4 ≤ buf.length) :
    (match XmlText.wideStr buf with
      | .ok (us, n) => Res.ok (us.map (·.toNat), n)
      | .err e => .err e
      | .panic s => .panic s
      | .outOfFuel => .outOfFuel) = wideStr buf :=
  xmlText_wideStr_eq buf h

/-- each of the ten value records (BrtCellRk/Error/Bool/Real/St/Isst, BrtFmlaString/Num/Bool/Error) is read
    as its column and the value it stores: RK as in BIFF8 (integer or the high 30 bits of a double, optionally
    /100; date/time styles give `DateTime`), errors by code, booleans, doubles, inline strings by units, shared
    strings through the table -/
theorem cell_record_roundtrip (ctx : Ctx) (c : CellRec) (hwf : c.WF) (v : Val)
    (hv : valueOf ctx c.style c.content = some v) :
    interpret ctx c.recId c.payload = .value c.col v :=
  (interpret_cellRec ctx c hwf).trans (cellStep_of_value hv)

/-- For the four kinds that HAVE a formula record (error, boolean, number, string: BrtFmlaError / BrtFmlaBool /
    BrtFmlaNum / BrtFmlaString against BrtCellError / BrtCellBool / BrtCellReal / BrtCellSt) the formula record —
    a different record id, the same cell part, then any formula bytes — contributes exactly what the constant
    record contributes (also when that is a rejection: an error code outside the BErr table) -/
theorem fmla_equals_const (ctx : Ctx) (col style : Nat) (content : Content) (f : Bytes)
    (hf : content.hasFmla = true) (hwf : (CellRec.mk col style content none).WF) :
    (CellRec.mk col style content (some f)).recId ≠ (CellRec.mk col style content none).recId ∧
    interpret ctx (CellRec.mk col style content (some f)).recId (CellRec.mk col style content (some f)).payload
      = interpret ctx (CellRec.mk col style content none).recId (CellRec.mk col style content none).payload := by
  -- both records are the same `cellStep`: the formula part does not occur in it
  exact ⟨by cases content <;> simp [Content.hasFmla] at hf <;> simp [CellRec.recId],
    (interpret_cellRec ctx ⟨col, style, content, some f⟩ hwf).trans (interpret_cellRec ctx ⟨col, style, content, none⟩ hwf).symm⟩

/-- The byte of an error record is read through the BErr table of the specification (0x00 #NULL!, 0x07 #DIV/0!,
    0x0F #VALUE!, 0x17 #REF!, 0x1D #NAME?, 0x24 #NUM!, 0x2A #N/A, 0x2B #GETTING_DATA): the table translated from the
    `match self.buf[8]` of `next_cell` on every run IS that table, the table of xls `parse_err` is the same one,
    and it is one-to-one (a code stands for a kind exactly when it is that kind's code; kinds have distinct codes) -/
theorem berr_table :
    Gen.xlsbErrTable = berrTable ∧ Gen.xlsErrTable = berrTable ∧
    (∀ c k, berrKind c = some k ↔ c = berrCode k) ∧ (∀ k k', berrCode k = berrCode k' → k = k') ∧
    (∀ k, berrCode k < 256) ∧
    (berrTable.map fun r => (r.1, berrText r.2)) =
      [(0x00, "#NULL!"), (0x07, "#DIV/0!"), (0x0F, "#VALUE!"), (0x17, "#REF!"), (0x1D, "#NAME?"), (0x24, "#NUM!"),
       (0x2A, "#N/A"), (0x2B, "#GETTING_DATA")] :=
  ⟨xlsbErrTable_eq_berr, by decide, berrTable_bijective.1, berrTable_bijective.2.1, berrTable_bijective.2.2, rfl⟩

/-- an error record (constant or formula form) holding the code of kind `k` reads as that error value; any byte
    outside the table is rejected with `Err(CellError)` -/
theorem error_record_kind (ctx : Ctx) (col style : Nat) (fmla : Option Bytes) (hcol : col < 4294967296) :
    (∀ k, interpret ctx (CellRec.mk col style (.err (berrCode k)) fmla).recId
        (CellRec.mk col style (.err (berrCode k)) fmla).payload = .value col (.error (berrCode k))) ∧
    (∀ c, c < 256 → berrKind c = none →
      interpret ctx (CellRec.mk col style (.err c) fmla).recId (CellRec.mk col style (.err c) fmla).payload
        = .fail (.err "CellError")) := by
  refine ⟨fun k => ?_, fun c hc hn => ?_⟩
  · exact (interpret_cellRec ctx ⟨col, style, .err (berrCode k), fmla⟩ ⟨hcol, berrTable_bijective.2.2 k⟩).trans
      (by simp only [cellStep, isErrCode_eq_berr, berrKind_berrCode]; rfl)
  · exact (interpret_cellRec ctx ⟨col, style, .err c, fmla⟩ ⟨hcol, hc⟩).trans
      (by simp only [cellStep, isErrCode_eq_berr, hn]; rfl)

/-- xls BOOLERR (`parse_err`, C02's model and its `boolerr_bijective`) uses the same table -/
theorem berr_table_xls (e : Nat) (k : BiffCells.ErrKind) :
    BiffCells.parseErr e = .ok (.error k) ↔ berrKind e = some (ofBiffErr k) := by
  rcases parseErr_berrKind e with ⟨h1, h2⟩ | ⟨k', h1, h2⟩ <;> rw [h1, h2]
  · exact ⟨fun h => (nomatch h), fun h => (nomatch h)⟩
  · constructor
    · intro h; injection h with h; injection h with h; rw [h]
    · intro h; rw [ofBiffErr_inj k' k (Option.some.inj h)]

/-- a record whose id the cell loop does not interpret (any id but 0, 2..11 and 0x92; 1- or 2-byte id, 1..4-byte
    length), placed before ANY remaining byte stream, changes nothing: the loop continues behind it in the same row -/
theorem ignorable_record_step (ctx : Ctx) (id : Nat) (hid : id < 16384) (hni : interpretedId id = false)
    (p : Bytes) (hp : p.length < 268435456) (wide : Bool) (w : Nat) (rest : Bytes) (f row : Nat) :
    readCells ctx (f + 1) (frame id p wide w ++ rest) row = readCells ctx f rest row := by
  rw [readCells, readRecord_frame id hid p hp]
  simp only [interpret_skip ctx id p hni]

/-- the sheet data written by the encoder — any mix of row headers, cell records of the eleven kinds and
    ignorable records, any framing widths, ended by BrtEndSheetData, whatever follows — is read as exactly the
    cells the items denote, in order -/
theorem sheet_data_roundtrip (ctx : Ctx) (data : List Framed) (endWide : Bool) (endLenW : Nat) (post : Bytes)
    (f row : Nat) (hok : ∀ d ∈ data, d.item.OK ctx) (hf : data.length < f) :
    readCells ctx f (encodeItems data ++ (frame 0x92 [] endWide endLenW ++ post)) row
      = .ok (specCells ctx (data.map (·.item)) row) :=
  readCells_data ctx endWide endLenW post data f row hok hf

/-- a whole part: the framed records (every id and length width chosen per record) are read back as the same
    list of `(id, payload)` -/
theorem record_roundtrip (l : List Framed) (h : ∀ x ∈ l, x.Fits) :
    records (encodeItems l) = .ok (l.map fun x => (x.id, x.pay)) := by
  have := encodeItems_length_ge l
  exact recordsGo_enc l _ h (by omega)

/-- inserting any record whose id the cell loop does not interpret (1- or 2-byte id, 1..4-byte length, any
    payload) anywhere in the sheet data — before a row header, between two cells of a row, before
    BrtEndSheetData — changes nothing: no neighbouring cell is shifted or dropped -/
theorem ignorable_records (ctx : Ctx) (pre1 pre2 : List Seg) (dims : Bytes) (dw : Bool) (dl : Nat) (bp : Bytes)
    (bw : Bool) (bl : Nat) (d1 d2 : List Framed) (ew : Bool) (el : Nat) (post : Bytes)
    (id : Nat) (p : Bytes) (wide : Bool) (lw : Nat)
    (h1 : ∀ s ∈ pre1, s.OK 0x0094 bounds1) (h2 : ∀ s ∈ pre2, s.OK 0x0091 bounds2)
    (hd : 16 ≤ dims.length ∧ dims.length < 268435456) (hb : bp.length < 268435456)
    (hok : ∀ d ∈ d1 ++ d2, d.item.OK ctx)
    (hid : id < 16384) (hni : interpretedId id = false) (hp : p.length < 268435456) :
    decodeSheet ctx (sheetBytes pre1 dims dw dl pre2 bp bw bl (d1 ++ ⟨.raw id p, wide, lw⟩ :: d2) ew el post)
      = decodeSheet ctx (sheetBytes pre1 dims dw dl pre2 bp bw bl (d1 ++ d2) ew el post) := by
  have hok' : ∀ d ∈ d1 ++ ⟨.raw id p, wide, lw⟩ :: d2, d.item.OK ctx := by
    rw [List.forall_mem_append] at hok ⊢
    exact ⟨hok.1, List.forall_mem_cons.mpr ⟨⟨hid, hni, hp⟩, hok.2⟩⟩
  rw [decodeSheet_enc ctx pre1 pre2 dims dw dl bp bw bl _ ew el post h1 h2 hd hb hok',
    decodeSheet_enc ctx pre1 pre2 dims dw dl bp bw bl _ ew el post h1 h2 hd hb hok]
  simp only [List.map_append, List.map_cons]
  rw [specCells_insert_raw]

/-- **C03, main theorem.** For every sheet part the encoder writes — any prologue (records and skipped blocks
    around a BrtWsDim of at least 16 bytes), sheet data made of row headers, cell records of all eleven kinds
    (constant or formula form) and ignorable records in any interleaving, every record framed with a 1- or 2-byte
    id and a 1..4-byte length, BrtEndSheetData, then anything — whose cells lie in rows < 2^20 and columns < 2^14
    (in ANY row order, since `from_sparse` takes min / max over all cells), the reader returns a range that
    * is empty iff the sheet has no value cell,
    * otherwise is exactly the bounding rectangle of the value cells (every cell inside, every side touched),
    * holds at every absolute position the value of the (last) cell record addressing it, `Empty` elsewhere;
      in particular, when no two cell records address the same position, every cell is read back at its position
      with its value, and every position no cell record addresses reads `Empty`. -/
theorem xlsb_sheet_roundtrip (ctx : Ctx) (pre1 pre2 : List Seg) (dims : Bytes) (dw : Bool) (dl : Nat) (bp : Bytes)
    (bw : Bool) (bl : Nat) (data : List Framed) (ew : Bool) (el : Nat) (post : Bytes)
    (h1 : ∀ s ∈ pre1, s.OK 0x0094 bounds1) (h2 : ∀ s ∈ pre2, s.OK 0x0091 bounds2)
    (hd : 16 ≤ dims.length ∧ dims.length < 268435456) (hb : bp.length < 268435456)
    (hok : ∀ d ∈ data, d.item.OK ctx)
    (hS : ∀ c ∈ specCells ctx (data.map (·.item)) 0, c.1 < 1048576 ∧ c.2.1 < 16384) :
    ∃ r, decodeSheet ctx (sheetBytes pre1 dims dw dl pre2 bp bw bl data ew el post) = .ok r ∧ Range.Inv r ∧
      (r.inner.length = 0 ↔ specCells ctx (data.map (·.item)) 0 = []) ∧
      (∀ c ∈ specCells ctx (data.map (·.item)) 0, r.sr ≤ c.1 ∧ c.1 ≤ r.er ∧ r.sc ≤ c.2.1 ∧ c.2.1 ≤ r.ec) ∧
      (specCells ctx (data.map (·.item)) 0 ≠ [] →
        (∃ c ∈ specCells ctx (data.map (·.item)) 0, c.1 = r.sr) ∧ (∃ c ∈ specCells ctx (data.map (·.item)) 0, c.1 = r.er) ∧
        (∃ c ∈ specCells ctx (data.map (·.item)) 0, c.2.1 = r.sc) ∧ (∃ c ∈ specCells ctx (data.map (·.item)) 0, c.2.1 = r.ec)) ∧
      (∀ p q, r.valAt p q = (Range.lastAt (specCells ctx (data.map (·.item)) 0) p q).getD Val.empty) ∧
      ((specCells ctx (data.map (·.item)) 0).Pairwise (fun a b => ¬ (a.1 = b.1 ∧ a.2.1 = b.2.1)) →
        ∀ c ∈ specCells ctx (data.map (·.item)) 0, r.valAt c.1 c.2.1 = c.2.2) ∧
      (∀ p q, (∀ c ∈ specCells ctx (data.map (·.item)) 0, ¬ (c.1 = p ∧ c.2.1 = q)) → r.valAt p q = Val.empty) := by
  rw [decodeSheet_enc ctx pre1 pre2 dims dw dl bp bw bl data ew el post h1 h2 hd hb hok]
  generalize specCells ctx (data.map (·.item)) 0 = S at hS ⊢
  obtain ⟨r, hr⟩ := Range.fromSparse_of_pre S (Range.sparsePre_of_sheet S hS)
  exact ⟨r, hr, Range.fromSparse_spec_all S r hr⟩

/-! ## totality: no hang, no panic (C06 for the xlsb sheet, string-table and record readers) -/

/-- **termination**: with the fuel the model gives itself (one unit per byte of the part, plus one) reading a
    worksheet part never runs out of fuel, whatever the bytes: every loop of `XlsbCellsReader::new` and of the
    cell loop consumes at least two bytes per iteration -/
theorem decodeSheet_total (ctx : Ctx) (bs : Bytes) : decodeSheet ctx bs ≠ .outOfFuel := by
  unfold decodeSheet
  exact (sheetCells_returnsWith ctx bs).elim (fun _ _ => Range.fromSparse_ne_fuel _) fun _ => nofun

/-- **the sheet reader never panics** (after the `fix:` commits that turned the unchecked slices of
    `XlsbCellsReader::new`, `next_cell`, `wide_str` into errors): on every byte string, with every style table,
    string table and date system, reading the cells of a worksheet part ends in `Ok` or `Err` -/
theorem sheetCells_no_panic (ctx : Ctx) (bs : Bytes) (m : String) : sheetCells ctx bs ≠ .panic m :=
  (sheetCells_returnsWith ctx bs).returns.ne_panic m

theorem sheetCells_total (ctx : Ctx) (bs : Bytes) : sheetCells ctx bs ≠ .outOfFuel :=
  (sheetCells_returnsWith ctx bs).returns.ne_fuel

/-- A panic of `worksheet_range_ref` on an xlsb sheet can only be the panic of `Range::from_sparse` (`lib.rs`,
    outside the xlsb reader) on cells that were read without any error. The unconditional
    `∀ ctx bs m, decodeSheet ctx bs ≠ .panic m` does not hold: after fix D40 `Range.fromSparse` accepts any row
    order (`decodeSheet_no_panic_any_order`) but panics on the `u32` overflow of a span `+ 1`, so a bound on the
    coordinates of the cells read is needed (`decodeSheet_total_hostile`). -/
theorem decodeSheet_no_panic_partial (ctx : Ctx) (bs : Bytes) (m : String) (h : decodeSheet ctx bs = .panic m) :
    ∃ cells, sheetCells ctx bs = .ok cells ∧ Range.fromSparse cells = .panic m := by
  unfold decodeSheet at h
  rcases sheetCells_returnsWith ctx bs with ⟨cells, hc, _⟩ | ⟨e, hc⟩ <;> rw [hc] at h
  · exact ⟨cells, hc, h⟩
  · cases h

/-- `Range::from_sparse` takes its row bounds as min / max over all cells (fix D40), so the row order does not
    matter: whenever the cells read have `u32` coordinates whose row and column spans `+ 1` fit `u32`
    (`Range.sparsePre`; in any order) there is no panic. The cells `sheetCells` returns need not meet that bound
    (`col_end - col_start + 1` overflows `u32` for columns 0 and 0xFFFFFFFF). -/
theorem decodeSheet_no_panic_any_order (ctx : Ctx) (bs : Bytes) (cells : List (Nat × Nat × Val))
    (hc : sheetCells ctx bs = .ok cells) (hb : Range.sparsePre cells) : ∃ r, decodeSheet ctx bs = .ok r := by
  unfold decodeSheet
  rw [hc]
  exact Range.fromSparse_of_pre cells hb

/-- every cell the sheet reader yields has a row of at most 0x100000 (`next_cell` ends the sheet at a larger
    BrtRowHdr) and a `u32` column -/
theorem sheetCells_coordinates (ctx : Ctx) (bs : Bytes) (cells : List (Nat × Nat × Val))
    (h : sheetCells ctx bs = .ok cells) : ∀ c ∈ cells, c.1 ≤ 0x100000 ∧ c.2.1 < 4294967296 :=
  (sheetCells_returnsWith ctx bs).of_ok h

/-- **Totality on hostile input.** On EVERY byte string, with every style
    table, string table and date system, `worksheet_range_ref` on an xlsb sheet ends in `Ok` or `Err` — no hang,
    no panic — under one hypothesis: no two value cells read are `u32::MAX` columns apart.
    Which bytes can violate it: a cell record whose column field (payload bytes 0..4) is 0x00000000 together with
    one whose column field is 0xFFFFFFFF; then `col_end − col_start + 1` in `Range::from_sparse` overflows `u32`
    (panic with overflow checks, wrap to 0 without). Rows cannot violate it: a BrtRowHdr above 0x100000 ends the
    sheet (`sheetCells_coordinates`), so row spans are at most 0x100001. -/
theorem decodeSheet_total_hostile (ctx : Ctx) (bs : Bytes)
    (hcol : ∀ cells, sheetCells ctx bs = .ok cells →
      ∀ c ∈ cells, ∀ c' ∈ cells, c'.2.1 - c.2.1 + 1 < 4294967296) :
    (∃ r, decodeSheet ctx bs = .ok r) ∨ (∃ e, decodeSheet ctx bs = .err e) := by
  unfold decodeSheet
  rcases sheetCells_returnsWith ctx bs with ⟨cells, hc, hb⟩ | ⟨e, hc⟩ <;> rw [hc]
  · have hpre : Range.sparsePre cells :=
      ⟨fun c hm => by have := hb c hm; unfold Range.U32; omega,
       fun c hm c' hm' => ⟨by have := hb c hm; have := hb c' hm'; unfold Range.U32; omega,
                           by have := hcol cells hc c hm c' hm'; unfold Range.U32; omega⟩⟩
    exact Or.inl (Range.fromSparse_of_pre cells hpre)
  · exact Or.inr ⟨e, rfl⟩

/-- the record iterator never panics and never hangs, whatever the bytes -/
theorem records_no_panic (bs : Bytes) (m : String) : records bs ≠ .panic m :=
  (recordsGo_returns _ bs (Nat.lt_succ_self _)).ne_panic m

theorem records_total (bs : Bytes) : records bs ≠ .outOfFuel :=
  (recordsGo_returns _ bs (Nat.lt_succ_self _)).ne_fuel

/-- the shared-string reader never panics and never hangs, whatever the bytes -/
theorem readSharedStrings_no_panic (bs : Bytes) (m : String) : readSharedStrings bs ≠ .panic m :=
  (readSharedStrings_returns bs).ne_panic m

theorem readSharedStrings_total (bs : Bytes) : readSharedStrings bs ≠ .outOfFuel :=
  (readSharedStrings_returns bs).ne_fuel

/-- non-vacuity: a row header, an RK date cell, an ignorable record, a formula-error cell -/
example :
    let ctx : Ctx := { formats := [0, 1], strings := [[104, 105]], is1904 := false }
    let data : List Framed :=
      [⟨.row 1048575 [], false, 0⟩,
       ⟨.cell ⟨16383, 1, .rk 176790, none⟩, true, 3⟩,
       ⟨.raw 0x3FFF [1, 2, 3], false, 4⟩,
       ⟨.cell ⟨3, 0, .err 7, some [0, 0]⟩, false, 0⟩,
       ⟨.cell ⟨4, 0, .isst 0, none⟩, false, 2⟩]
    (∀ d ∈ data, d.item.OK ctx) ∧
    specCells ctx (data.map (·.item)) 0 =
      [(1048575, 16383, .dateTime (i2f 44197) false false), (1048575, 3, .error 7), (1048575, 4, .str [104, 105])] := by
  refine ⟨?_, ?_⟩
  · intro d hd
    simp only [List.mem_cons, List.not_mem_nil, or_false] at hd
    rcases hd with rfl | rfl | rfl | rfl | rfl
    · exact ⟨by decide, by decide⟩
    · exact ⟨⟨by decide, by simp [Content.WF]⟩, by decide, Or.inr (by simp [valueOf, styled, rkIntSpec])⟩
    · exact ⟨by decide, by decide, by decide⟩
    · exact ⟨⟨by decide, by simp [Content.WF]⟩, by decide, Or.inr (by simp [valueOf, (by decide : berrKind 7 = some CellErrorType.div0)])⟩
    · exact ⟨⟨by decide, by simp [Content.WF]⟩, by decide, Or.inr (by simp [valueOf])⟩
  · simp [specCells, valueOf, styled, rkIntSpec, (by decide : berrKind 7 = some CellErrorType.div0)]

/-- non-vacuity of the main theorem: a prologue with a skipped view block (containing a stray
    BrtBeginSheetData) and a BrtWsFmtInfo, two rows at the far corner of the grid, all hypotheses hold (the grid bound as
    the second half of `GridSorted`, whose first half — rows in ascending order — the theorem does not ask for) and
    the logical sheet has four cells -/
example :
    let ctx : Ctx := { formats := [0, 1], strings := [[104, 105]], is1904 := true }
    let pre1 : List Seg := [.one ⟨.raw 0x81 [], false, 0⟩, .one ⟨.raw 0x93 [1, 2, 3], true, 2⟩]
    let pre2 : List Seg :=
      [.block ⟨.raw 0x85 [], true, 2⟩ [⟨.raw 0x89 [0, 0], false, 0⟩, ⟨.raw 0x91 [], false, 0⟩] ⟨.raw 0x86 [], false, 0⟩,
       .one ⟨.raw 0x1E5 [1], false, 4⟩]
    let data : List Framed :=
      [⟨.row 1048574 [], false, 0⟩,
       ⟨.cell ⟨16383, 1, .rk 176790, none⟩, true, 3⟩,
       ⟨.raw 0x3FFF [1, 2, 3], false, 4⟩,
       ⟨.row 1048575 [0, 0], true, 1⟩,
       ⟨.cell ⟨3, 0, .err 7, some [0, 0]⟩, false, 0⟩,
       ⟨.cell ⟨4, 0, .isst 0, none⟩, false, 2⟩,
       ⟨.cell ⟨5, 0, .blank, none⟩, false, 0⟩,
       ⟨.cell ⟨16383, 7, .str [0xFEFF, 65], some [9]⟩, true, 4⟩]
    (∀ s ∈ pre1, s.OK 0x0094 bounds1) ∧ (∀ s ∈ pre2, s.OK 0x0091 bounds2) ∧ (∀ d ∈ data, d.item.OK ctx) ∧
    GridSorted (specCells ctx (data.map (·.item)) 0) ∧ (specCells ctx (data.map (·.item)) 0).length = 4 := by
  refine ⟨?_, ?_, ?_, ?_, ?_⟩
  · intro s hs
    simp only [List.mem_cons, List.not_mem_nil, or_false] at hs
    rcases hs with rfl | rfl <;> exact ⟨⟨by decide, by decide⟩, by decide, by decide⟩
  · intro s hs
    simp only [List.mem_cons, List.not_mem_nil, or_false] at hs
    rcases hs with rfl | rfl
    · refine ⟨⟨by decide, by decide⟩, by decide, by decide, ⟨by decide, by decide⟩, ?_⟩
      intro x hx
      simp only [List.mem_cons, List.not_mem_nil, or_false] at hx
      rcases hx with rfl | rfl <;> exact ⟨⟨by decide, by decide⟩, by decide⟩
    · exact ⟨⟨by decide, by decide⟩, by decide, by decide⟩
  · intro d hd
    simp only [List.mem_cons, List.not_mem_nil, or_false] at hd
    rcases hd with rfl | rfl | rfl | rfl | rfl | rfl | rfl | rfl
    · exact ⟨by decide, by decide⟩
    · exact ⟨⟨by decide, by simp [Content.WF]⟩, by decide, Or.inr (by simp [valueOf, styled, rkIntSpec])⟩
    · exact ⟨by decide, by decide, by decide⟩
    · exact ⟨by decide, by decide⟩
    · exact ⟨⟨by decide, by simp [Content.WF]⟩, by decide, Or.inr (by simp [valueOf, (by decide : berrKind 7 = some CellErrorType.div0)])⟩
    · exact ⟨⟨by decide, by simp [Content.WF]⟩, by decide, Or.inr (by simp [valueOf])⟩
    · exact ⟨⟨by decide, by simp [Content.WF]⟩, by decide, Or.inl rfl⟩
    · exact ⟨⟨by decide, by simp [Content.WF]⟩, by decide, Or.inr (by simp [valueOf])⟩
  · simp [GridSorted, specCells, valueOf, styled, rkIntSpec, (by decide : berrKind 7 = some CellErrorType.div0)]
  · simp [specCells, valueOf, styled, rkIntSpec, (by decide : berrKind 7 = some CellErrorType.div0)]

end Xlsb

/-! ## container: relationships part, the join in `read_workbook`, part lookup (`Model/XlsbBook.lean`)

    From "the cells of the part" to "the cells of the sheet named n". The zip archive is a list of (name, bytes)
    entries and the XML tokeniser delivers events (both trusted); everything between them and the part-level
    models is modelled. -/

namespace XlsbBook
open Meta MetaEnc

/-- `read_relationships` on a described part — relationship elements whose `Id` and `Target` attributes come in
    either order among any other attributes, elements with other names, end tags, text — returns the declared
    (id, target) pairs, a later one with the same id winning -/
theorem rels_roundtrip (items : List RelItem) (h : ∀ i ∈ items, i.OK) :
    Rels.readRels Rels.xlsbCfg (relEvents items) = .ok (declaredRels items []) :=
  readRelsGo_items items [] h

/-- the join compares bytes: looking the decoded BrtBundleSh relationship id up in the table the workbook model
    uses (ids as texts) is `relationships.get(relid.as_bytes())` — equality of the UTF-8 bytes of the id with the
    raw `Id` attribute bytes, for every spelling of the id (non-ASCII included) -/
theorem rels_join_is_byte_comparison (cs : List Char) (rels : List (Rels.B × Rels.B))
    (h : ∀ r ∈ rels, (∀ b ∈ r.1, b < 256) ∧ (Utf8.utf8Decode r.2).isSome) :
    (relsTable rels).lookup (cs.map Char.toNat) =
      (rels.lookup (Utf8.utf8Encode cs)).map (fun tg => String.ofList ((Utf8.utf8Decode tg).getD [])) :=
  relsTable_lookup cs rels fun r hr => (h r hr).2

/-- **the sheet named n is the part holding its cells.** A workbook description: a relationships part (any
    elements, extra relationships, repeated ids), a `workbook.bin` whose sheet list declares sheets with any
    relationship-id spelling and any `Target` under a known folder (C16's record encoder, any framing, any other
    records, any defined-name section), the parts of the archive. When every declared sheet's id resolves (last
    relationship with these id bytes) to its target and the archive holds the sheet's bytes under `xl/<Target>`,
    and sheet names are distinct, then `Xlsb::new` succeeds, lists the sheets in order with these paths, and
    `worksheet_range(name)` reads exactly the cells of that sheet's part, under the book's string table and date
    system. -/
theorem xlsb_sheet_resolution (pf : Bytes → List Text → List (Text × Text) → Res Text) (parts : Parts)
    (relItems : List RelItem) (hrel : ∀ i ∈ relItems, i.OK)
    (hbytes : ∀ r ∈ declaredRels relItems [], ∀ b ∈ r.1, b < 256)
    (items : List WItem) (hitems : ∀ it ∈ items, it.OK (declaredRels relItems []))
    (ew : Bool) (el : Nat) (nrecs : List NRec)
    (hok : namesOk pf ((declsOf items).map fun d => d.sheet.decoded (relsTable (declaredRels relItems []))) ([], []) nrecs)
    (t : Nat) (ht : isAfterNames t = true) (tw : Bool) (tl : Nat) (rest : Bytes)
    (hwb : partOf parts wbPath = some (encodeWorkbookBin (items.map WItem.toRec) ew el
      (nrecs.flatMap NRec.bytes ++ (Xlsb.frame t [] tw tl ++ rest))))
    (hparts : ∀ d ∈ declsOf items, partOf parts d.path = some d.cells)
    (hdist : (declsOf items).Pairwise (fun a b => a.name ≠ b.name))
    (strs : List (List Nat)) (hs : stringsOf parts = .ok strs) (formats : List Nat) :
    ∃ bk, openBook pf parts (some (relEvents relItems)) = .ok bk ∧ bk.strings = strs ∧
      bk.wb.is1904 = flagW (items.map WItem.toRec) ∧
      bk.wb.sheets.map (·.name) = (declsOf items).map SheetDecl.name ∧ bk.paths = (declsOf items).map SheetDecl.path ∧
      ∀ d ∈ declsOf items, sheetPart bk parts d.name = .ok d.cells ∧
        worksheetRange formats bk parts d.name
          = Xlsb.decodeSheet ⟨formats, strs, flagW (items.map WItem.toRec)⟩ d.cells := by
  refine ⟨_, openBook_encoded pf parts relItems hrel items hitems ew el nrecs hok t ht tw tl rest hwb strs hs, rfl, rfl,
    by rw [List.map_map]; rfl, rfl, fun d hd => ?_⟩
  suffices h : sheetPart _ parts d.name = .ok d.cells from ⟨h, by unfold worksheetRange; rw [h]⟩
  exact sheetPart_decl _ (fun _ => rfl) parts _ (declsOf items) rfl rfl hdist hparts d hd

/-- `read_relationships` never panics and never hangs: on arbitrary events, in both configurations -/
theorem rels_total (cfg : Rels.Cfg) (evs : List Rels.Ev) :
    (∃ v, Rels.readRels cfg evs = .ok v) ∨ (∃ e, Rels.readRels cfg evs = .err e) :=
  readRelsGo_returns cfg evs []

/-- `read_workbook` (both loops, C16's model) on arbitrary bytes and an arbitrary relationship table: `Ok` or `Err`,
    given a formula decoder that is total -/
theorem read_workbook_total (pf : Bytes → List Text → List (Text × Text) → Res Text) (hpf : PfTotal pf)
    (rels : List (Text × String)) (bs : Bytes) :
    (∃ v, readWorkbookXlsb pf rels bs = .ok v) ∨ (∃ e, readWorkbookXlsb pf rels bs = .err e) :=
  readWorkbookXlsb_returns pf hpf rels bs

/-- `Xlsb::new` (without the style table) on an arbitrary archive and arbitrary relationship events: `Ok` or `Err` -/
theorem open_total (pf : Bytes → List Text → List (Text × Text) → Res Text) (hpf : PfTotal pf) (parts : Parts)
    (relsEvents : Option (List Rels.Ev)) :
    (∃ bk, openBook pf parts relsEvents = .ok bk) ∨ (∃ e, openBook pf parts relsEvents = .err e) := by
  show (openBook pf parts relsEvents).Returns
  have hs : (stringsOf parts).Returns := by
    unfold stringsOf
    split
    · exact .ok _
    · exact Xlsb.readSharedStrings_returns _
  have hr : (relsOf relsEvents).Returns := by
    unfold relsOf
    split
    · exact .ok _
    · exact readRelsGo_returns _ _ []
  unfold openBook
  refine hs.elim (fun strs => ?_) fun _ => .err _
  dsimp only
  refine hr.elim (fun rels => ?_) fun _ => .err _
  dsimp only
  split
  · exact .err _
  · exact (readWorkbookXlsb_returns pf hpf (relsTable rels) _).elim (fun _ => .ok _) fun _ => .err _

/-- resolving a sheet name to its part: `Ok`, `WorksheetNotFound` or `FileNotFound` -/
theorem sheet_part_total (bk : Book) (parts : Parts) (name : Text) :
    (∃ b, sheetPart bk parts name = .ok b) ∨ (∃ e, sheetPart bk parts name = .err e) := by
  show (sheetPart bk parts name).Returns
  unfold sheetPart
  split
  · exact .err _
  · split
    · exact .err _
    · exact .ok _

/-- non-vacuity of `xlsb_sheet_resolution`: two sheets, a non-ASCII relationship id ("rIdé"), an absolute `Target`,
    a relationship element under a namespace prefix, the relationships in the other order with an extra
    relationship, a repeated id (the later one wins) and `Target` before `Id` -/
example :
    let d1 : SheetDecl := ⟨.visible, 1, [65], "rIdé".toList, "worksheets/sheet1.bin".toList, [1, 2, 3]⟩
    let d2 : SheetDecl := ⟨.hidden, 2, [66], "rId2".toList, "/xl/chartsheets/sheet2.bin".toList, [4, 5]⟩
    let relItems : List RelItem :=
      [.elem (Rels.nmRelationships) [],
       .rel ⟨Rels.nmRelationship, Utf8.utf8Encode "rId2".toList, Utf8.utf8Encode "worksheets/old.bin".toList, [], [], [], true⟩,
       .rel ⟨[112, 114, 58] ++ Rels.nmRelationship, Utf8.utf8Encode "rId2".toList, Utf8.utf8Encode "/xl/chartsheets/sheet2.bin".toList, [([84, 121, 112, 101], [120])], [], [], false⟩,
       .close Rels.nmRelationship,
       .rel ⟨Rels.nmRelationship, Utf8.utf8Encode "rId9".toList, Utf8.utf8Encode "styles.bin".toList, [], [], [], true⟩,
       .rel ⟨Rels.nmRelationship, Utf8.utf8Encode "rIdé".toList, Utf8.utf8Encode "worksheets/sheet1.bin".toList, [], [([84, 121, 112, 101], [120])], [], true⟩,
       .other]
    let items : List WItem := [.other 0x83 [] false 0, .sheet d1 false 0, .wbprop 1 true 3, .sheet d2 true 4]
    (∀ i ∈ relItems, i.OK) ∧ (∀ it ∈ items, it.OK (declaredRels relItems [])) ∧
    (declsOf items).Pairwise (fun a b => a.name ≠ b.name) ∧
    (declsOf items).map SheetDecl.path = ["xl/worksheets/sheet1.bin".toList, "xl/chartsheets/sheet2.bin".toList] := by
  refine ⟨?_, ?_, ?_, by decide +kernel⟩
  · intro i hi
    simp only [List.mem_cons, List.not_mem_nil, or_false] at hi
    rcases hi with rfl | rfl | rfl | rfl | rfl | rfl | rfl
    · show Rels.localName Rels.nmRelationships ≠ Rels.nmRelationship; decide
    · show RelDesc.OK _
      unfold RelDesc.OK otherAttrs
      decide +kernel
    · show RelDesc.OK _
      unfold RelDesc.OK otherAttrs
      decide +kernel
    · trivial
    · show RelDesc.OK _
      unfold RelDesc.OK otherAttrs
      decide +kernel
    · show RelDesc.OK _
      unfold RelDesc.OK otherAttrs
      decide +kernel
    · trivial
  · intro it hit
    simp only [List.mem_cons, List.not_mem_nil, or_false] at hit
    rcases hit with rfl | rfl | rfl | rfl
    · exact ⟨by decide, by decide, by decide, by decide, by decide⟩
    · exact ⟨by decide, by decide, by decide, by decide, by (unfold SheetDecl.resolves; decide +kernel), ⟨.workSheet, by decide⟩, by decide⟩
    · show (1 : Nat) < 4294967296; decide
    · exact ⟨by decide, by decide, by decide, by decide, by (unfold SheetDecl.resolves; decide +kernel), ⟨.chartSheet, by decide⟩, by decide⟩
  · simp [declsOf, SheetDecl.name]
    decide

end XlsbBook
