import CalVerif.Model.Password
import CalVerif.Spec.PasswordSpec
import CalVerif.Lemmas.Password
import CalVerif.Lemmas.PasswordCfb
/-! # C20 — encrypted workbooks are reported as password protected, and only those

    Theorems about the decision logic of the four password checks (`Model/Password.lean`); helper lemmas are in
    `Lemmas/Password.lean`.

    xls: on the records of the globals substream, on the bytes of the `Workbook` stream (through C12's model of
    `RecordIter::next`), and on the file (on the outcome of the container stage, and over every valid container
    layout from C13's round trip). ods: on event lists, and from the logical manifest through the events it is
    written as. xlsx / xlsb: the decision itself, and over every valid container layout (C13's encoder `layoutCfb`,
    through `Lemmas/PasswordCfb.lean`). Concrete instances meeting the hypotheses stand at the end.

    Not covered by a theorem (validated by the correspondence run only): the zip container, quick-xml turning the
    manifest text into the event list, `Cfb::new` ↔ `Cfb.new` (C13's tie), the record arms other than
    FILEPASS/EOF (a parameter here: every theorem holds for every behaviour of those arms). -/

namespace Password

open Biff (Rec)

/-- A FILEPASS record of **any** encryption type and payload, anywhere before the first EOF of the globals
    substream (after records whose arms fall through), makes `parse_workbook` return `Password` — whatever
    follows it (the encrypted rest of the stream is never looked at). -/
theorem filepass_detected (arms : Arms) (pre post : List Rec) (payload : Bytes) (cont : List Bytes)
    (hpre : ∀ p ∈ pre, p.typ ≠ EOF ∧ arms p = none) :
    xlsGlobals arms (pre ++ ⟨FILEPASS, payload, cont⟩ :: post) = .password := by
  induction pre with
  | nil => simp [xlsGlobals]
  | cons p ps ih =>
    have hp := hpre p (by simp)
    have ih' := ih (fun q hq => hpre q (by simp [hq]))
    simp only [List.cons_append, xlsGlobals]
    split
    · rfl
    · simp only [hp.1, if_false, hp.2]; exact ih'

/-- the two encryption families of MS-XLS 2.4.117, as instances -/
theorem filepass_xor_detected (arms : Arms) (pre post : List Rec) (key verifier : Nat)
    (hpre : ∀ p ∈ pre, p.typ ≠ EOF ∧ arms p = none) :
    xlsGlobals arms (pre ++ filepass 0 (le16 key ++ le16 verifier) :: post) = .password :=
  filepass_detected arms pre post _ _ hpre

theorem filepass_rc4_detected (arms : Arms) (pre post : List Rec) (info : Bytes)
    (hpre : ∀ p ∈ pre, p.typ ≠ EOF ∧ arms p = none) :
    xlsGlobals arms (pre ++ filepass 1 info :: post) = .password :=
  filepass_detected arms pre post _ _ hpre

/-- No FILEPASS before the first EOF ⇒ never `Password` (no other arm produces that error). -/
theorem no_false_positive_xls (arms : Arms) (recs : List Rec)
    (harms : ∀ r, arms r ≠ some .password)
    (hno : ∀ r ∈ beforeEof recs, r.typ ≠ FILEPASS) :
    xlsGlobals arms recs ≠ .password := by
  induction recs with
  | nil => simp [xlsGlobals]
  | cons p ps ih =>
    simp only [xlsGlobals]
    by_cases hE : p.typ = EOF
    · simp only [hE, eof_ne_filepass, if_false, if_true]
      intro h; cases h
    · rw [beforeEof_cons_ne p ps hE] at hno
      have hF := hno p (by simp)
      simp only [hF, hE, if_false]
      cases ha : arms p with
      | some o => simp only []; intro h; exact harms p (by rw [ha, h])
      | none => exact ih (fun r hr => hno r (by simp [hr]))

/-- with all other arms falling through: `Password` exactly when a FILEPASS record precedes the first EOF -/
theorem xls_password_iff (recs : List Rec) :
    xlsGlobals Arms.quiet recs = .password ↔ ∃ r ∈ beforeEof recs, r.typ = FILEPASS := by
  rw [xlsGlobals_quiet]; split <;> simp [*]

/-- otherwise the check lets the workbook through -/
theorem xls_pass_of_no_filepass (recs : List Rec) (hno : ∀ r ∈ beforeEof recs, r.typ ≠ FILEPASS) :
    xlsGlobals Arms.quiet recs = .pass := by
  rw [xlsGlobals_quiet, if_neg]
  rintro ⟨r, hr, hF⟩; exact hno r hr hF

/-- **FILEPASS is detected on the stream bytes.** The globals substream starts with the framing of any records
    whose arms fall through and that are not EOF (BOF, WriteProtect, InterfaceHdr, CodePage …), then a FILEPASS
    record with **any** payload (any `wEncryptionType`, any length below 2^16, even none), then **arbitrary
    bytes** `tail` — the encrypted remainder of the file — subject only to not starting with a CONTINUE header
    (which `RecordIter` would glue to the FILEPASS record). The loop returns `Password` without looking at `tail`. -/
theorem filepass_detected_stream (arms : Arms) (pre : List Rec) (payload tail : Bytes) (fuel : Nat)
    (hpre : ∀ p ∈ pre, Plain p ∧ p.typ ≠ EOF ∧ arms p = none)
    (hpay : payload.length < 65536) (htail : NoContHead tail) (hfuel : pre.length + 1 < fuel) :
    xlsGlobalsStream arms fuel (frameAll pre ++ frame1 FILEPASS payload ++ tail) = .password := by
  have hfa : frameAll pre ++ frame1 FILEPASS payload = frameAll (pre ++ [⟨FILEPASS, payload, []⟩]) := by
    simp [frameAll]
  have hplain : ∀ r ∈ pre ++ [(⟨FILEPASS, payload, []⟩ : Rec)], Plain r :=
    List.forall_mem_append.mpr ⟨fun r hr => (hpre r hr).1,
      List.forall_mem_singleton.mpr ⟨by simp [FILEPASS], by simp [FILEPASS], hpay, rfl⟩⟩
  rw [hfa, stream_eq_records arms _ tail fuel hplain htail
    (Or.inl ⟨⟨FILEPASS, payload, []⟩, by simp, Or.inr rfl⟩) (by simp; omega)]
  exact filepass_detected arms pre [] payload [] (fun p hp => (hpre p hp).2)

/-- **No false positive on the stream bytes**: a well-framed globals substream (plain records, terminated by an EOF
    record or by the end of the stream) without a FILEPASS record before its first EOF is never `Password`. -/
theorem no_false_positive_xls_stream (arms : Arms) (recs : List Rec) (tail : Bytes) (fuel : Nat)
    (harms : ∀ r, arms r ≠ some .password)
    (hplain : ∀ r ∈ recs, Plain r) (htail : NoContHead tail)
    (hend : (∃ r ∈ recs, r.typ = EOF) ∨ tail = []) (hfuel : recs.length < fuel)
    (hno : ∀ r ∈ beforeEof recs, r.typ ≠ FILEPASS) :
    xlsGlobalsStream arms fuel (frameAll recs ++ tail) ≠ .password := by
  rw [stream_eq_records arms recs tail fuel hplain htail
    (hend.imp (fun ⟨r, hr, he⟩ => ⟨r, hr, Or.inl he⟩) id) hfuel]
  exact no_false_positive_xls arms recs harms hno

/-- the fuel the driver uses (`stream.length + 1`) is enough for every framing of plain records -/
theorem stream_fuel_suffices (recs : List Rec) (tail : Bytes) :
    recs.length < (frameAll recs ++ tail).length + 1 := by
  -- every frame holds at least its four header bytes
  have := ListLoops.length_le_flatMap (fun r : Rec => frame1 r.typ r.data)
    (fun r => by simp only [frame1, List.length_append, le16_length]; omega) recs
  rw [List.length_append]; unfold frameAll; omega

/-- **End to end for xls**, stated on the outcome of the container stage (which is what C13's round-trip theorem
    provides for every valid layout): if the compound file opens, has no VBA project storage, and its `Workbook`
    stream reads back as `frameAll pre ++ FILEPASS ++ tail`, then `Xls::new` returns `Password`. -/
theorem xls_file_filepass_detected (arms : Arms) (file : Bytes) (c c' : Cfb.CfbSt) (rd rd' : Bytes)
    (pre : List Rec) (payload tail : Bytes)
    (hnew : Cfb.new file file.length = .ok (c, rd))
    (hvba : Cfb.hasDirectory c vbaName = false)
    (hget : Cfb.getStream c workbookName rd = .ok (frameAll pre ++ frame1 FILEPASS payload ++ tail, c', rd'))
    (hpre : ∀ p ∈ pre, Plain p ∧ p.typ ≠ EOF ∧ arms p = none)
    (hpay : payload.length < 65536) (htail : NoContHead tail) :
    xlsOpen arms file = .password := by
  unfold xlsOpen
  simp only [hnew, hvba, Bool.false_eq_true, if_false, workbookStream, hget]
  apply filepass_detected_stream arms pre payload tail _ hpre hpay htail
  have := stream_fuel_suffices (pre ++ [⟨FILEPASS, payload, []⟩]) tail
  have hfa : frameAll (pre ++ [(⟨FILEPASS, payload, []⟩ : Rec)]) = frameAll pre ++ frame1 FILEPASS payload := by
    simp [frameAll]
  rw [hfa] at this
  simpa using this

/-- conversely: a compound file whose `Workbook` stream is a well-framed globals substream without FILEPASS before
    its first EOF is never reported as password protected by `Xls::new` (nor is anything that fails earlier). -/
theorem xls_file_no_false_positive (arms : Arms) (file : Bytes) (c c' : Cfb.CfbSt) (rd rd' : Bytes)
    (recs : List Rec) (tail : Bytes)
    (hnew : Cfb.new file file.length = .ok (c, rd))
    (hget : Cfb.getStream c workbookName rd = .ok (frameAll recs ++ tail, c', rd'))
    (harms : ∀ r, arms r ≠ some .password)
    (hplain : ∀ r ∈ recs, Plain r) (htail : NoContHead tail)
    (hend : (∃ r ∈ recs, r.typ = EOF) ∨ tail = [])
    (hno : ∀ r ∈ beforeEof recs, r.typ ≠ FILEPASS) :
    xlsOpen arms file ≠ .password := by
  unfold xlsOpen
  simp only [hnew, workbookStream, hget]
  split
  · intro h; cases h
  · exact no_false_positive_xls_stream arms recs tail _ harms hplain htail hend (stream_fuel_suffices recs tail) hno

theorem xls_not_a_compound_file (arms : Arms) (file : Bytes) (e : String)
    (h : Cfb.new file file.length = .err e) : xlsOpen arms file = .err ("cfb:" ++ e) := by
  unfold xlsOpen; rw [h]

/-- `Xls::new_with_options` with a code page the reader knows (`cpOk = true`: forced or not) has the outcome of
    `Xls::new` — in particular `Password` for every workbook the theorems above cover. (The other option,
    `header_row`, is only stored by the code and is not part of the model.) -/
theorem xls_options_irrelevant (arms : Arms) (file : Bytes) : xlsOpenWith true arms file = xlsOpen arms file := by
  unfold xlsOpenWith xlsOpen
  cases Cfb.new file file.length with
  | ok p =>
    obtain ⟨c, rd⟩ := p
    simp only []
    split
    · rfl
    · cases workbookStream c rd <;> simp
  | err e => rfl
  | panic e => rfl
  | outOfFuel => rfl

/-- a forced code page the reader does not know is rejected before the records are looked at, the same for encrypted
    and plain workbooks: never `Password` -/
theorem xls_unknown_codepage_never_password (arms : Arms) (file : Bytes) : xlsOpenWith false arms file ≠ .password := by
  unfold xlsOpenWith
  cases Cfb.new file file.length with
  | ok p =>
    obtain ⟨c, rd⟩ := p
    simp only []
    split
    · intro h; cases h
    · cases workbookStream c rd <;> simp
  | err e => intro h; cases h
  | panic e => intro h; cases h
  | outOfFuel => intro h; cases h

/-- A `manifest:file-entry` start tag followed — after any events: attributes' worth of nothing, other children,
    further entries — by a `manifest:encryption-data` start tag gives `Password`, whatever precedes the entry
    (any number of unencrypted entries, prolog, root element) and whatever follows. -/
theorem manifest_detected (pre mid post : List Ev)
    (hpre : ∀ e ∈ pre, e ≠ .error) (hmid : ∀ e ∈ mid, e ≠ .error) :
    odsManifest (pre ++ .start fileEntry :: (mid ++ .start encryptionData :: post)) = .password :=
  outer_detects pre mid post hpre hmid

/-- A manifest without any `manifest:encryption-data` start tag is never reported as password protected. -/
theorem no_false_positive_ods (evs : List Ev) (hno : Ev.start encryptionData ∉ evs) :
    odsManifest evs ≠ .password := by
  intro h
  obtain ⟨pre, rest, rfl, hi⟩ := outer_password_split _ h
  exact inner_no_false_positive rest (fun hm => hno (by simp [hm])) hi

/-- exact characterisation on error-free event lists -/
theorem ods_password_iff (evs : List Ev) (herr : Ev.error ∉ evs) :
    odsManifest evs = .password ↔
      ∃ pre mid post, evs = pre ++ .start fileEntry :: (mid ++ .start encryptionData :: post) := by
  constructor
  · intro h
    obtain ⟨pre, rest, rfl, hi⟩ := outer_password_split _ h
    obtain ⟨mid, post, rfl⟩ := List.append_of_mem (Decidable.of_not_not fun hm => inner_no_false_positive rest hm hi)
    exact ⟨pre, mid, post, rfl⟩
  · rintro ⟨pre, mid, post, rfl⟩
    apply manifest_detected
    · intro e he; rintro rfl; exact herr (by simp [he])
    · intro e he; rintro rfl; exact herr (by simp [he])

/-- **ods, both directions at once**: on the event list of any logical manifest — any number of entries, the
    encryption data in any of them, any other children, any prolog/root/white space — the check answers
    `Password` exactly when some entry declares encryption data, and lets the file through otherwise. -/
theorem manifest_spec (m : Manifest) :
    odsManifest (manifestEvents m) = if m.declaresEncryption then .password else .pass := by
  obtain ⟨prolog, root, entries, gap⟩ := m
  exact manifest_spec_aux prolog root entries gap

/-- the decision logic as DESIGN.md states it: `Password` ⇔ the file opens as a compound file and has an
    `EncryptedPackage` directory entry -/
theorem ooxml_password_iff (file : Bytes) :
    ooxmlCheck file = .password ↔
      ∃ c rd, Cfb.new file file.length = .ok (c, rd) ∧ Cfb.hasDirectory c encryptedPackage = true := by
  unfold ooxmlCheck
  cases h : Cfb.new file file.length with
  | ok p =>
    obtain ⟨c, rd⟩ := p
    by_cases hd : Cfb.hasDirectory c encryptedPackage = true
    · simp [hd]
    · simp [hd]
  | err e => simp
  | panic e => simp
  | outOfFuel => simp

theorem ooxml_pass_of_absent (file : Bytes) (c : Cfb.CfbSt) (rd : Bytes)
    (hnew : Cfb.new file file.length = .ok (c, rd)) (h : Cfb.hasDirectory c encryptedPackage = false) :
    ooxmlCheck file = .pass := by
  unfold ooxmlCheck
  rw [hnew]
  dsimp only
  rw [h]
  rfl

/-- A file that does not start with the eight signature bytes `D0 CF 11 E0 A1 B1 1A E1` is never reported as
    password protected by the xlsx/xlsb check: it is handed to the zip reader. -/
theorem no_false_positive_ooxml (file : Bytes) (h : file.take 8 ≠ Cfb.signature) : ooxmlCheck file = .pass := by
  obtain ⟨e, he⟩ := new_err_of_not_signature file file.length h
  unfold ooxmlCheck; rw [he]

/-- in particular every zip archive (local file header / end-of-central-directory / spanning marker `PK…`) -/
theorem zip_never_password (file : Bytes) (b0 b1 : UInt8) (rest : Bytes) (hf : file = b0 :: b1 :: rest)
    (hpk : b0 = 0x50 ∧ b1 = 0x4B) : ooxmlCheck file = .pass := by
  apply no_false_positive_ooxml
  subst hf
  obtain ⟨rfl, rfl⟩ := hpk
  intro h
  simp [Cfb.signature] at h

/-- and every file shorter than a compound-file header -/
theorem short_file_never_password (file : Bytes) (h : file.length < 512) : ooxmlCheck file = .pass := by
  have : Cfb.Header.fromReader file = .err "io" := by unfold Cfb.Header.fromReader; simp [h]
  have hn : Cfb.new file file.length = .err "io" := by unfold Cfb.new; rw [this]; rfl
  unfold ooxmlCheck; rw [hn]

/-- **Every encrypted OOXML package is detected, in any container layout**: for all streams among which one is named
    `EncryptedPackage` (any cipher-text bytes and size — mini stream or regular sectors — any `EncryptionInfo`
    variant, any further streams) and every valid layout (sector size 512 or 4096, any sector permutation and
    fragmentation, free sectors, any number of FAT and DIFAT sectors, any directory order with unused entries, any
    mini-sector allocation, any padding) the xlsx/xlsb check answers `Password`. -/
theorem encrypted_package_detected (streams : List Cfb.Stream) (L : Cfb.Layout) (ct : Bytes)
    (hmem : (⟨encryptedPackage, ct⟩ : Cfb.Stream) ∈ streams) (hv : Cfb.Valid streams L) :
    ooxmlCheck (Cfb.layoutCfb streams L) = .password := by
  obtain ⟨c, rd, hnew, hdir⟩ := cfbNewOnLayouts streams L hv
  exact (ooxml_password_iff _).2 ⟨c, rd, hnew, hdir _ hmem⟩

/-- the shape real producers write: ciphertext + `EncryptionInfo` (any variant = any bytes) + other streams -/
theorem encrypted_streams_detected (ct info : Bytes) (extra : List Cfb.Stream) (L : Cfb.Layout)
    (hv : Cfb.Valid (encryptedStreams ct info extra) L) :
    ooxmlCheck (Cfb.layoutCfb (encryptedStreams ct info extra) L) = .password :=
  encrypted_package_detected _ L ct (by simp [encryptedStreams]) hv

/-- conversely, a compound file (any valid layout) none of whose streams is named `EncryptedPackage` — an xls
    workbook, a VBA project, an encrypted package under a differently spelled name — is handed to the zip reader -/
theorem plain_compound_file_never_password (streams : List Cfb.Stream) (L : Cfb.Layout)
    (hno : ∀ s ∈ streams, s.name ≠ encryptedPackage) (hv : Cfb.Valid streams L) :
    ooxmlCheck (Cfb.layoutCfb streams L) = .pass := by
  obtain ⟨c, rd, hnew, hdir, _⟩ := cfbReadsLayouts streams L hv
  exact ooxml_pass_of_absent _ c rd hnew
    (Cfb.hasDirectory_false hdir encryptedPackage (toList_ne (by decide)) (toList_ne (b := "") (by decide)) hno)

/-- **End to end for xls, over all container layouts**: a `Workbook` stream whose globals carry a FILEPASS record,
    next to any other streams except a VBA project, in any valid layout, makes `Xls::new` return `Password`. -/
theorem xls_file_filepass_detected_layout (arms : Arms)
    (streams : List Cfb.Stream) (L : Cfb.Layout) (pre : List Rec) (payload tail : Bytes)
    (hv : Cfb.Valid streams L)
    (hwb : (⟨workbookName, frameAll pre ++ frame1 FILEPASS payload ++ tail⟩ : Cfb.Stream) ∈ streams)
    (hvba : ∀ s ∈ streams, s.name ≠ vbaName)
    (hpre : ∀ p ∈ pre, Plain p ∧ p.typ ≠ EOF ∧ arms p = none)
    (hpay : payload.length < 65536) (htail : NoContHead tail) :
    xlsOpen arms (Cfb.layoutCfb streams L) = .password := by
  obtain ⟨c, rd, hnew, hdir, hget⟩ := cfbReadsLayouts streams L hv
  obtain ⟨c', rd', hg⟩ := hget _ hwb
  exact xls_file_filepass_detected arms _ c c' rd rd' pre payload tail hnew
    (Cfb.hasDirectory_false hdir vbaName (toList_ne (by decide)) (toList_ne (b := "") (by decide)) hvba) hg hpre hpay
    htail

/-- BOF, WriteProtect, then FILEPASS of XOR type (key 0x1234, verifier 0xABCD), then six bytes of cipher text that do
    not even frame as a record: the hypotheses of `filepass_detected_stream` hold and it yields `Password` -/
example :
    xlsGlobalsStream Arms.quiet 10
      (frameAll [⟨0x0809, [0, 6, 5, 0], []⟩, ⟨0x0086, [], []⟩] ++ frame1 FILEPASS [0, 0, 0x34, 0x12, 0xCD, 0xAB]
        ++ [0x42, 0, 9, 0, 0x99, 0x77]) = .password :=
  filepass_detected_stream Arms.quiet _ _ _ 10 (by decide) (by decide) (by simp [NoContHead, Biff.u16]) (by decide)

/-- the same workbook without the FILEPASS record (CodePage, then EOF) is let through -/
example :
    xlsGlobalsStream Arms.quiet 10
      (frameAll [⟨0x0809, [0, 6, 5, 0], []⟩, ⟨0x0042, [0xB0, 4], []⟩, ⟨EOF, [], []⟩] ++ [9, 8, 7]) ≠ .password :=
  no_false_positive_xls_stream Arms.quiet _ _ 10 (by simp [Arms.quiet]) (by decide) (by simp [NoContHead])
    (Or.inl ⟨⟨EOF, [], []⟩, by simp, rfl⟩) (by decide) (by decide)

/-- FILEPASS of RC4 type after three other records at the record level; an arm that fails *after* it is irrelevant -/
example :
    xlsGlobals (fun r => if r.typ = 0x00FC then some (.err "sst") else none)
      ([⟨0x0809, [], []⟩, ⟨0x00E1, [0xB0, 4], []⟩, ⟨0x00C1, [0, 0], []⟩] ++ filepass 1 [1, 0, 1, 0] :: [⟨0x00FC, [], []⟩])
      = .password :=
  filepass_rc4_detected _ _ _ _ (by decide)

/-- a manifest with three entries, the second one encrypted (and a decoy element in the first) -/
def exManifest : Manifest :=
  { prolog := 1, root := "manifest:manifest", gap := 1,
    entries := [⟨[.elem "manifest:encryption-dat"]⟩,
                ⟨[.text, .enc ["manifest:algorithm", "manifest:key-derivation"], .elem "loext:x"]⟩,
                ⟨[]⟩] }

example : odsManifest (manifestEvents exManifest) = .password := by rw [manifest_spec]; rfl
example : odsManifest (manifestEvents { exManifest with entries := [⟨[.elem "manifest:encryption-dat"]⟩, ⟨[]⟩] }) = .pass := by
  rw [manifest_spec]; rfl

/-- a zip local-file header is never taken for an encrypted package -/
example : ooxmlCheck [0x50, 0x4B, 3, 4, 20, 0, 0, 0, 8, 0] = .pass :=
  zip_never_password _ 0x50 0x4B _ rfl ⟨rfl, rfl⟩

/-- an encrypted package (8 bytes of cipher text, an agile `EncryptionInfo` header) in a valid version-3 layout:
    the hypothesis `Valid` of `encrypted_package_detected` is satisfiable, and on this instance the conclusion is
    also checked by kernel evaluation of the model on the 2560 bytes of the file -/
def exStreams : List Cfb.Stream := encryptedStreams [1, 2, 3, 4, 5, 6, 7, 8] [4, 0, 4, 0] []
def exLayout : Cfb.Layout :=
  { v4 := false
    main := ⟨#[.fat 0, .data 0 0, .data 1 0, .data 2 0], #[#[1], #[2], #[3], #[], #[]]⟩
    fatIds := #[0]
    difIds := #[]
    mini := ⟨#[.data 0 0, .data 1 0], #[#[0], #[1]]⟩
    dirOrder := [some 1, none, some 0]
    fill := 0 }

example : Cfb.Valid exStreams exLayout := by decide +kernel
example : ooxmlCheck (Cfb.layoutCfb exStreams exLayout) = .password := by decide +kernel

end Password
