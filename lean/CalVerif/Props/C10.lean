import CalVerif.Lemmas.FormatsDecode
/-! # C10 — a number is typed DateTime exactly when its cell style is a date/time format
    The format classifier against the number-format grammar, the built-in id tables, the value wrapping, the three
    style-table builders, and the decoders of the styles part (no panic; round trip on an encoded table) up to
    `cell_typed_from_styles_part`. -/
namespace Formats
open NumFmt StylesEnc

/-! ## built-in ids (tables regenerated from `src/formats.rs` on every run) -/

/-- the table keyed by the decimal text of the id (xlsx `numFmtId="…"`) and the table keyed by the number
    (xls `ifmt`, xlsb `iFmt`) agree on every id — in particular on all 65536 16-bit ids -/
theorem builtin_tables_agree (n : Nat) : builtinById (decimal n) = builtinByCode n := by
  by_cases hn : n < 100
  · have h : ∀ n < 100, builtinById (decimal n) = builtinByCode n := by decide +kernel
    exact h n hn
  · -- three digits or more: longer than every key of one table, above every range of the other
    have hlen : 2 < (decimal n).length := by
      have := Nat.length_toDigits_le_iff (b := 10) (n := n) (k := 2) (by omega) (by omega)
      simp only [decimal, List.length_map]
      omega
    have hk : ∀ row ∈ Gen.builtinByIdTable, row.1.length ≤ 2 := by decide
    have hc : ∀ row ∈ Gen.builtinByCodeTable, row.2.1 < 100 := by decide
    have hd : Gen.builtinByIdDefault = Gen.builtinByCodeDefault := rfl
    unfold builtinById builtinByCode
    rw [lookupId_default _ _ _ (fun row hr => by have := hk row hr; omega),
        lookupCode_default _ _ _ (fun row hr => by have := hc row hr; omega), hd]

/-- every id is classified as ECMA-376 §18.8.30 documents it: 14–22, 45, 47 date/time, 46 elapsed time, every
    other id (in particular every id outside 0–49) not a date -/
theorem builtin_matches_documented (n : Nat) : builtinByCode n = documentedClass n := builtinByCode_documented n

/-- each language-independent built-in id classifies exactly like its documented format string under the scanner
    (so a workbook that spells a built-in format out as a custom format gets the same typing) -/
theorem builtin_matches_format_strings :
    ∀ row ∈ ecmaTable, detect row.2.toList = .ok (builtinByCode row.1) := by decide +kernel

/-- a float becomes `DateTime` iff the style's format is DateTime/TimeDelta; duration flavour iff TimeDelta; the
    value (bit pattern) and the date system are carried through unchanged; otherwise it stays the same float -/
theorem wrap_iff_f64 (v : UInt64) (fmt : Option CellFormat) (d : Bool) :
    (fmt = some .dateTime → formatF64 v fmt d = .dateTime (.bits v) .dateTime d) ∧
    (fmt = some .timeDelta → formatF64 v fmt d = .dateTime (.bits v) .timeDelta d) ∧
    (fmt ≠ some .dateTime → fmt ≠ some .timeDelta → formatF64 v fmt d = .float v) := by
  rcases fmt with _ | _ | _ | _ <;> simp [formatF64]

/-- the same for integers (xls RK/MULRK integers): `DateTime(value as f64, kind, is_1904)` or the integer itself -/
theorem wrap_iff_i64 (v : Int) (fmt : Option CellFormat) (d : Bool) :
    (fmt = some .dateTime → formatI64 v fmt d = .dateTime (.ofI64 v) .dateTime d) ∧
    (fmt = some .timeDelta → formatI64 v fmt d = .dateTime (.ofI64 v) .timeDelta d) ∧
    (fmt ≠ some .dateTime → fmt ≠ some .timeDelta → formatI64 v fmt d = .int v) := by
  rcases fmt with _ | _ | _ | _ <;> simp [formatI64]

/-- `wrap_iff` in the "exactly when" form of the property: the result is a DateTime iff the format is a date format -/
theorem wrap_iff (v : UInt64) (fmt : Option CellFormat) (d : Bool) :
    (∃ s k d', formatF64 v fmt d = .dateTime s k d') ↔ (fmt = some .dateTime ∨ fmt = some .timeDelta) := by
  rcases fmt with _ | _ | _ | _ <;> simp [formatF64]

/-! ## ledger D14 (fixed): the pinned snapshot tested the escape arm before the in-quote arms -/

/-- the concrete witness: `"Date_"dd/mm/yyyy` is a well-formed date format, the pinned scanner answered `Other`,
    the current arm order answers `DateTime` -/
theorem d14_witness :
    let f : Fmt := { first := [.lit "Date_".toList, .dateTok "dd".toList, .num '/', .dateTok "mm".toList, .num '/',
                               .dateTok "yyyy".toList], rest := [] }
    WF f ∧ render f = "\"Date_\"dd/mm/yyyy".toList ∧ classify f = .dateTime ∧
    detectD14 (render f) = .ok .other ∧ detect (render f) = .ok .dateTime := by
  repeat rw [String.toList_ofList]
  decide +kernel

/-- (holds after fix D14) for every well-formed format of the number-format grammar the
    scanner returns the class the grammar assigns — DateTime / TimeDelta when the first section's first date or
    elapsed token is a date token / an elapsed-time unit, Other when it has none; it never panics on such a text -/
theorem scanner_grammar (f : Fmt) (h : WF f) : detect (render f) = .ok (classify f) :=
  scan_wf_section f.first h (renderRest f.rest) (stops_renderRest f.rest)

/-- everything after the first `;` is ignored — even text that is no list of sections at all -/
theorem later_sections_ignored (sec : List Tok) (h : wfSection sec = true) (tail : List Char) :
    detect (renderSection sec ++ ';' :: tail) = detect (renderSection sec) := by
  have h1 := scan_wf_section sec h (';' :: tail) (Or.inr ⟨tail, rfl⟩)
  have h2 := scan_wf_section sec h [] (Or.inl rfl)
  rw [List.append_nil] at h2
  exact h1.trans h2.symm

/-- quoted text is ignored: deleting `"s"` (for any `s` without a quote — date letters, `_`, `\`, `;`, brackets
    included) from in front of ANY remaining text does not change the result -/
theorem quoted_ignored (s : List Char) (hs : '"' ∉ s) (post : List Char) :
    detect ('"' :: (s ++ '"' :: post)) = detect post := by
  have hw : wfTok (.lit s) = true := by simpa [wfTok] using hs
  have := scan_neutral_tok St.init quiet_init rfl (.lit s) hw rfl post
  simpa [renderTok, detect] using this

/-- an escaped character (`\c`) or a padding character (`_c`) is ignored, whatever `c` is -/
theorem escaped_ignored (c : Char) (post : List Char) :
    detect ('\\' :: c :: post) = detect post ∧ detect ('_' :: c :: post) = detect post :=
  ⟨scan_neutral_tok St.init quiet_init rfl (.esc c) rfl rfl post,
   scan_neutral_tok St.init quiet_init rfl (.pad c) rfl rfl post⟩

/-- a bracketed prefix (colour, condition, locale / currency, DBNum …) that is not an elapsed-time unit is ignored -/
theorem bracketed_ignored (body : List Char) (hb : ∀ c ∈ body, isStructural c = false)
    (hne : isElapsedBody body = false) (post : List Char) :
    detect ('[' :: (body ++ ']' :: post)) = detect post := by
  have hw : wfTok (.brk body) = true := by
    simp only [wfTok, Bool.and_eq_true, List.all_eq_true, Bool.not_eq_true']
    exact ⟨hb, hne⟩
  have := scan_neutral_tok St.init quiet_init rfl (.brk body) hw rfl post
  simpa [renderTok, detect] using this

/-- any run of well-formed neutral tokens (literals, escapes, padding, fill, bracketed prefixes, placeholders) in
    front of ANY text is ignored -/
theorem neutral_tokens_ignored (ts : List Tok) (hw : ∀ t ∈ ts, wfTok t = true) (hn : ∀ t ∈ ts, isNeutralTok t = true)
    (post : List Char) : detect (renderSection ts ++ post) = detect post := by
  induction ts with
  | nil => rfl
  | cons t ts ih =>
    rw [renderSection, List.append_assoc]
    have := scan_neutral_tok St.init quiet_init rfl t (hw t (by simp)) (hn t (by simp)) (renderSection ts ++ post)
    exact this.trans (ih (fun t ht => hw t (by simp [ht])) (fun t ht => hn t (by simp [ht])))

/-- beyond the placeholder characters the grammar lists: EVERY character other than the eighteen the scanner
    reacts to (`" ; [ ] _ \`, `a A`, `d D m M h H y Y s S`) — digits, `e`, `g`, `b`, currency signs, CJK text … — is
    ignored when it stands unquoted at the start of the remaining text -/
theorem unreserved_char_ignored (c : Char) (hc : isPlain c = true) (post : List Char) :
    detect (c :: post) = detect post := by
  have h := scan_append St.init [c] post
  rw [run_plain St.init quiet_init rfl c hc] at h
  exact h.trans (scan_prev_irrelevant St.init quiet_init rfl c post)

/-- `[h]`, `[mm]`, `[SS]` … after neutral tokens is an elapsed-time format whatever follows; a date token after
    neutral tokens makes a date format whatever follows -/
theorem first_date_token_decides (ts : List Tok) (hw : ∀ t ∈ ts, wfTok t = true) (hn : ∀ t ∈ ts, isNeutralTok t = true)
    (post : List Char) :
    (∀ b, isElapsedBody b = true → detect (renderSection ts ++ renderTok (.elapsed b) ++ post) = .ok .timeDelta) ∧
    (∀ s, (isDateRun s || isAmPm s) = true → detect (renderSection ts ++ renderTok (.dateTok s) ++ post) = .ok .dateTime) := by
  refine ⟨fun b hb => ?_, fun s hs => ?_⟩
  · rw [List.append_assoc, neutral_tokens_ignored ts hw hn]
    exact scan_elapsed St.init quiet_init b hb post
  · rw [List.append_assoc, neutral_tokens_ignored ts hw hn]
    exact scan_dateTok St.init quiet_init rfl s hs post

/-- (after fix 8b86d6e, ledger D30-b) the scanner panics on no text at all. Until that fix
    the nesting depth was a `u8` and `brackets += 1` overflowed on the 256th unclosed `[`. -/
theorem scanner_no_panic (s : List Char) (msg : String) : detect s ≠ .panic msg := by
  obtain ⟨c, hc⟩ := scan_total St.init s
  rw [detect, hc]
  exact nofun

theorem scanner_total (s : List Char) : ∃ c, detect s = .ok c := scan_total St.init s

/-- deep nesting is read as nesting: 300 `[`, 300 `]`, then `d` is a date format; 256 or 300 unclosed `[` are
    classified (`Other`: an `h]` at depth 300 closes nothing at depth 1), not a panic; `[h` + 300 balanced pairs + `]`
    still closes the elapsed unit at depth 1 (the bracket arms leave the `hms` flag alone) -/
theorem deep_nesting_witness :
    detect (List.replicate 300 '[' ++ List.replicate 300 ']' ++ ['d']) = .ok .dateTime ∧
    detect (List.replicate 256 '[') = .ok .other ∧
    detect (List.replicate 300 '[' ++ ['h', ']']) = .ok .other ∧
    detect ('[' :: 'h' :: List.replicate 300 '[' ++ List.replicate 300 ']' ++ [']']) = .ok .timeDelta := by
  decide +kernel

/-! ## style tables: `formats[i]` is the class of the format the i-th cell XF refers to

    The custom definitions are given as grammar formats (`defs`, in file order; an id defined twice takes its last
    definition); the precedence between them and the built-in table is the one `Model/Formats.lean` documents per
    reader. With `builtin_matches_documented` the built-in side is the ECMA-376 table. -/

theorem style_lookup_xlsx (defs : List (List UInt8 × Fmt)) (hwf : ∀ d ∈ defs, WF d.2)
    (hne : ∀ d ∈ defs, render d.2 ≠ []) (xfs : List (Option (List UInt8))) :
    xlsxStyles (defs.map fun d => (d.1, render d.2)) xfs =
      .ok (xfs.map fun xf =>
        match xf with
        | none => .other
        | some id =>
          match lastDef defs id with
          | some f => classify f
          | none => builtinById id) := xlsxStyles_wf defs hwf hne xfs

theorem style_lookup_xlsb (defs : List (Nat × Fmt)) (hwf : ∀ d ∈ defs, WF d.2) (xfs : List Nat) :
    xlsbStyles (defs.map fun d => (d.1, render d.2)) xfs =
      .ok (xfs.map fun code =>
        match builtinByCode code with
        | .other => ((lastDef defs code).map classify).getD .other
        | f => f) := xlsbStyles_wf defs hwf xfs

theorem style_lookup_xls (defs : List (Nat × Fmt)) (hwf : ∀ d ∈ defs, WF d.2) (xfs : List Nat) :
    xlsStyles (defs.map fun d => (d.1, render d.2)) xfs =
      .ok (xfs.map fun code =>
        match lastDef defs code with
        | some f => classify f
        | none => builtinByCode code) := xlsStyles_wf defs hwf xfs

/-! ## the property's sentence: a numeric cell is DateTime exactly when its style's format is a date format

    The composed statements of `Lemmas/FormatsCompose.lean`, specialised to the case the property names: XF `i` refers
    to a custom format `f` of the grammar. -/

/-- in each of the three containers, for every well-formed custom format `f` of the
    number-format grammar that cell XF `i` refers to (the last definition of its id; for xlsb the id must not be a
    built-in date id, which xlsb never lets a custom definition override), a float cell with style index `i` comes
    back as DateTime iff `classify f ≠ Other`, with the duration flavour iff `classify f = TimeDelta`, the same bits
    and the workbook's date system; otherwise as the same float (`TypedBy`). The quantification is over the
    grammar (`classify`), not over scanner outputs. -/
theorem datetime_iff_style :
    (∀ (defs : List (List UInt8 × Fmt)) (xfs : List (Option (List UInt8))) (formats : List CellFormat),
      (∀ d ∈ defs, WF d.2) → (∀ d ∈ defs, render d.2 ≠ []) →
      xlsxStyles (defs.map fun d => (d.1, render d.2)) xfs = .ok formats →
      ∀ (i : Nat) (id : List UInt8) (f : Fmt), xfs[i]? = some (some id) → lastDef defs id = some f →
      ∀ (v : UInt64) (d1904 : Bool), TypedBy f (formatF64 v formats[i]? d1904) v d1904) ∧
    (∀ (defs : List (Nat × Fmt)) (xfs : List Nat) (formats : List CellFormat),
      (∀ d ∈ defs, WF d.2) → xlsbStyles (defs.map fun d => (d.1, render d.2)) xfs = .ok formats →
      ∀ (i code : Nat) (f : Fmt), xfs[i]? = some code → lastDef defs code = some f → documentedClass code = .other →
      ∀ (v : UInt64) (d1904 : Bool), TypedBy f (formatF64 v formats[i]? d1904) v d1904) ∧
    (∀ (defs : List (Nat × Fmt)) (xfs : List Nat) (formats : List CellFormat),
      (∀ d ∈ defs, WF d.2) → xlsStyles (defs.map fun d => (d.1, render d.2)) xfs = .ok formats →
      ∀ (i code : Nat) (f : Fmt), xfs[i]? = some code → lastDef defs code = some f →
      ∀ (v : UInt64) (d1904 : Bool), TypedBy f (formatF64 v formats[i]? d1904) v d1904) := by
  refine ⟨?_, ?_, ?_⟩
  · intro defs xfs formats hwf hne h i id f hx hf v d
    apply typedBy_of_eq
    rw [(cell_typed_by_style_xlsx defs hwf hne xfs formats h i v d).2, hx]
    simp [logicalXlsx, hf]
  · intro defs xfs formats hwf h i code f hx hf hb v d
    apply typedBy_of_eq
    rw [(cell_typed_by_style_xlsb defs hwf xfs formats h i v d).2, hx]
    simp [logicalXlsb, hf, hb]
  · intro defs xfs formats hwf h i code f hx hf v d
    apply typedBy_of_eq
    rw [(cell_typed_by_style_xls defs hwf xfs formats h i v d).2, hx]
    simp [logicalXls, hf]

/-- the style index of an xlsx cell is the whole number its `s` attribute spells (any size:
    a table of more than 65 536 cell XFs is addressed correctly); a cell with `s="i"` whose XF `i` refers to the
    well-formed custom format `f` is typed by `f`; an index past the table leaves the number plain -/
theorem style_index_xlsx (defs : List (List UInt8 × Fmt)) (hwf : ∀ d ∈ defs, WF d.2)
    (hne : ∀ d ∈ defs, render d.2 ≠ []) (xfs : List (Option (List UInt8))) (formats : List CellFormat)
    (h : xlsxStyles (defs.map fun d => (d.1, render d.2)) xfs = .ok formats) (t : List UInt8) (i : Nat)
    (ht : parseUsize t = some i) (v : UInt64) (d1904 : Bool) :
    (∀ id f, xfs[i]? = some (some id) → lastDef defs id = some f →
      TypedBy f (formatF64 v (xlsxCellFormat formats (some t)) d1904) v d1904) ∧
    (xfs.length ≤ i → formatF64 v (xlsxCellFormat formats (some t)) d1904 = .float v) := by
  have hc := (cell_typed_by_style_xlsx_attr defs hwf hne xfs formats h v d1904).2.1 t i ht
  refine ⟨fun id f hx hf => ?_, fun hi => ?_⟩
  · apply typedBy_of_eq
    rw [hc, hx]
    simp [logicalXlsx, hf]
  · rw [hc, List.getElem?_eq_none hi]; rfl

/-- the attribute texts the correspondence run pins: `65536` is index 65 536 (not 0), leading zeros are digits, a
    sign, a blank, the empty text and a value of 2^64 do not parse (the reader then uses XF 0) -/
example : parseUsize (decimal 65536) = some 65536 ∧ parseUsize [48, 48, 50] = some 2 ∧ parseUsize [43, 49] = none ∧
    parseUsize [32, 49] = none ∧ parseUsize [] = none ∧ parseUsize (decimal 18446744073709551616) = none ∧
    parseUsize (decimal 18446744073709551615) = some 18446744073709551615 := by decide +kernel

/-- a cell whose XF uses a built-in id with no custom definition is typed by the documented table, and a style
    index past the XF list leaves the number plain (stated for xls) -/
theorem datetime_iff_builtin_style_xls (defs : List (Nat × Fmt)) (hwf : ∀ d ∈ defs, WF d.2) (xfs : List Nat)
    (formats : List CellFormat) (h : xlsStyles (defs.map fun d => (d.1, render d.2)) xfs = .ok formats)
    (i : Nat) (v : UInt64) (d1904 : Bool) :
    (∀ code, xfs[i]? = some code → lastDef defs code = none →
      formatF64 v formats[i]? d1904 = typedF64 (documentedClass code) v d1904) ∧
    (xfs.length ≤ i → formatF64 v formats[i]? d1904 = .float v) := by
  have hc := (cell_typed_by_style_xls defs hwf xfs formats h i v d1904).2
  refine ⟨fun code hx hn => ?_, fun hi => ?_⟩
  · rw [hc, hx]; simp [logicalXls, hn]
  · rw [hc, List.getElem?_eq_none hi]; rfl

/-- non-vacuity of `datetime_iff_style`: format 164 = `[Red]"Due _"dd/mm/yyyy`, 165 = `[h]:mm`, XFs (0, 164, 165),
    in all three containers: the styled cells are a DateTime and a duration, the General cell stays a float -/
example :
    let due : Fmt := { first := [.brk "Red".toList, .lit "Due _".toList, .dateTok "dd".toList, .num '/',
                                 .dateTok "mm".toList, .num '/', .dateTok "yyyy".toList], rest := [] }
    let el : Fmt := { first := [.elapsed "h".toList, .num ':', .dateTok "mm".toList], rest := [] }
    let defs : List (Nat × Fmt) := [(164, due), (165, el)]
    (∀ d ∈ defs, WF d.2) ∧
    xlsStyles (defs.map fun d => (d.1, render d.2)) [0, 164, 165] = .ok [.other, .dateTime, .timeDelta] ∧
    xlsbStyles (defs.map fun d => (d.1, render d.2)) [0, 164, 165] = .ok [.other, .dateTime, .timeDelta] ∧
    xlsxStyles (defs.map fun d => (decimal d.1, render d.2)) [some (decimal 0), some (decimal 164), some (decimal 165)]
      = .ok [.other, .dateTime, .timeDelta] ∧
    lastDef defs 165 = some el ∧ documentedClass 165 = .other ∧
    formatF64 7 ([CellFormat.other, .dateTime, .timeDelta])[2]? true = .dateTime (.bits 7) .timeDelta true := by
  decide +kernel

/-- a workbook with `[h]:mm` as format 164, `"Due _"dd/mm/yyyy` as 165 and id 14 redefined as `0.0`:
    XFs (0, 14, 164, 165, 22, 200) are typed as the property says; xlsb keeps the built-in meaning of 14 -/
example :
    let defs : List (Nat × Fmt) :=
      [(164, { first := [.elapsed "h".toList, .num ':', .dateTok "mm".toList], rest := [] }),
       (165, { first := [.lit "Due _".toList, .dateTok "dd".toList, .num '/', .dateTok "mm".toList, .num '/',
                         .dateTok "yyyy".toList], rest := [] }),
       (14, { first := [.num '0', .num '.', .num '0'], rest := [] })]
    (∀ d ∈ defs, WF d.2) ∧
    xlsStyles (defs.map fun d => (d.1, render d.2)) [0, 14, 164, 165, 22, 200]
      = .ok [.other, .other, .timeDelta, .dateTime, .dateTime, .other] ∧
    xlsbStyles (defs.map fun d => (d.1, render d.2)) [0, 14, 164, 165, 22, 200]
      = .ok [.other, .dateTime, .timeDelta, .dateTime, .dateTime, .other] := by decide +kernel

/-! ## the decoders of the style tables: from the bytes / records / events of the styles part

    `Model/FormatsDecode.lean` models what stands in front of the style-table builders: xls `parse_xf` /
    `parse_format` and the FORMAT / XF arms of the globals loop, the record loop of xlsb `read_styles`, the event loop
    of xlsx `read_styles`. -/

/-- xls: `parse_xf`, `parse_format`, the globals loop over any record list / any stream never panic -/
theorem xls_parse_xf_no_panic (data : Bytes) (m : String) : xlsParseXf data ≠ .panic m :=
  (xlsParseXf_returns data).ne_panic m
theorem xls_parse_format_no_panic (data : Bytes) (m : String) : xlsParseFormat data ≠ .panic m :=
  (xlsParseFormat_returns data).ne_panic m
theorem xls_styles_records_no_panic (recs : List (Nat × Bytes)) (m : String) : xlsStylesOfRecords recs ≠ .panic m :=
  (xlsStylesOfRecords_returns recs).ne_panic m
theorem xls_styles_stream_no_panic (stream : Bytes) (m : String) : xlsStylesOfStream stream ≠ .panic m :=
  (xlsStylesOfStream_returns stream).ne_panic m

/-- xlsb: `read_styles` panics on no byte string (short records, wrong counts, truncated parts are errors) -/
theorem xlsb_styles_bytes_no_panic (part : Bytes) (m : String) : xlsbStylesOfBytes part ≠ .panic m :=
  (xlsbStylesOfBytes_returns part).ne_panic m

/-- xlsx: `read_styles` panics on no event list, and always ends with a table or an error -/
theorem xlsx_styles_events_no_panic (evs : List SEv) (m : String) : xlsxStylesOfEvents evs ≠ .panic m :=
  (xlsxStylesLoop_returns evs .top [] []).ne_panic m
theorem xlsx_styles_events_total (evs : List SEv) :
    (∃ t, xlsxStylesOfEvents evs = .ok t) ∨ (∃ e, xlsxStylesOfEvents evs = .err e) :=
  xlsxStylesLoop_returns evs .top [] []


/-- **leading zeros of a `numFmtId` are not significant** (after fix 6b28a55): `format_id` maps every decimal
    spelling of `n` with leading zeros to the canonical one -/
theorem format_id_leading_zeros (z n : Nat) : formatId (padId z n) = decimal n := formatId_padId z n

/-- hence `read_styles` on attribute texts with ANY mixture of spellings — each `<numFmt>` and each `<xf>` with its
    own number of leading zeros, built-in and custom ids alike — builds the table of the canonical spellings:
    `numFmtId="014"` is the date format 14, `<numFmt numFmtId="164" …>` is found by `<xf numFmtId="0164">` and vice
    versa. (The generated table `builtinById` is unchanged: it is asked with the canonical text.) -/
theorem leading_zeros_classify_alike (defs : List (Nat × Nat × List Char)) (xfs : List (Nat × Nat)) :
    xlsxStylesRaw (defs.map fun d => (padId d.1 d.2.1, d.2.2)) (xfs.map fun x => some (padId x.1 x.2)) =
      xlsxStyles (defs.map fun d => (decimal d.2.1, d.2.2)) (xfs.map fun x => some (decimal x.2)) := by
  unfold xlsxStylesRaw
  simp only [List.map_map, Function.comp_def, Option.map_some, formatId_padId]

example : xlsxStylesRaw [] [some (padId 1 14), some (padId 0 14), some (padId 3 46), some (padId 2 0)]
    = .ok [.dateTime, .dateTime, .timeDelta, .other] ∧
    xlsxStylesRaw [(padId 0 164, "yyyy".toList)] [some (padId 1 164)] = .ok [.dateTime] ∧
    xlsxStylesRaw [(padId 2 164, "yyyy".toList)] [some (padId 0 164)] = .ok [.dateTime] ∧
    formatId [48, 48] = [48] ∧ formatId [43, 49] = [43, 49] ∧ formatId [] = [] := by decide +kernel

/-- xls: FORMAT / XF records in any interleaving with other records (narrow or wide strings, any XF tail), up to
    the EOF record: the decoded table is `xlsStyles` of the formats and XF ids in file order -/
theorem xls_styles_roundtrip (items : List XlsItem) (hwf : ∀ i ∈ items, i.WF) (after : List (Nat × Bytes)) :
    xlsStylesOfRecords (xlsEncode items after) = xlsStyles (xlsFormatsOf items) (xlsXfsOf items) := by
  unfold xlsStylesOfRecords
  rw [xlsStyleFold_enc after items hwf [] []]
  simp

/-- xlsb: the bytes of a styles part — any records before the format table, between it and the cell XFs (the
    cell-STYLE XF block with its own BrtXF records among them) and after the cell XFs, any legal framing — decode
    to `xlsbStyles` of the description -/
theorem xlsb_styles_roundtrip (d : StyleDesc) (l : XlsbLayout) (hd : d.WFb) (hl : l.WF) :
    xlsbStylesOfBytes (xlsbEncode d l) = xlsbStyles d.formats d.xfs := by
  have hlen : l.pre.length + l.mid.length + 3 ≤ (xlsbEncode d l).length + 1 := by
    have h1 := encRecs_length_ge l.pre
    have h2 := encRecs_length_ge l.mid
    have h3 := Xlsb.frame_length_ge 0x0267 (Xlsb.le32 d.formats.length) l.hdrFr.wide l.hdrFr.lenW
    have h4 := Xlsb.frame_length_ge 0x0269 (Xlsb.le32 d.xfs.length) l.hdrFr.wide l.hdrFr.lenW
    simp only [xlsbEncode, List.length_append]
    omega
  unfold xlsbStylesOfBytes
  rw [xlsbStylesLoop_enc d l hd hl _ hlen]

/-- xlsx: the events of a styles part — anything without a `numFmts` / `cellXfs` start tag in the inert places
    (cellStyleXfs with `<xf numFmtId=…>`, dxfs with `<numFmt>` elements of clashing ids, fonts, extLst), other
    attributes and children of `<xf>`, either attribute order of `<numFmt>`, any namespace prefix — decode to
    `xlsxStyles` of the description (ids as their decimal text) -/
theorem xlsx_styles_roundtrip (d : StyleDesc) (l : XlsxLayout) (hl : l.WF) :
    xlsxStylesOfEvents (xlsxEncode d l) =
      xlsxStyles (d.formats.map fun f => (decimal f.1, f.2)) (d.xfs.map fun x => some (decimal x)) := by
  unfold xlsxStylesOfEvents
  rw [xlsxStylesLoop_enc d l hl]
  rw [xlsxStyles_eq]
  congr 1
  rw [List.map_map]
  apply List.map_congr_left
  intro x _
  simp only [Function.comp]
  have : fmtDefs d.formats = (d.formats.map fun f => (decimal f.1, f.2)).filter fun q => !q.2.isEmpty := by
    simp [fmtDefs, List.filter_map, Function.comp_def]
  rw [this, xlsxClass_filter]

/-- **from the styles part to the cell**: custom formats of the grammar written into a styles part of each
    container, the table decoded from that part, a float cell with style index `i`: it is typed by the logical style
    table (`logicalXlsx / logicalXlsb / logicalXls`: last definition of the id, else the documented built-in class;
    xlsb built-in first; index past the table = plain number) -/
theorem cell_typed_from_styles_part :
    (∀ (defs : List (Nat × Fmt)) (xfs : List Nat) (l : XlsxLayout) (formats : List CellFormat),
      (∀ d ∈ defs, WF d.2) → (∀ d ∈ defs, render d.2 ≠ []) → l.WF →
      xlsxStylesOfEvents (xlsxEncode ⟨defs.map fun d => (d.1, render d.2), xfs⟩ l) = .ok formats →
      ∀ (i : Nat) (v : UInt64) (d1904 : Bool), formatF64 v formats[i]? d1904 =
        typedF64 (((xfs.map fun x => some (decimal x))[i]?.map
          (logicalXlsx (defs.map fun d => (decimal d.1, d.2)))).getD .other) v d1904) ∧
    (∀ (defs : List (Nat × Fmt)) (xfs : List Nat) (l : XlsbLayout) (formats : List CellFormat),
      (∀ d ∈ defs, WF d.2) → (StyleDesc.mk (defs.map fun d => (d.1, render d.2)) xfs).WFb → l.WF →
      xlsbStylesOfBytes (xlsbEncode ⟨defs.map fun d => (d.1, render d.2), xfs⟩ l) = .ok formats →
      ∀ (i : Nat) (v : UInt64) (d1904 : Bool), formatF64 v formats[i]? d1904 =
        typedF64 ((xfs[i]?.map (logicalXlsb defs)).getD .other) v d1904) ∧
    (∀ (defs : List (Nat × Fmt)) (items : List XlsItem) (after : List (Nat × Bytes)) (formats : List CellFormat),
      (∀ d ∈ defs, WF d.2) → (∀ i ∈ items, i.WF) → xlsFormatsOf items = (defs.map fun d => (d.1, render d.2)) →
      xlsStylesOfRecords (xlsEncode items after) = .ok formats →
      ∀ (i : Nat) (v : UInt64) (d1904 : Bool), formatF64 v formats[i]? d1904 =
        typedF64 (((xlsXfsOf items)[i]?.map (logicalXls defs)).getD .other) v d1904) := by
  refine ⟨?_, ?_, ?_⟩
  · intro defs xfs l formats hwf hne hl h i v d
    rw [xlsx_styles_roundtrip _ l hl] at h
    -- stated with its type, so that both sides are one `map` over `defs`
    have h' : xlsxStyles ((defs.map fun d => (decimal d.1, d.2)).map fun d => (d.1, render d.2))
        (xfs.map fun x => some (decimal x)) = .ok formats := by
      have h0 : xlsxStyles ((defs.map fun d => (d.1, render d.2)).map fun f => (decimal f.1, f.2))
          (xfs.map fun x => some (decimal x)) = .ok formats := h
      rw [List.map_map] at h0 ⊢
      exact h0
    exact (cell_typed_by_style_xlsx _ (List.forall_mem_map.mpr hwf) (List.forall_mem_map.mpr hne) _ formats h' i v d).2
  · intro defs xfs l formats hwf hd hl h i v d
    rw [xlsb_styles_roundtrip _ l hd hl] at h
    exact (cell_typed_by_style_xlsb defs hwf xfs formats h i v d).2
  · intro defs items after formats hwf hi hf h i v d
    rw [xls_styles_roundtrip items hi after, hf] at h
    exact (cell_typed_by_style_xls defs hwf _ formats h i v d).2

/-- non-vacuity: a styles part of each kind with inert material that carries date formats — a cell-STYLE XF with
    format 14 which every cell `<xf>` points at (`xfId="0"`) while saying `applyNumberFormat="0"` (the cell xf's own
    `numFmtId` decides all the same), and a differential format `<numFmt numFmtId="164" formatCode="yyyy">` next to the real 164 = `0.0` —
    decodes to the real table -/
example :
    let d : StyleDesc := ⟨[(164, "0.0".toList), (165, "[h]:mm".toList)], [0, 164, 165, 14]⟩
    let mid : List SEv := [.start "x:cellStyleXfs".toList [], .start "x:xf".toList [("numFmtId".toList, decimal 14)],
      .end_ "x:xf".toList, .end_ "x:cellStyleXfs".toList]
    let post : List SEv := [.start "x:dxfs".toList [],
      .start "x:numFmt".toList [("numFmtId".toList, decimal 164), ("formatCode".toList, utf8Bytes "yyyy".toList)],
      .end_ "x:numFmt".toList, .end_ "x:dxfs".toList]
    let lx : XlsxLayout := ⟨some "x".toList, false, [], [.other], mid, post, [("fontId".toList, decimal 0)],
      [("xfId".toList, decimal 0), ("applyNumberFormat".toList, decimal 0)],
      [.start "x:alignment".toList [], .end_ "x:alignment".toList], [], 2, 1⟩
    let lb : XlsbLayout := ⟨[⟨0x0116, [], false, 0⟩, ⟨0x0263, [0xE7, 0x04, 1, 0], true, 2⟩],
      [⟨0x0272, Xlsb.le32 1, false, 0⟩, ⟨0x002F, brtXfPayload 14 0xFFFF [], false, 0⟩, ⟨0x0273, [], false, 0⟩],
      [0x97, 0x02, 0x00], [⟨true, 3⟩], [], ⟨false, 0⟩⟩
    lx.WF ∧ lb.WF ∧ d.WFb ∧
    xlsxStylesOfEvents (xlsxEncode d lx) = .ok [.other, .other, .timeDelta, .dateTime] ∧
    xlsbStylesOfBytes (xlsbEncode d lb) = .ok [.other, .other, .timeDelta, .dateTime] ∧
    xlsStylesOfRecords (xlsEncode [.other 0x0031 [1, 2], .format 164 "0.0".toList false, .xf 0 0 [], .xf 164 5 [9],
      .format 165 "[h]:mm".toList true, .xf 165 0 [], .xf 14 0 []] [(0x041E, [])])
        = .ok [.other, .other, .timeDelta, .dateTime] := by
  repeat rw [String.toList_ofList]
  simp only [XlsbLayout.WF, BRec.Fits, StyleDesc.WFb]
  refine ⟨⟨?_, by decide +kernel⟩, by decide +kernel⟩
  intro p hp; cases hp; decide

/-- `[Red][$-409]"Due _"\ dd/mm/yyyy\ hh:mm AM/PM;"late;"[h]:mm` — colour, locale, a quoted literal containing an
    underscore, escapes, several date tokens, a second section with a quoted `;` and an elapsed unit -/
example :
    let f : Fmt := { first := [.brk "Red".toList, .brk "$-409".toList, .lit "Due _".toList, .esc ' ',
                               .dateTok "dd".toList, .num '/', .dateTok "mm".toList, .num '/', .dateTok "yyyy".toList,
                               .esc ' ', .dateTok "hh".toList, .num ':', .dateTok "mm".toList, .num ' ',
                               .dateTok "AM/PM".toList],
                     rest := [[.lit "late;".toList, .elapsed "h".toList, .num ':', .dateTok "mm".toList]] }
    WF f ∧ classify f = .dateTime ∧
    render f = "[Red][$-409]\"Due _\"\\ dd/mm/yyyy\\ hh:mm AM/PM;\"late;\"[h]:mm".toList := by
  repeat rw [String.toList_ofList]
  decide +kernel

example : WF { first := [.brk "Blue".toList, .general "GENERAL".toList, .lit " d".toList, .pad ')'], rest := [] } := by
  decide +kernel

example : WF { first := [.fill '-', .brk "hm".toList, .brk [], .elapsed "SS".toList, .num '.', .num '0'], rest := [[]] } ∧
    classify { first := [.fill '-', .brk "hm".toList, .brk [], .elapsed "SS".toList, .num '.', .num '0'], rest := [[]] }
      = .timeDelta := by decide +kernel

end Formats
