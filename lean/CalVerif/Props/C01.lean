import CalVerif.Lemmas.XlsxSheet
import CalVerif.Props.C10
import CalVerif.Lemmas.XlsxContainer
/-! # C01 — XLSX: every cell reads back at its position, with its value and type
    The lemmas the theorems rest on are in `Lemmas/XlsxA1.lean`, `Lemmas/XlsxCursor.lean`, `Lemmas/XlsxSheet.lean`,
    `Lemmas/XlsxContainer.lean`.
    Model: `Model/XlsxCells.lean` (reader on XML events); logical sheet, documented mapping `expectData`, layouts and
    the encoder `renderSheet`: `Spec/XlsxSheet.lean`. Numbers: C10's `Formats.formatF64` / `style_lookup_xlsx`;
    the range: `Range.fromSparse_spec_all` of `Lemmas/Range.lean`, through `range_view_spec`. -/
namespace XlsxCells
open XlsxSheet

/-- `column_number_to_name` writes, for every legal column, letters whose bijective base-26 value is the
    1-based column number (and refuses every other column) -/
theorem col_name_roundtrip (c : Nat) (hc : c < 16384) :
    ∃ name, columnNumberToName c = .ok name ∧ valLE26 65 name.reverse = c + 1 ∧ ∀ x ∈ name, 65 ≤ x ∧ x ≤ 90 := by
  refine ⟨(colLE (c + 1)).reverse, ?_, ?_, ?_⟩
  · unfold columnNumberToName maxColumns
    rw [if_neg (by omega)]
  · rw [List.reverse_reverse, valLE26_colLE]
  · intro x hx; exact colLE_letters _ x (List.mem_reverse.mp hx)

theorem col_name_domain (c : Nat) : (columnNumberToName c).isOk = decide (c < 16384) := by
  unfold columnNumberToName maxColumns
  by_cases h : c ≥ 16384
  · have : ¬ c < 16384 := by omega
    simp [h, this, Res.isOk]
  · have : c < 16384 := by omega
    simp [h, this, Res.isOk]

/-- `coordinate_to_name` writes the reference `refName` (upper-case letters, 1-based decimal row) -/
theorem coord_name (r c : Nat) (hr : r < 1048576) (hc : c < 16384) :
    coordToName r c = .ok (refName false r c) := by
  unfold coordToName columnNumberToName maxColumns
  rw [if_neg (by omega)]
  have h : ¬ (r + 1 ≥ U32) := by simp only [U32]; omega
  simp only [if_neg h]
  simp [refName, colLetters, dec]

/-- every position of the grid A1..XFD1048576, written as a reference (upper- or lower-case letters),
    reads back as exactly that position -/
theorem a1_roundtrip (lower : Bool) (r c : Nat) (hr : r < 1048576) (hc : c < 16384) :
    getRowCol (refName lower r c) = .ok (r, some c) :=
  getRowCol_refName lower r c (grid_row hr) (grid_col hc)

/-- `get_row_and_optional_column ∘ coordinate_to_name = id` on the grid -/
theorem a1_roundtrip_coord (r c : Nat) (hr : r < 1048576) (hc : c < 16384) :
    ∃ name, coordToName r c = .ok name ∧ getRowCol name = .ok (r, some c) :=
  ⟨_, coord_name r c hr hc, a1_roundtrip false r c hr hc⟩

/-- a row reference (`<row r="n">`) reads back as row `n-1` with no column -/
theorem row_roundtrip (r : Nat) (hr : r < 1048576) : getRowCol (dec (r + 1)) = .ok (r, none) :=
  getRowCol_dec r (grid_row hr)

/-- two positions never share a reference, whatever the case of the letters -/
theorem a1_injective (l l' : Bool) (r c r' c' : Nat) (hr : r < 1048576) (hc : c < 16384)
    (hr' : r' < 1048576) (hc' : c' < 16384) (h : refName l r c = refName l' r' c') : r = r' ∧ c = c' := by
  have h1 := a1_roundtrip l r c hr hc
  have h2 := a1_roundtrip l' r' c' hr' hc'
  rw [h, h2] at h1
  injection h1 with h1
  injection h1 with ha hb
  injection hb with hb
  exact ⟨ha.symm, hb.symm⟩

/-- (after ledger D30-a) no byte string makes `get_row_and_optional_column` panic: it returns a position
    or an error. Before the fix, 7 letters or 10 digits overflowed `u32`. -/
theorem a1_no_panic (s : Bytes) : (∃ v, getRowCol s = .ok v) ∨ (∃ e, getRowCol s = .err e) :=
  getRowCol_returns s

/-- the `ref` of a `<dimension>`/`<mergeCell>` written for any rectangle of the grid reads back as it -/
theorem dimension_roundtrip (d : Dims) (h1 : d.sr < 1048576) (h2 : d.sc < 16384) (h3 : d.er < 1048576)
    (h4 : d.ec < 16384) : getDimension (dimRef d) = .ok d :=
  getDimension_dimRef_grid d ⟨h1, h2, h3, h4⟩

/-- (after ledger D30-c) `get_dimension` never panics — reversed rectangles included -/
theorem dimension_no_panic (s : Bytes) : (∃ v, getDimension s = .ok v) ∨ (∃ e, getDimension s = .err e) :=
  getDimension_returns s

/-- the arms of `CellErrorType::from_str` (translated from `/repo/src/xlsx/mod.rs` on every run) are exactly the
    error values of ECMA-376 Part 1 §18.17.3, each mapped to its kind; `documentedErrors` is written from the
    standard, independently of the code -/
theorem error_literals_documented : Gen.xlsxErrorFromStr = documentedErrors := by decide +kernel

/-- reading the literal of a kind gives that kind; no other text is an error value -/
theorem error_literal_roundtrip (k : CellErrorType) (hk : k ≠ .gettingData) : parseError (errLiteral k) = some k :=
  parseError_literal k hk

theorem error_literal_only (v : Bytes) (k : CellErrorType) (h : parseError v = some k) : (v, k) ∈ documentedErrors := by
  rw [parseError, error_literals_documented, Option.map_eq_some_iff] at h
  obtain ⟨⟨v', k'⟩, hf, rfl⟩ := h
  have he : v' = v := by simpa using List.find?_some hf
  exact he ▸ List.mem_of_find?_eq_some hf

/-- for every well-formed logical sheet and *every legal layout* — explicit or implicit row
    and cell references wherever the format allows them, either letter case, prefixes per frame / row / cell, any
    order of the attributes of `<row>` and `<c>` and any inert extra attributes, `<v>`/`<t>` text in pieces, any or
    no `<dimension>`, ignorable sibling elements before and after `<sheetData>`, white space and comments between
    rows and cells, `<f>` before the value — the cells `next_cell` returns are exactly the cells of the sheet, in
    row-major order, each at its position with the value of `expect`. -/
theorem cursor_positions (cfg : Cfg) (s : Sheet) (lay : Layout) (hl : lay.Legal) (hwf : s.WF) (hok : s.ContentOk cfg) :
    readCells cfg (renderSheet s lay) = .ok (lay.dim.getD default, cellsOf cfg s) :=
  readCells_render cfg s lay hl hwf.inGrid hok

/-- the `read_v` table on an encoded cell: under every legal layout a cell with content `c` makes
    the reader return `expect`: blank → `Empty`; number → the number token with the format of its style
    (`t="n"` with empty text → `Empty`); `t="s"` → the `idx`-th shared string; inline and `t="str"` → `String`;
    `t="b"` → `Bool`; `t="e"` → the kind of that literal; `t="d"` → `DateTimeIso` (`XlsxCells.expect_table`). -/
theorem typing (cfg : Cfg) (lay : Layout) (hl : lay.Legal) (r c cur : Nat) (cs : CellSpec) (hr : r < 1048576)
    (hc : c < 16384) (hok : cs.content.Ok cfg) (out : List (Nat × Nat × Val)) :
    steps cfg ⟨.rows, r, cur, out⟩ (renderCell lay r c cur cs) = .ok ⟨.rows, r, c + 1, (r, c, expect cfg cs) :: out⟩ :=
  (steps_eq ..).trans ((rowsLoop cfg).cell (cellBody cfg) lay hl r c cur cs hr hc hok out)

/-- what the caller sees of a cell is the **documented mapping** `expectData`, stated on the logical cell alone:
    `Data = toData (reader's value)`, with `text.parse::<f64>()` (parameter `env.parse`) and C10's `formatF64` -/
theorem cell_data (env : NumEnv) (cfg : Cfg) (cs : CellSpec)
    (hnum : ∀ t, cs.content = .num t true → t ≠ [] → env.parse t ≠ none) :
    toData env (expect cfg cs) = .ok (expectData env cfg cs) :=
  toData_expect env cfg cs hnum

/-- **shared versus inline versus formula strings**: the same text stored in the shared string table (index `i`,
    `strings[i] = s`), inline (`<is><t>s</t></is>`) or as a formula result (`t="str"`) reads as the same
    `Data.String s` — whatever style or formula the three cells carry -/
theorem xlsx_string_storage_independent (env : NumEnv) (cfg : Cfg) (i : Nat) (s : Bytes)
    (h : cfg.strings[i]? = some s) (st st' st'' f f' f'' : Option Bytes) :
    toData env (expect cfg ⟨.shared i, st, f⟩) = .ok (.string s) ∧
    toData env (expect cfg ⟨.inline s, st', f'⟩) = .ok (.string s) ∧
    toData env (expect cfg ⟨.fstr s, st'', f''⟩) = .ok (.string s) ∧
    expectData env cfg ⟨.shared i, st, f⟩ = expectData env cfg ⟨.inline s, st', f'⟩ ∧
    expectData env cfg ⟨.inline s, st', f'⟩ = expectData env cfg ⟨.fstr s, st'', f''⟩ := by
  simp [expect, expectData, toData, List.getD_eq_getElem?_getD, h]

/-- **numbers**: a numeric cell (text accepted by `f64::from_str`, bits `b`) reads as `DateTime` exactly when the
    format of its style is a date/time or an elapsed-time format, as `Float` otherwise; the value is the parsed
    number itself in all three cases (`formatF64` of C10) -/
theorem numeric_cell_by_style (env : NumEnv) (cfg : Cfg) (t : Bytes) (tn : Bool) (style f : Option Bytes) (b : UInt64)
    (ht : t ≠ []) (hp : env.parse t = some b) :
    expectData env cfg ⟨.num t tn, style, f⟩ = .num (Formats.formatF64 b (some (styleFmt cfg style)) env.is1904) ∧
    (styleFmt cfg style = .other → expectData env cfg ⟨.num t tn, style, f⟩ = .num (.float b)) ∧
    (styleFmt cfg style = .dateTime →
      expectData env cfg ⟨.num t tn, style, f⟩ = .num (.dateTime (.bits b) .dateTime env.is1904)) ∧
    (styleFmt cfg style = .timeDelta →
      expectData env cfg ⟨.num t tn, style, f⟩ = .num (.dateTime (.bits b) .timeDelta env.is1904)) := by
  have h0 : ¬ (tn = true ∧ t = []) := fun h => ht h.2
  refine ⟨?_, ?_, ?_, ?_⟩
  · simp only [expectData, h0, if_false, hp]
    cases styleFmt cfg style <;> rfl
  all_goals
    intro hs
    simp [expectData, h0, hp, hs]

/-- the style attribute written in decimal selects the `i`-th cell format (`Other` past the end of the table) -/
theorem style_index (cfg : Cfg) (i : Nat) (hi : i < 10 ^ 19) :
    styleFmt cfg (some (dec i)) = cfg.formats.getD i .other := by
  simp [styleFmt, atoiUsize_dec i hi]

/-- the class of the format an `<xf>` refers to: a custom definition first (`classify`, the grammar-level class of
    C10), the built-in table otherwise, `Other` when the `numFmtId` attribute is absent -/
def xfClass (defs : List (List UInt8 × NumFmt.Fmt)) : Option (List UInt8) → CellFormat
  | none => .other
  | some id =>
    match Formats.lastDef defs id with
    | some f => NumFmt.classify f
    | none => Formats.builtinById id

/-- composition with C10 (`style_lookup_xlsx`): when the format table is what `read_styles` builds from the
    workbook's custom number formats `defs` and the `numFmtId`s of `<cellXfs>` (`none` = attribute absent), a
    numeric cell with `s="i"` is typed by the class of the format the `i`-th `<xf>` refers to -/
theorem numeric_cell_style_lookup (cfg : Cfg) (defs : List (List UInt8 × NumFmt.Fmt)) (hwf : ∀ d ∈ defs, NumFmt.WF d.2)
    (hne : ∀ d ∈ defs, NumFmt.render d.2 ≠ []) (xfs : List (Option (List UInt8)))
    (hfmt : Formats.xlsxStyles (defs.map fun d => (d.1, NumFmt.render d.2)) xfs = .ok cfg.formats)
    (i : Nat) (hi : i < 10 ^ 19) (xf : Option (List UInt8)) (hxf : xfs[i]? = some xf) :
    styleFmt cfg (some (dec i)) = xfClass defs xf := by
  have := hfmt.symm.trans (Formats.xlsxStyles_logical defs hwf hne xfs)
  injection this with this
  rw [style_index cfg i hi, this, List.getD_eq_getElem?_getD, List.getElem?_map, hxf]
  cases xf <;> rfl

/-- `worksheet_range` of an encoded sheet is the tight bounding rectangle of the cells whose
    documented value is not `Empty` (the empty range when there is none); seen through `toData` it holds at every
    stored position the documented value of that cell (`expectData`: Float / DateTime by style, String, Bool,
    Error, DateTimeIso, Empty) and `Empty` everywhere else — for every legal layout. -/
theorem xlsx_range_spec (env : NumEnv) (cfg : Cfg) (s : Sheet) (lay : Layout) (hl : lay.Legal) (hwf : s.WF)
    (hok : s.ContentOk cfg) (hnum : s.NumOk env) :
    let D := dataOf env cfg s
    ((∀ c ∈ D, c.2.2 = .empty) → worksheetRange cfg (renderSheet s lay) = .ok Range.empty) ∧
    ((∃ c ∈ D, c.2.2 ≠ .empty) → ∃ rg, worksheetRange cfg (renderSheet s lay) = .ok rg ∧ rg.inner.length ≠ 0 ∧
      (∀ c ∈ D, c.2.2 ≠ .empty → rg.sr ≤ c.1 ∧ c.1 ≤ rg.er ∧ rg.sc ≤ c.2.1 ∧ c.2.1 ≤ rg.ec) ∧
      (∃ c ∈ D, c.2.2 ≠ .empty ∧ c.1 = rg.sr) ∧ (∃ c ∈ D, c.2.2 ≠ .empty ∧ c.1 = rg.er) ∧
      (∃ c ∈ D, c.2.2 ≠ .empty ∧ c.2.1 = rg.sc) ∧ (∃ c ∈ D, c.2.2 ≠ .empty ∧ c.2.1 = rg.ec) ∧
      (∀ c ∈ D, toData env (rg.valAt c.1 c.2.1) = .ok c.2.2) ∧
      (∀ p q, (∀ c ∈ D, ¬ (c.1 = p ∧ c.2.1 = q)) → toData env (rg.valAt p q) = .ok .empty)) :=
  range_view_spec (fun v d => toData env v = .ok d) .empty (expectData env cfg) cfg s lay hl hwf hok
    (fun row hrow cell hcell => toData_expect env cfg cell.2 (hnum row hrow cell hcell))
    (toData_empty_iff env) rfl

/-- two encodings of the same logical data — different layouts, and different
    *storage* of the cells (shared vs inline vs formula strings, `t="n"` or not, other string tables, other style
    tables selecting formats of the same class, blank cells stored or not …): any two (sheet, configuration, layout)
    triples with the same documented data `dataOf` — read as the same range: same bounds, same `Data` everywhere. -/
theorem xlsx_encoding_independent (env : NumEnv) (cfg cfg' : Cfg) (s s' : Sheet) (lay lay' : Layout)
    (hl : lay.Legal) (hl' : lay'.Legal) (hwf : s.WF) (hwf' : s'.WF) (hok : s.ContentOk cfg) (hok' : s'.ContentOk cfg')
    (hnum : s.NumOk env) (hnum' : s'.NumOk env) (hsame : dataOf env cfg s = dataOf env cfg' s') :
    ∃ rg rg', worksheetRange cfg (renderSheet s lay) = .ok rg ∧ worksheetRange cfg' (renderSheet s' lay') = .ok rg' ∧
      rg.start = rg'.start ∧ rg.end_ = rg'.end_ ∧
      ∀ p q, ∃ d, toData env (rg.valAt p q) = .ok d ∧ toData env (rg'.valAt p q) = .ok d := by
  obtain ⟨e1, n1⟩ := xlsx_range_spec env cfg s lay hl hwf hok hnum
  obtain ⟨e2, n2⟩ := xlsx_range_spec env cfg' s' lay' hl' hwf' hok' hnum'
  rw [← hsame] at e2 n2
  by_cases hany : ∃ c ∈ dataOf env cfg s, c.2.2 ≠ .empty
  · obtain ⟨rg, h1, l1, box1, ⟨a, ha, han, ea⟩, ⟨b, hb, hbn, eb⟩, ⟨c, hc, hcn, ec⟩, ⟨d, hd, hdn, ed⟩, v1, f1⟩ := n1 hany
    obtain ⟨rg', h2, l2, box2, ⟨a', ha', han', ea'⟩, ⟨b', hb', hbn', eb'⟩, ⟨c', hc', hcn', ec'⟩, ⟨d', hd', hdn', ed'⟩, v2, f2⟩ :=
      n2 hany
    obtain ⟨hsr, her, hsc, hec⟩ := Range.box_unique (M := fun c => c ∈ dataOf env cfg s ∧ c.2.2 ≠ .empty)
      (fun c h => box1 c h.1 h.2) ⟨⟨a, ⟨ha, han⟩, ea⟩, ⟨b, ⟨hb, hbn⟩, eb⟩, ⟨c, ⟨hc, hcn⟩, ec⟩, ⟨d, ⟨hd, hdn⟩, ed⟩⟩
      (fun c h => box2 c h.1 h.2) ⟨⟨a', ⟨ha', han'⟩, ea'⟩, ⟨b', ⟨hb', hbn'⟩, eb'⟩, ⟨c', ⟨hc', hcn'⟩, ec'⟩, ⟨d', ⟨hd', hdn'⟩, ed'⟩⟩
    refine ⟨rg, rg', h1, h2, by simp [Range.Rng.start, l1, l2, hsr, hsc], by simp [Range.Rng.end_, l1, l2, her, hec], ?_⟩
    intro p q
    by_cases hpq : ∃ x ∈ dataOf env cfg s, x.1 = p ∧ x.2.1 = q
    · obtain ⟨x, hx, rfl, rfl⟩ := hpq
      exact ⟨x.2.2, v1 x hx, v2 x hx⟩
    · have hfree : ∀ x ∈ dataOf env cfg s, ¬ (x.1 = p ∧ x.2.1 = q) := fun x hx h => hpq ⟨x, hx, h⟩
      exact ⟨.empty, f1 p q hfree, f2 p q hfree⟩
  · have hall : ∀ c ∈ dataOf env cfg s, c.2.2 = .empty := fun c hc => Decidable.not_not.mp fun h => hany ⟨c, hc, h⟩
    refine ⟨Range.empty, Range.empty, e1 hall, e2 hall, rfl, rfl, fun p q => ⟨.empty, ?_, ?_⟩⟩ <;>
      simp [Range.Rng.valAt, Range.empty, toData] <;> rfl

/-! ## robustness of the modelled reader (C06 overlap; after ledger D30-a/c/d and D39) -/

/-- on *any* event list — malformed references, reversed dimensions, out-of-range shared-string indices,
    unknown cell types, cursors at the `u32` limit — `XlsxCellReader::new` + `next_cell` return cells and then
    `Ok(None)` or an error; they never panic. (`Range::from_sparse` on what they return is C05/C06's.) -/
theorem reader_no_panic (cfg : Cfg) (evs : List Ev) :
    (∃ v, readCells cfg evs = .ok v) ∨ (∃ e, readCells cfg evs = .err e) := by
  show Res.Returns _
  unfold readCells
  rcases readerNew_returns evs default false with ⟨⟨d, rest⟩, h⟩ | ⟨e, h⟩ <;> simp only [h]
  · have h2 := run_returns cfg rest initSt
    generalize run cfg rest initSt = r at h2 ⊢
    obtain ⟨cells, res⟩ := r
    rcases h2 with ⟨⟨⟩, rfl⟩ | ⟨e, rfl⟩
    · exact .ok _
    · exact .err _
  · exact .err _

/-- (after ledger D20, D21) whatever the element prefix, the `i`-th string of the table is
    the text of the `i`-th `<si>` — an item without text (`<si/>`, or phonetic-only) is the empty string and
    does not shift the later indices; rich text is the concatenation of its runs, phonetic runs excluded. -/
theorem sst_alignment (p : Bool) (items : List SstItem) :
    readSharedStrings (renderSst p items) = .ok (items.map SstItem.text) := by
  simp only [readSharedStrings, renderSst, List.cons_append, List.nil_append, sstLoop, ln_sst,
    nSst_ne_nSi, if_false, sstLoop_items, if_true, List.append_nil, List.reverse_reverse]

example : readSharedStrings (renderSst true [.plain [97], .emptyElem, .rich [[98], [], [99]] (some [80]), .rich [] none]) =
    .ok [[97], [], [98, 99], []] := sst_alignment _ _

def exCfg : Cfg := ⟨[[104, 105], []], [.other, .dateTime]⟩
/-- rows 1, 10 and 1048576; implicit and explicit references; a blank styled cell; a date-styled number;
    the empty shared string; an inline string in XFD1048576 -/
def exSheet : Sheet :=
  [(0, [(0, ⟨.num [49] false, none, none⟩), (1, ⟨.shared 1, none, none⟩), (26, ⟨.blank, some [49], none⟩)]),
   (9, [(702, ⟨.num [52, 52, 49, 57, 55] true, some [49], some [65, 49]⟩), (703, ⟨.bool true, none, none⟩)]),
   (1048575, [(16383, ⟨.inline [120], none, none⟩)])]
/-- prefix on the frame and on odd rows; `r` omitted where legal; attributes of every `<c>` reversed with an inert
    `cm`, rows with `spans` in front; text cut into single bytes; `<sheetPr>`/`<sheetViews>` before, `<extLst>` after;
    a comment before every row -/
def exLayout : Layout :=
  { pfx := true, rowPfx := fun r => r % 2 == 1, cellPfx := fun _ c => c % 2 == 0, dim := some ⟨5, 5, 6, 6⟩,
    rowExplicit := fun r => r == 9, cellExplicit := fun _ c => c == 1, cellLower := fun _ c => c == 16383,
    cellArrange := fun _ _ a => ([99, 109], [49]) :: a.reverse,
    rowArrange := fun _ a => (asciiBytes "spans", asciiBytes "1:3") :: a,
    split := fun _ _ t => t.map fun b => [b],
    beforeDim := [.start (asciiBytes "sheetPr") [], .stop (asciiBytes "sheetPr")],
    afterDim := [.start (asciiBytes "sheetViews") [], .start (asciiBytes "sheetView") [], .stop (asciiBytes "sheetView"),
                 .stop (asciiBytes "sheetViews")],
    after := [.start (asciiBytes "extLst") [], .start nSheetData [], .stop nSheetData, .stop (asciiBytes "extLst")],
    gapRow := fun _ => [.other], gapCell := fun _ _ => [.text [10, 32]], gapRowEnd := fun _ => [], gapEnd := [.text [10]] }

example : exSheet.WF ∧ exSheet.ContentOk exCfg ∧ exLayout.Legal ∧ exSheet.NumOk ⟨fun t => if t = [49] then some 0x3FF0000000000000 else if t = [52, 52, 49, 57, 55] then some 0x40E594A000000000 else none, true⟩ := by
  refine ⟨⟨by simp [exSheet, Increasing], ?_⟩, ?_, ?_, ?_⟩
  · intro row hrow
    simp only [exSheet, List.mem_cons, List.not_mem_nil, or_false] at hrow
    rcases hrow with rfl | rfl | rfl <;> simp [Increasing]
  · intro row hrow cell hcell
    simp only [exSheet, List.mem_cons, List.not_mem_nil, or_false] at hrow
    rcases hrow with rfl | rfl | rfl <;>
      · simp only [List.mem_cons, List.not_mem_nil, or_false] at hcell
        rcases hcell with rfl | rfl | rfl <;> simp [Content.Ok, exCfg]
  · refine ⟨?_, ?_, ?_, ?_, ?_, ?_⟩
    · intro d hd
      simp only [exLayout, Option.some.injEq] at hd
      subst hd; simp
    · intro r c base k hnd hk
      have hx : ([99, 109] : Bytes) ≠ k := by rcases hk with rfl | rfl | rfl <;> decide
      show getAttr (([99, 109], [49]) :: base.reverse) k = getAttr base k
      rw [getAttr_cons_ne _ _ _ _ hx, getAttr_reverse base k hnd]
    · intro r base _
      exact getAttr_cons_ne _ _ _ _ (by decide)
    · intro r c t
      show (t.map fun b => [b]).flatten = t
      induction t with
      | nil => rfl
      | cons b bs ih => simp [ih]
    · constructor <;>
        · intro ev hev n a he
          simp only [exLayout, List.mem_cons, List.not_mem_nil, or_false] at hev
          rcases hev with rfl | rfl | rfl | rfl <;> (cases he <;> decide)
    · refine ⟨fun r ev hev => ?_, fun r c ev hev => ?_, fun r ev hev => ?_, fun ev hev => ?_⟩
      · simp only [exLayout, List.mem_singleton] at hev; exact Or.inl hev
      · simp only [exLayout, List.mem_singleton] at hev; exact Or.inr ⟨_, hev⟩
      · simp [exLayout] at hev
      · simp only [exLayout, List.mem_singleton] at hev; exact Or.inr ⟨_, hev⟩
  · intro row hrow cell hcell t ht hne
    simp only [exSheet, List.mem_cons, List.not_mem_nil, or_false] at hrow
    rcases hrow with rfl | rfl | rfl <;>
      · simp only [List.mem_cons, List.not_mem_nil, or_false] at hcell
        rcases hcell with rfl | rfl | rfl <;> simp at ht <;> (try (obtain ⟨rfl, _⟩ := ht)) <;> simp

#guard (readCells exCfg (renderSheet exSheet exLayout)) ==
  .ok (⟨5, 5, 6, 6⟩, cellsOf exCfg exSheet)

example : getRowCol (refName true 1048575 16383) = .ok (1048575, some 16383) :=
  a1_roundtrip true 1048575 16383 (by omega) (by omega)
#guard refName true 1048575 16383 == [120, 102, 100, 49, 48, 52, 56, 53, 55, 54]   -- "xfd1048576"

end XlsxCells

/-! ## from the archive to the part of the sheet named `n` (container glue)

    `Model/XlsxContainer.lean`: `read_relationships`, the join in `read_workbook` (C16's `Meta.readWorkbookXlsx`),
    `xml_reader`'s case-insensitive entry lookup, `worksheet_cells_reader`'s lookup by sheet name. `zip` (finding and
    inflating an entry by its exact name) and quick-xml stay trusted. -/

namespace XlsxContainer
open Meta MetaEnc XlsxCells XlsxSheet

/-- `read_relationships` returns a map or an error on every event list (for `Props/C06`) -/
theorem relationships_total (evs : List Meta.Ev) :
    (∃ r, readRelationships evs = .ok r) ∨ (∃ e, readRelationships evs = .err e) :=
  relsLoop_returns evs []

/-- the sheet list of `Xlsx::new` is total on every archive: whatever the entry names and the events of the
    relationships and workbook parts, it is a table or an error, never a panic (for `Props/C06`) -/
theorem sheet_table_total {α : Type} (a : Archive α) :
    (∃ t, sheetTable a = .ok t) ∨ (∃ e, sheetTable a = .err e) := by
  show Res.Returns _
  unfold sheetTable
  cases findEntry a.names "xl/_rels/workbook.xml.rels" with
  | none => exact .err _
  | some relsEntry =>
    dsimp only
    refine Res.Returns.elim (relationships_total (a.xml relsEntry)) (fun r => ?_) .err
    dsimp only
    cases findEntry a.names "xl/workbook.xml" with
    | none => exact .ok _
    | some wbEntry => dsimp only; exact (readWorkbookXlsx_returns r (a.xml wbEntry)).elim (fun _ => .ok _) .err

/-- opening a sheet by name is total: the content of one entry, or an error (for `Props/C06`) -/
theorem open_sheet_total {α : Type} (a : Archive α) (name : String) :
    (∃ c, openSheet a name = .ok c) ∨ (∃ e, openSheet a name = .err e) := by
  have hentry : (openSheetEntry a name).Returns := by
    unfold openSheetEntry
    refine Res.Returns.elim (sheet_table_total a) (fun t => ?_) .err
    dsimp only
    cases t.find? (fun s => s.1.name == name) with
    | none => exact .err _
    | some s =>
      dsimp only
      cases findEntry a.names s.2 with
      | none => exact .err _
      | some entry => exact .ok _
  show Res.Returns _
  unfold openSheet
  exact hentry.elim (fun _ => .ok _) .err

/-- whatever the element prefix, the order of the attributes and the further
    attributes (`Type`, `TargetMode`, …) of each `<Relationship>`, the map holds every relationship of the part;
    when an id occurs twice the later one wins (`List.lookup` on the reversed file order) -/
theorem relationships_roundtrip (lay : PLayout) (hq : QOkOn ["Relationships", "Relationship"] lay.relQ)
    (ha : ∀ id tg, relAttrs (lay.relAttrsOf id tg) ("", "") = (id, tg)) :
    readRelationships (relsEvents lay) = .ok lay.rels.reverse :=
  readRelationships_package lay hq ha

/-- for every consistent package and every legal physical layout, `Xlsx::new` lists the
    sheets in document order, each with its name, kind and visibility and with the part path its relationship
    target names: `worksheets/sheet1.xml`, `/xl/worksheets/sheet1.xml` and `xl/worksheets/sheet1.xml` all give
    `xl/worksheets/sheet1.xml` (`partPath`) -/
theorem sheet_table_package {α : Type} [Inhabited α] (sheets : List (PSheet α)) (lay : PLayout) (h : PackageOk sheets lay) :
    sheetTable (archiveOf sheets lay) =
      .ok (sheets.map fun s => (⟨s.x.name, s.x.kind, s.x.vis⟩, partPath s.x.target)) :=
  sheetTable_package sheets lay h

/-- the part opened for the sheet named `n` is the part that holds that sheet's cells —
    whatever the relationship-id spelling and the place of its namespace declaration, the `Target` form, the further
    relationships, the case of the entry names and their order in the archive -/
theorem sheet_part_resolution {α : Type} [Inhabited α] (sheets : List (PSheet α)) (lay : PLayout) (h : PackageOk sheets lay)
    (s : PSheet α) (hs : s ∈ sheets) :
    openSheetEntry (archiveOf sheets lay) s.x.name = .ok s.entry ∧ openSheet (archiveOf sheets lay) s.x.name = .ok s.body :=
  ⟨openSheetEntry_package sheets lay h s hs, openSheet_package sheets lay h s hs⟩

/-- a name that no sheet carries is `WorksheetNotFound` -/
theorem unknown_sheet_name {α : Type} [Inhabited α] (sheets : List (PSheet α)) (lay : PLayout) (h : PackageOk sheets lay)
    (name : String) (hn : ∀ s ∈ sheets, s.x.name ≠ name) :
    openSheet (archiveOf sheets lay) name = .err "WorksheetNotFound" := by
  unfold openSheet openSheetEntry
  rw [sheetTable_package sheets lay h]
  have : (sheets.map fun s => ((⟨s.x.name, s.x.kind, s.x.vis⟩ : Sheet String), partPath s.x.target)).find?
      (fun s => s.1.name == name) = none := by
    rw [List.find?_eq_none]
    intro y hy
    obtain ⟨s, hs, rfl⟩ := List.mem_map.mp hy
    simpa using hn s hs
  simp only [this]

/-- "the cells of the part" (C01's reader theorems) are "the cells of the SHEET NAMED n":
    in a package whose sheet `s` stores the logical sheet `S` under the layout `λ`, opening the sheet by its name
    and running the cell reader gives exactly the cells of `S` (`cursor_positions`), and the range of
    `xlsx_range_spec` -/
theorem named_sheet_cells (cfg : Cfg) (sheets : List (PSheet (List XlsxCells.Ev))) (play : PLayout)
    (h : PackageOk sheets play) (s : PSheet (List XlsxCells.Ev)) (hs : s ∈ sheets)
    (S : Sheet) (lay : Layout) (hbody : s.body = renderSheet S lay) (hl : lay.Legal) (hwf : S.WF) (hok : S.ContentOk cfg) :
    (match openSheet (archiveOf sheets play) s.x.name with
      | .ok evs => readCells cfg evs
      | .err e => .err e | .panic e => .panic e | .outOfFuel => .outOfFuel) = .ok (lay.dim.getD default, cellsOf cfg S) ∧
    (match openSheet (archiveOf sheets play) s.x.name with
      | .ok evs => worksheetRange cfg evs
      | .err e => .err e | .panic e => .panic e | .outOfFuel => .outOfFuel) = worksheetRange cfg (renderSheet S lay) := by
  rw [(sheet_part_resolution sheets play h s hs).2, hbody]
  exact ⟨cursor_positions cfg S lay hl hwf hok, rfl⟩

/-! non-trivial instance: two sheets (a hidden one); prefix `x:` in the workbook part, none in the `.rels` part;
    `rel:id` with its namespace declared on `<sheets>`; an absolute and a relative `Target`; a styles relationship
    and a superseded duplicate of `rId2` in between; attributes of `<Relationship>` in the order Type, Target, Id,
    TargetMode; entry names in other letter cases, archive order unrelated to the sheet order -/

def exPLayout : PLayout :=
  { q := fun n => "x:" ++ n, ridKey := "rel:id",
    wbAttrs := [("xmlns:x", "http://schemas.openxmlformats.org/spreadsheetml/2006/main")],
    sheetsAttrs := [("xmlns:rel", "http://schemas.openxmlformats.org/officeDocument/2006/relationships")],
    sheetExtra := fun _ => [("xmlns:q", "urn:other")],
    relQ := id, relRootAttrs := [("xmlns", "http://schemas.openxmlformats.org/package/2006/relationships")],
    relAttrsOf := fun i t => [("Type", "…/worksheet"), ("Target", t), ("Id", i), ("TargetMode", "Internal")],
    rels := [("rId2", "worksheets/old.xml"), ("rId9", "styles.xml"), ("rId2", "/xl/worksheets/sheet2.xml"), ("rId1", "worksheets/sheet1.xml")],
    wbEntry := "xl/Workbook.xml", relsEntry := "XL/_RELS/WORKBOOK.XML.RELS",
    names := ["xl/worksheets/Sheet2.xml", "[Content_Types].xml", "XL/_RELS/WORKBOOK.XML.RELS", "xl/styles.xml",
              "xl/WORKSHEETS/SHEET1.XML", "xl/Workbook.xml"] }

def exS1 : PSheet Nat := ⟨⟨"First", "1", .visible, false, "rId1", "worksheets/sheet1.xml", .workSheet⟩, "xl/WORKSHEETS/SHEET1.XML", 11⟩
def exS2 : PSheet Nat :=
  ⟨⟨"Second & last", "2", .hidden, true, "rId2", "/xl/worksheets/sheet2.xml", .workSheet⟩, "xl/worksheets/Sheet2.xml", 22⟩
def exPSheets : List (PSheet Nat) := [exS1, exS2]

theorem q_x_ok (names : List String) : QOkOn names (fun n => "x:" ++ n) := by
  intro n _
  simp [Meta.localName, Meta.afterColon, String.toList_append]

example : PackageOk exPSheets exPLayout ∧ openSheet (archiveOf exPSheets exPLayout) "Second & last" = .ok 22 := by
  have hok : PackageOk exPSheets exPLayout :=
    { q := q_x_ok _
      relQ := (by decide +kernel : ∀ n ∈ ["Relationships", "Relationship"], localName (id n) = n)
      ridKey := ⟨by decide, by decide⟩
      sheetExtra := by
        intro s kv hkv
        simp only [exPLayout, List.mem_singleton] at hkv
        subst hkv
        exact (by decide : "xmlns:q" ≠ "name" ∧ "xmlns:q" ≠ "state" ∧ ¬ relIdKey "xmlns:q")
      relAttrs := by
        intro i t
        simp [exPLayout, relAttrs]
      sheetRel := by decide +kernel
      kind := by decide +kernel
      state := by decide +kernel
      namesDistinct := by decide +kernel
      relsEntry := by decide +kernel
      wbEntry := by decide +kernel
      sheetEntry := by decide +kernel
      sheetNames := by decide +kernel
      sheetEntries := by decide +kernel }
  exact ⟨hok, (sheet_part_resolution exPSheets exPLayout hok exS2 (by simp [exPSheets])).2⟩

end XlsxContainer
