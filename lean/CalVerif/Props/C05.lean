import CalVerif.Lemmas.Range
import CalVerif.Lemmas.RangeIter
/-! # C05 — Range stays a consistent rectangle under every sequence of operations
    The invariant under each operation and under every history, what each operation and accessor returns, and
    the double-ended iterators; the list arithmetic behind them is in `Lemmas/Range.lean` and `Lemmas/RangeIter.lean`. -/
namespace Range
set_option linter.unusedSectionVars false
variable {α : Type} [Inhabited α]

theorem inv_empty : Inv (empty : Rng α) := ⟨rfl, fun h => absurd rfl h⟩

theorem inv_new (sr sc er ec : Nat) (r : Rng α) (h : new sr sc er ec = .ok r) :
    Inv r ∧ r.inner.length ≠ 0 ∧ r.sr = sr ∧ r.sc = sc ∧ r.er = er ∧ r.ec = ec := by
  obtain ⟨rfl, h1, h2, _⟩ := new_ok sr sc er ec r h
  obtain ⟨hinv, hne, _⟩ := Tab.rng (g := fun _ _ => (default : α)) h1 h2 (Tab.replicate ..) (fun _ _ _ => rfl)
  exact ⟨hinv, hne, rfl, rfl, rfl, rfl⟩

theorem inv_grow (r : Rng α) (row col : Nat) (hi : Inv r) (hne : r.inner.length ≠ 0)
    (hpre : r.sr ≤ row ∧ r.sc ≤ col) :
    Inv (grow r row col) ∧ (grow r row col).inner.length ≠ 0 ∧ (grow r row col).sr = r.sr ∧
    (grow r row col).sc = r.sc ∧ (grow r row col).er = max r.er row ∧ (grow r row col).ec = max r.ec col := by
  exact ⟨(grow_spec r row col hi hne).1, (grow_spec r row col hi hne).2.1, grow_corners r row col hi hne⟩

theorem inv_setValue (r : Rng α) (row col : Nat) (v : α) (hi : Inv r) (r2 : Rng α)
    (h : setValue r row col v = .ok r2) : Inv r2 := by
  obtain ⟨hpre, hne, rfl⟩ := setValue_ok r row col v r2 h
  exact inv_set _ _ v (inv_grow r row col hi hne hpre).1

/-- `range(s, e)` yields a consistent rectangle whose bounds are exactly `(s, e)` (and is never empty) -/
theorem inv_range (r : Rng α) (hi : Inv r) (sr sc er ec : Nat) (r' : Rng α)
    (h : range r sr sc er ec = .ok r') :
    Inv r' ∧ r'.inner.length ≠ 0 ∧ r'.start = some (sr, sc) ∧ r'.end_ = some (er, ec) := by
  obtain ⟨⟨e1, e2, e3, e4⟩, hinv, hne, _⟩ := range_core r hi sr sc er ec r' h
  subst e1 e2 e3 e4
  exact ⟨hinv, hne, if_neg hne, if_neg hne⟩

/-- `range(s, e)` equals the source wherever they overlap and the default value elsewhere
    (for empty and non-empty sources alike) -/
theorem range_spec (r : Rng α) (hi : Inv r) (sr sc er ec : Nat) (r' : Rng α)
    (h : range r sr sc er ec = .ok r') (p q : Nat) :
    r'.valAt p q = if sr ≤ p ∧ p ≤ er ∧ sc ≤ q ∧ q ≤ ec then r.valAt p q else default :=
  (range_core r hi sr sc er ec r' h).2.2.2 p q

/-! `from_sparse` accepts cells in any order (after fix D40). `fromSparse_spec_all` (Lemmas/Range.lean) is the
    general statement, the one the sheet readers' proofs use; the theorems below are its parts. -/

theorem inv_fromSparse (cells : List (Nat × Nat × α)) (r : Rng α) (h : fromSparse cells = .ok r) :
    Inv r ∧ (r.inner.length = 0 ↔ cells = []) :=
  ⟨(fromSparse_spec_all cells r h).1, (fromSparse_spec_all cells r h).2.1⟩

/-- `from_sparse` on cells in ANY order: the bounds are the tight bounding box — (min row, min col)–(max row,
    max col), each attained by an input cell —, every position holds the value of the *last* input cell at
    that position (last writer wins), every other position the default. No cell is dropped. -/
theorem fromSparse_spec_any (cells : List (Nat × Nat × α)) (hne : cells ≠ []) (r : Rng α)
    (h : fromSparse cells = .ok r) :
    r.inner.length ≠ 0 ∧
    (∀ c ∈ cells, r.sr ≤ c.1 ∧ c.1 ≤ r.er ∧ r.sc ≤ c.2.1 ∧ c.2.1 ≤ r.ec) ∧
    (∃ c ∈ cells, c.1 = r.sr) ∧ (∃ c ∈ cells, c.1 = r.er) ∧
    (∃ c ∈ cells, c.2.1 = r.sc) ∧ (∃ c ∈ cells, c.2.1 = r.ec) ∧
    ∀ p q, r.valAt p q = (lastAt cells p q).getD default := by
  obtain ⟨_, he, hm, ht, hv, _⟩ := fromSparse_spec_all cells r h
  obtain ⟨t1, t2, t3, t4⟩ := ht hne
  exact ⟨fun h0 => hne (he.mp h0), hm, t1, t2, t3, t4, hv⟩

/-- row-sorted input (the precondition documented before fix D40: every row lies between the first cell's and
    the last cell's): the row bounds are the first and the last cell's rows. -/
theorem fromSparse_spec (cells : List (Nat × Nat × α)) (hne : cells ≠ []) (r : Rng α)
    (h : fromSparse cells = .ok r)
    (hs : ∀ c ∈ cells, (cells.head hne).1 ≤ c.1 ∧ c.1 ≤ (cells.getLast hne).1) :
    r.inner.length ≠ 0 ∧ r.sr = (cells.head hne).1 ∧ r.er = (cells.getLast hne).1 ∧
    (∀ c ∈ cells, r.sr ≤ c.1 ∧ r.sc ≤ c.2.1 ∧ c.2.1 ≤ r.ec) ∧
    (∃ c ∈ cells, c.2.1 = r.ec) ∧ ((∀ c ∈ cells, c.2.1 < U32) → ∃ c ∈ cells, c.2.1 = r.sc) ∧
    ∀ p q, r.valAt p q = if p ≤ r.er then (lastAt cells p q).getD default else default := by
  obtain ⟨hpos, hmem, ⟨c1, hc1, e1⟩, ⟨c2, hc2, e2⟩, hsc, hec, hv⟩ := fromSparse_spec_any cells hne r h
  have hsr : r.sr = (cells.head hne).1 :=
    Nat.le_antisymm (hmem _ (List.head_mem hne)).1 (e1 ▸ (hs c1 hc1).1)
  have her : r.er = (cells.getLast hne).1 :=
    Nat.le_antisymm (e2 ▸ (hs c2 hc2).2) (hmem _ (List.getLast_mem hne)).2.1
  refine ⟨hpos, hsr, her, fun c hc => ⟨(hmem c hc).1, (hmem c hc).2.2.1, (hmem c hc).2.2.2⟩, hec,
    fun _ => hsc, fun p q => ?_⟩
  rw [hv p q]
  by_cases hp : p ≤ r.er
  · rw [if_pos hp]
  · rw [if_neg hp, lastAt_eq_none]; · rfl
    exact fun c hc hpq => hp (hpq.1 ▸ (hmem c hc).2.1)

theorem lastAt_append_cons (l1 l2 : List (Nat × Nat × α)) (c : Nat × Nat × α)
    (hl2 : ∀ c' ∈ l2, ¬ (c'.1 = c.1 ∧ c'.2.1 = c.2.1)) :
    lastAt (l1 ++ c :: l2) c.1 c.2.1 = some c.2.2 := by
  induction l1 with
  | nil => rw [List.nil_append, lastAt_cons, lastAt_eq_none l2 _ _ hl2, if_pos ⟨rfl, rfl⟩]; rfl
  | cons x l1 ih => rw [List.cons_append, lastAt_cons, ih]; rfl

/-- every position holds the last cell written there, or the default; the hypothesis on the row order is not used -/
theorem fromSparse_spec_sorted (cells : List (Nat × Nat × α)) (hne : cells ≠ []) (r : Rng α)
    (h : fromSparse cells = .ok r) (_hs : ∀ c ∈ cells, c.1 ≤ (cells.getLast hne).1) (p q : Nat) :
    r.valAt p q = (lastAt cells p q).getD default :=
  fromSparse_valAt cells r h p q

/-- every input cell is at its position unless a later cell overwrites it (any cell order) -/
theorem fromSparse_last_wins (l1 l2 : List (Nat × Nat × α)) (c : Nat × Nat × α) (r : Rng α)
    (h : fromSparse (l1 ++ c :: l2) = .ok r)
    (hl2 : ∀ c' ∈ l2, ¬ (c'.1 = c.1 ∧ c'.2.1 = c.2.1)) : r.valAt c.1 c.2.1 = c.2.2 := by
  rw [fromSparse_valAt _ r h, lastAt_append_cons l1 l2 c hl2]; rfl

theorem fromSparse_untouched (cells : List (Nat × Nat × α)) (r : Rng α) (h : fromSparse cells = .ok r)
    (p q : Nat) (hno : ∀ c ∈ cells, ¬ (c.1 = p ∧ c.2.1 = q)) : r.valAt p q = default := by
  rw [fromSparse_valAt cells r h, lastAt_eq_none _ p q hno]; rfl

/-- **`from_sparse` never panics on `u32` cells in any order** whose row and column spans `+ 1` fit `u32`
    (no order hypothesis) -/
theorem fromSparse_no_panic (cells : List (Nat × Nat × α))
    (hb : ∀ c ∈ cells, c.1 < 4294967296 ∧ c.2.1 < 4294967296)
    (hspan : ∀ c ∈ cells, ∀ c' ∈ cells, c'.1 - c.1 + 1 < 4294967296 ∧ c'.2.1 - c.2.1 + 1 < 4294967296) :
    ∃ r, fromSparse cells = .ok r :=
  fromSparse_of_pre cells ⟨hb, hspan⟩

theorem grow_valAt (r : Rng α) (row col : Nat) (hi : Inv r) (hne : r.inner.length ≠ 0)
    (hpre : r.sr ≤ row ∧ r.sc ≤ col) (p q : Nat) : (grow r row col).valAt p q = r.valAt p q :=
  (grow_spec r row col hi hne).2.2 p q

/-- `set_value` (when it returns: non-empty range, position at or beyond the start corner): the rectangle grows
    to the bounding box of the old rectangle and the position, the addressed cell holds the value, every
    other position is unchanged (default outside the old rectangle) -/
theorem setValue_spec (r : Rng α) (row col : Nat) (v : α) (hi : Inv r) (r2 : Rng α)
    (h : setValue r row col v = .ok r2) :
    r.inner.length ≠ 0 ∧ r.sr ≤ row ∧ r.sc ≤ col ∧
    r2.start = some (r.sr, r.sc) ∧ r2.end_ = some (max r.er row, max r.ec col) ∧
    r2.valAt row col = v ∧ ∀ p q, ¬ (p = row ∧ q = col) → r2.valAt p q = r.valAt p q := by
  obtain ⟨hpre, hne, rfl⟩ := setValue_ok r row col v r2 h
  obtain ⟨hgi, hgne, hgv⟩ := grow_spec r row col hi hne
  obtain ⟨g1, g2, g3, g4⟩ := grow_corners r row col hi hne
  obtain ⟨_, hne2, hv⟩ := setAt_spec _ hgi hgne row col
    (by rw [g1, g2, g3, g4]; exact ⟨hpre.1, Nat.le_max_right .., hpre.2, Nat.le_max_right ..⟩) v
  refine ⟨hne, hpre.1, hpre.2, ?_, ?_, ?_, fun p q hpq => ?_⟩
  · rw [← g1, ← g2]; exact if_neg hne2
  · rw [← g3, ← g4]; exact if_neg hne2
  · rw [hv, if_pos ⟨rfl, rfl⟩]
  · rw [hv, if_neg hpq, hgv]

theorem setValue_of_pre (r : Rng α) (row col : Nat) (v : α) (hi : Inv r)
    (h : Pre r (.setValue row col v)) : ∃ r', setValue r row col v = .ok r' := by
  obtain ⟨hne, h1, h2, h3, h4⟩ := h
  obtain ⟨hgi, hgne, _⟩ := grow_spec r row col hi hne
  obtain ⟨g1, g2, g3, g4⟩ := grow_corners r row col hi hne
  unfold setValue
  rw [if_neg (not_not_intro ⟨h1, h2⟩), if_neg hne,
    if_neg (fun c => c.2.elim (Nat.not_le_of_lt h4) (fun a => Nat.not_le_of_lt h3 a.2))]
  simp only
  rw [if_pos]; · exact ⟨_, rfl⟩
  apply hgi.idx_lt_abs hgne
  rw [g1, g2, g3, g4]
  exact ⟨h1, Nat.le_max_right .., h2, Nat.le_max_right ..⟩

theorem inv_step (r : Rng α) (hi : Inv r) (op : Op α) (r' : Rng α) (h : step r op = .ok r') : Inv r' := by
  cases op with
  | new sr sc er ec => exact (inv_new sr sc er ec r' h).1
  | empty => simp only [step] at h; injection h with h; subst h; exact inv_empty
  | fromSparse cells => exact (inv_fromSparse cells r' h).1
  | setValue row col v => exact inv_setValue r row col v hi r' h
  | range sr sc er ec => exact (inv_range r hi sr sc er ec r' h).1

theorem inv_runFrom : ∀ (ops : List (Op α)) (r : Rng α), Inv r → ∀ r', runFrom r ops = .ok r' → Inv r'
  | [], r, hi, r', h => by simp only [runFrom] at h; injection h with h; subst h; exact hi
  | op :: ops, r, hi, r', h => by
    simp only [runFrom] at h
    split at h
    · rename_i r1 hs
      exact inv_runFrom ops r1 (inv_step r hi op r1 hs) r' h
    all_goals cases h

/-- **the rectangle invariant holds after every history** of constructions and mutations that returns
    (whatever the arguments: a violated precondition makes the history panic, never corrupts the range) -/
theorem inv_reachable (ops : List (Op α)) (r : Rng α) (h : run ops = .ok r) : Inv r :=
  inv_runFrom ops empty inv_empty r h

theorem step_ok (r : Rng α) (hi : Inv r) (op : Op α) (hp : Pre r op) : ∃ r', step r op = .ok r' ∧ Inv r' := by
  have : ∃ r', step r op = .ok r' := by
    cases op with
    | new sr sc er ec => exact ⟨_, new_of_pre sr sc er ec hp⟩
    | empty => exact ⟨_, rfl⟩
    | fromSparse cells => exact fromSparse_of_pre cells hp
    | setValue row col v => exact setValue_of_pre r row col v hi hp
    | range sr sc er ec => exact range_of_pre r sr sc er ec hp
  obtain ⟨r', h⟩ := this
  exact ⟨r', h, inv_step r hi op r' h⟩

theorem runFrom_ok : ∀ (ops : List (Op α)) (r : Rng α), Inv r → Safe r ops →
    ∃ r', runFrom r ops = .ok r' ∧ Inv r'
  | [], r, hi, _ => ⟨r, rfl, hi⟩
  | op :: ops, r, hi, hs => by
    obtain ⟨r1, h1, hi1⟩ := step_ok r hi op hs.1
    obtain ⟨r', h', hi'⟩ := runFrom_ok ops r1 hi1 (hs.2 r1 h1)
    exact ⟨r', by simp only [runFrom, h1, h'], hi'⟩

/-- **no panic under the documented preconditions**: a history in which every operation meets its
    precondition in the state it is applied to runs to completion and ends in a consistent rectangle -/
theorem run_ok (ops : List (Op α)) (hs : Safe empty ops) : ∃ r, run ops = .ok r ∧ Inv r :=
  runFrom_ok ops empty inv_empty hs

theorem bounds_agree (r : Rng α) (hi : Inv r) :
    (r.isEmpty = true ↔ r.inner.length = 0) ∧
    (r.inner.length = 0 → r.start = none ∧ r.end_ = none ∧ r.height = 0 ∧ r.width = 0) ∧
    (r.inner.length ≠ 0 → r.start = some (r.sr, r.sc) ∧ r.end_ = some (r.er, r.ec) ∧
      r.sr ≤ r.er ∧ r.sc ≤ r.ec ∧ r.height = r.er - r.sr + 1 ∧ r.width = r.ec - r.sc + 1) ∧
    r.inner.length = r.height * r.width := by
  refine ⟨by simp [Rng.isEmpty], fun h => ?_, fun h => ?_, hi.len⟩
  · simp [Rng.start, Rng.end_, Rng.height, Rng.width, h]
  · obtain ⟨a, b⟩ := hi.ord h
    simp [Rng.start, Rng.end_, Rng.height, Rng.width, h, a, b]

theorem get_spec (r : Rng α) (hi : Inv r) (i j : Nat) :
    get r i j = if i < r.height ∧ j < r.width then some (r.valAt (r.sr + i) (r.sc + j)) else none := by
  unfold get
  by_cases h : i < r.height ∧ j < r.width
  · have hne := ne_of_lt_height h.1
    rw [if_neg (fun c => c.elim (Nat.not_le_of_lt h.2) (Nat.not_le_of_lt h.1)), if_pos h]
    rw [hi.height_eq hne] at h
    rw [hi.width_eq hne] at h ⊢
    exact (hi.tab hne).get? h.1 h.2
  · rw [if_pos (by omega), if_neg h]

theorem getValue_spec (r : Rng α) (hi : Inv r) (p q : Nat) :
    getValue r p q = if r.inner.length ≠ 0 ∧ r.sr ≤ p ∧ p ≤ r.er ∧ r.sc ≤ q ∧ q ≤ r.ec
      then some (r.valAt p q) else none := by
  unfold getValue
  by_cases hin : r.sr ≤ p ∧ p ≤ r.er ∧ r.sc ≤ q ∧ q ≤ r.ec
  · rw [if_pos hin, get_spec r hi, Nat.add_sub_of_le hin.1, Nat.add_sub_of_le hin.2.2.1]
    by_cases hne : r.inner.length ≠ 0
    · rw [if_pos, if_pos ⟨hne, hin⟩]
      rw [hi.height_eq hne, hi.width_eq hne]
      exact ⟨sub_lt_span_of_le _ hin.2.1, sub_lt_span_of_le _ hin.2.2.2⟩
    · rw [if_neg (fun h => hne (ne_of_lt_height h.1)), if_neg (fun h => hne h.1)]
  · rw [if_neg hin, if_neg (fun h => hin h.2)]

theorem index_spec (r : Rng α) (hi : Inv r) (i j : Nat) :
    index r i j = if i < r.height ∧ j < r.width then .ok (r.valAt (r.sr + i) (r.sc + j))
      else .panic "index out of bounds" := by
  rw [index_eq_get, get_spec r hi]
  by_cases h : i < r.height ∧ j < r.width
  · rw [if_pos h, if_pos h]
  · rw [if_neg h, if_neg h]

theorem accessors_agree (r : Rng α) (hi : Inv r) (i j : Nat) :
    getValue r (r.sr + i) (r.sc + j) = get r i j ∧
    (index r i j = match get r i j with | some v => .ok v | none => .panic "index out of bounds") ∧
    (∀ p q, getValue r p q = if r.sr ≤ p ∧ r.sc ≤ q then get r (p - r.sr) (q - r.sc) else none) := by
  -- `get_value` is `get` at the relative position; past the end corner `get` itself answers `None`
  have h3 : ∀ p q, getValue r p q = if r.sr ≤ p ∧ r.sc ≤ q then get r (p - r.sr) (q - r.sc) else none := by
    intro p q
    unfold getValue
    by_cases hin : r.sr ≤ p ∧ p ≤ r.er ∧ r.sc ≤ q ∧ q ≤ r.ec
    · rw [if_pos hin, if_pos ⟨hin.1, hin.2.2.1⟩]
    · rw [if_neg hin]
      split
      · have := hi.dims
        unfold get; rw [if_pos (by omega)]
      · rfl
  refine ⟨?_, ?_, h3⟩
  · rw [h3, if_pos ⟨Nat.le_add_right .., Nat.le_add_right ..⟩, Nat.add_sub_cancel_left, Nat.add_sub_cancel_left]
  · exact index_eq_get r i j

/-- `rows()` yields `height` rows of `width` cells each, and cell `j` of row `i` is `get((i, j))` -/
theorem rows_spec (r : Rng α) (hi : Inv r) :
    (rows r).length = r.height ∧ (∀ row ∈ rows r, row.length = r.width) ∧
    (∀ i, i < r.height → (rows r)[i]? = some ((r.inner.drop (i * r.width)).take r.width)) ∧
    ∀ i j, (rows r)[i]?.bind (·[j]?) = get r i j := by
  have hget : ∀ i, i < r.height → (rows r)[i]? = some ((r.inner.drop (i * r.width)).take r.width) :=
    fun i h => by rw [hi.rows_eq]; exact chunksN_get _ _ _ _ h
  refine ⟨hi.rows_length, fun row hrow => ?_, hget, fun i j => ?_⟩
  · obtain ⟨i, hlt, he⟩ := List.getElem_of_mem hrow
    exact hi.row_length (i := i) (by rw [List.getElem?_eq_getElem hlt, he])
  · unfold get
    by_cases h : i < r.height
    · rw [hget i h, Option.bind_some, List.getElem?_take, List.getElem?_drop]
      by_cases hj : j < r.width
      · rw [if_pos hj, if_neg (by omega)]
      · rw [if_neg hj, if_pos (by omega)]
    · rw [List.getElem?_eq_none (by rw [hi.rows_length]; omega), if_pos (by omega)]; rfl

/-- `cells()` enumerates exactly the `height * width` cells in row-major order with their relative
    coordinates: entry `i` is `(i / width, i % width, inner[i])`, i.e. entry `i * width + j` is
    `(i, j, get((i, j)))` -/
theorem cells_spec (r : Rng α) (hi : Inv r) :
    (cells r).length = r.height * r.width ∧
    (∀ i, (cells r)[i]? = r.inner[i]?.map (fun v => (i / r.width, i % r.width, v))) ∧
    ∀ i j, i < r.height → j < r.width →
      (cells r)[i * r.width + j]? = some (i, j, r.valAt (r.sr + i) (r.sc + j)) := by
  have hget : ∀ i, (cells r)[i]? = r.inner[i]?.map (fun v => (i / r.width, i % r.width, v)) := by
    intro i; unfold cells; rw [cellsFrom_get, Nat.zero_add]
  refine ⟨by unfold cells; rw [cellsFrom_length, hi.len], hget, fun i j h1 h2 => ?_⟩
  have hg := get_spec r hi i j
  unfold get at hg
  rw [if_neg (by omega), if_pos ⟨h1, h2⟩] at hg
  rw [hget, hg, (DivMod.divmod_mul_add h2).1, (DivMod.divmod_mul_add h2).2]; rfl

theorem usedCells_spec [DecidableEq α] (r : Rng α) :
    usedCells r = (cells r).filter (fun c => decide (c.2.2 ≠ default)) ∧
    (usedCells r).Sublist (cells r) ∧
    ∀ c, c ∈ usedCells r ↔ c ∈ cells r ∧ c.2.2 ≠ default := by
  refine ⟨rfl, List.filter_sublist, fun c => ?_⟩
  unfold usedCells
  rw [List.mem_filter]; simp

/-- `range[i]` (a row) inside the rectangle is row `i` of `rows()`; past the last row of a non-empty range it
    panics; on an empty range every index gives the empty slice (width 0) -/
theorem indexRow_spec (r : Rng α) (hi : Inv r) (i : Nat) :
    (i < r.height → ∃ row, indexRow r i = .ok row ∧ (rows r)[i]? = some row ∧ row.length = r.width) ∧
    (r.inner.length ≠ 0 → r.height ≤ i → ∃ m, indexRow r i = .panic m) ∧
    (r.inner.length = 0 → indexRow r i = .ok []) := by
  obtain ⟨_, r2, r3, _⟩ := rows_spec r hi
  refine ⟨fun h => ?_, fun hne h => ?_, fun he => ?_⟩
  · have hle : (i + 1) * r.width ≤ r.inner.length := by
      rw [hi.len]; exact Nat.mul_le_mul_right _ h
    exact ⟨_, by unfold indexRow; rw [if_pos hle], r3 i h, r2 _ (List.mem_of_getElem? (r3 i h))⟩
  · have hlt : r.height * r.width < (i + 1) * r.width :=
      Nat.mul_lt_mul_of_pos_right (Nat.lt_succ_of_le h) (by rw [hi.width_eq hne]; exact Nat.succ_pos _)
    exact ⟨_, by unfold indexRow; rw [if_neg (by rw [hi.len]; exact Nat.not_le_of_lt hlt)]⟩
  · unfold indexRow
    rw [show r.width = 0 from if_pos he, he]
    rfl

/-- `range[(i, j)] = v` inside the rectangle IS `set_value` at the absolute position of that cell — so it changes
    exactly that cell and nothing else (`setValue_spec`) and keeps the rectangle; outside it panics -/
theorem indexSet_eq_setValue (r : Rng α) (hi : Inv r) (i j : Nat) (v : α) (h1 : i < r.height) (h2 : j < r.width) :
    indexSet r i j v = setValue r (r.sr + i) (r.sc + j) v := by
  have hin := hi.rel_in h1 h2
  have hidx := hi.idx_lt h1 h2
  unfold indexSet setValue
  rw [if_neg (not_not_intro ⟨h2, h1⟩), if_pos hidx, if_neg (not_not_intro ⟨hin.1, hin.2.2.1⟩),
    if_neg (ne_of_lt_height h1), if_neg (fun c => Nat.not_lt_of_le hin.2.2.2 c.1),
    grow_of_le r _ _ hin.2.1 hin.2.2.2]
  simp only [Nat.add_sub_cancel_left]
  rw [if_pos hidx]

theorem indexSet_out_of_bounds (r : Rng α) (i j : Nat) (v : α) (h : ¬ (j < r.width ∧ i < r.height)) :
    indexSet r i j v = .panic "index out of bounds" := by
  unfold indexSet; rw [if_pos h]

/-- `headers()` is the first row of `rows()`: `None` exactly for the empty range, otherwise `width` cells -/
theorem firstRow_spec (r : Rng α) (hi : Inv r) :
    (r.inner.length = 0 → firstRow r = none) ∧
    (r.inner.length ≠ 0 → ∃ row, firstRow r = some row ∧ (rows r)[0]? = some row ∧ row.length = r.width) := by
  obtain ⟨_, r2, r3, _⟩ := rows_spec r hi
  refine ⟨fun he => ?_, fun hne => ?_⟩
  · unfold firstRow; rw [rows_nil_of_empty he]; rfl
  · have h0 := r3 0 (by rw [hi.height_eq hne]; exact Nat.succ_pos _)
    exact ⟨_, by unfold firstRow; rw [List.head?_eq_getElem?, h0], h0, r2 _ (List.mem_of_getElem? h0)⟩

/-! `Cells`, `UsedCells` and `Rows` implement `DoubleEndedIterator`. For ANY sequence of `next` / `next_back`
    calls (`true` = `next`), the items returned from the front (in call order), the items still in the
    iterator, and the items returned from the back (in reverse call order) are together exactly the forward
    enumeration: every cell once, in row-major order, with the coordinates of `cells()`. -/

theorem cells_double_ended (r : Rng α) (pat : List Bool) :
    fronts (CellIt.consume CellIt.next CellIt.nextBack pat (cellsIter r)).1 ++
      (CellIt.consume CellIt.next CellIt.nextBack pat (cellsIter r)).2.rest.map
        (CellIt.consume CellIt.next CellIt.nextBack pat (cellsIter r)).2.yield ++
      (backs (CellIt.consume CellIt.next CellIt.nextBack pat (cellsIter r)).1).reverse = cells r := by
  have h := consume_split selAll CellIt.next CellIt.nextBack next_ok nextBack_ok pat (cellsIter r)
  rw [pending_all, pending_all, cellsIter_items] at h
  exact h

/-- `ExactSizeIterator::len` of `Cells` after any consumption history: what is left is what was not yielded -/
theorem cells_len_exact (r : Rng α) (pat : List Bool) :
    (CellIt.consume CellIt.next CellIt.nextBack pat (cellsIter r)).2.len +
      (fronts (CellIt.consume CellIt.next CellIt.nextBack pat (cellsIter r)).1).length +
      (backs (CellIt.consume CellIt.next CellIt.nextBack pat (cellsIter r)).1).length = (cells r).length := by
  have h := congrArg List.length (cells_double_ended r pat)
  simp only [List.length_append, List.length_map, List.length_reverse] at h
  unfold CellIt.len
  omega

theorem used_cells_double_ended [DecidableEq α] (r : Rng α) (pat : List Bool) :
    fronts (CellIt.consume CellIt.nextUsed CellIt.nextBackUsed pat (cellsIter r)).1 ++
      ((CellIt.consume CellIt.nextUsed CellIt.nextBackUsed pat (cellsIter r)).2.rest.map
        (CellIt.consume CellIt.nextUsed CellIt.nextBackUsed pat (cellsIter r)).2.yield).filter
          (fun c => decide (c.2.2 ≠ default)) ++
      (backs (CellIt.consume CellIt.nextUsed CellIt.nextBackUsed pat (cellsIter r)).1).reverse = usedCells r := by
  have h := consume_split selUsed CellIt.nextUsed CellIt.nextBackUsed nextUsed_ok nextBackUsed_ok pat (cellsIter r)
  have e : (fun c : Nat × Nat × α => decide (c.2.2 ≠ default)) = selUsed := by
    funext c; simp [selUsed]
  unfold CellIt.pending at h
  rw [cellsIter_items] at h
  unfold usedCells
  rw [e]
  exact h

/-- once `next` or `next_back` of `UsedCells` has returned `None`, no later call from either end returns a cell -/
theorem used_cells_fused [DecidableEq α] (it : CellIt α) (d : Bool) (pat : List Bool)
    (h : (if d then it.nextUsed else it.nextBackUsed).1 = none) :
    fronts (CellIt.consume CellIt.nextUsed CellIt.nextBackUsed pat (if d then it.nextUsed else it.nextBackUsed).2).1 = [] ∧
    backs (CellIt.consume CellIt.nextUsed CellIt.nextBackUsed pat (if d then it.nextUsed else it.nextBackUsed).2).1 = [] := by
  cases d
  · exact consume_done selUsed _ _ nextUsed_ok nextBackUsed_ok _ (nextBackUsed_none it (by simpa using h)) pat
  · exact consume_done selUsed _ _ nextUsed_ok nextBackUsed_ok _ (nextUsed_none it (by simpa using h)) pat

theorem rows_double_ended (r : Rng α) (pat : List Bool) :
    fronts (rowsConsume pat (rows r)).1 ++ (rowsConsume pat (rows r)).2 ++
      (backs (rowsConsume pat (rows r)).1).reverse = rows r := rowsConsume_split pat (rows r)

/-- the headline: after **any** history that returns, the range is a full rectangle — `height × width` cells,
    `rows()` yields `height` rows of `width` cells, `cells()` has `height × width` entries, entry `i·width + j`
    of `cells()` and cell `j` of row `i` are both the cell `get((i, j))` = `get_value((start.0 + i, start.1 + j))`,
    and outside the rectangle `get`/`get_value` return `None` -/
theorem history_consistent (ops : List (Op α)) (r : Rng α) (h : run ops = .ok r) :
    r.inner.length = r.height * r.width ∧ (rows r).length = r.height ∧
    (∀ row ∈ rows r, row.length = r.width) ∧ (cells r).length = r.height * r.width ∧
    (∀ i j, i < r.height → j < r.width →
      get r i j = some (r.valAt (r.sr + i) (r.sc + j)) ∧
      getValue r (r.sr + i) (r.sc + j) = get r i j ∧
      (rows r)[i]?.bind (·[j]?) = get r i j ∧
      (cells r)[i * r.width + j]? = (get r i j).map (fun v => (i, j, v))) ∧
    (∀ i j, ¬ (i < r.height ∧ j < r.width) → get r i j = none ∧ getValue r (r.sr + i) (r.sc + j) = none) := by
  have hi := inv_reachable ops r h
  obtain ⟨r1, r2, _, r4⟩ := rows_spec r hi
  obtain ⟨c1, _, c3⟩ := cells_spec r hi
  refine ⟨hi.len, r1, r2, c1, fun i j h1 h2 => ?_, fun i j hn => ?_⟩
  · have hg : get r i j = some (r.valAt (r.sr + i) (r.sc + j)) := by
      rw [get_spec r hi, if_pos ⟨h1, h2⟩]
    exact ⟨hg, (accessors_agree r hi i j).1, r4 i j, by rw [c3 i j h1 h2, hg]; rfl⟩
  · have hg : get r i j = none := by rw [get_spec r hi, if_neg hn]
    exact ⟨hg, by rw [(accessors_agree r hi i j).1, hg]⟩

/-! Concrete instances: the hypotheses above can be met and the model computes what the code does (values are
    `Nat`, default `0`). -/

example : Inv (⟨3, 4, 4, 5, [1, 2, 3, 4]⟩ : Rng Nat) := (inv_of_len _ (by decide) (by decide) rfl).1

/-- the D01 witness after the fix: growing downwards only yields 8 × 3 = 24 cells -/
example : (run [Op.new 0 0 5 2, Op.setValue 7 1 (3 : Nat)]).isOk = true ∧
    ∀ r, run [Op.new 0 0 5 2, Op.setValue 7 1 (3 : Nat)] = .ok r →
      r.inner.length = 24 ∧ r.height = 8 ∧ r.width = 3 ∧ r.valAt 7 1 = 3 := by
  refine ⟨rfl, fun r h => ?_⟩
  cases h; exact ⟨rfl, rfl, rfl, rfl⟩

/-- growth in both directions, then a partially overlapping window -/
example : run [Op.new 1 1 2 2, Op.setValue 1 1 (7 : Nat), Op.setValue 3 4 9, Op.range 0 0 1 2] =
    .ok ⟨0, 0, 1, 2, [0, 0, 0, 0, 7, 0]⟩ := rfl

example : setValue (⟨1, 1, 2, 2, [7, 0, 0, 0]⟩ : Rng Nat) 3 4 9 =
    .ok ⟨1, 1, 3, 4, [7, 0, 0, 0, 0, 0, 0, 0, 0, 0, 0, 9]⟩ := rfl

/-- `from_sparse`: duplicates (last writer wins) and a gap -/
example : fromSparse [(2, 5, (1 : Nat)), (2, 3, 2), (3, 5, 3), (3, 5, 4)] =
    .ok ⟨2, 3, 3, 5, [2, 0, 1, 0, 0, 4]⟩ := rfl

example : lastAt [(2, 5, (1 : Nat)), (2, 3, 2), (3, 5, 3), (3, 5, 4)] 3 5 = some 4 := rfl

/-- the preconditions are decidable and satisfiable; a history that meets them (`Safe`) exists -/
example : Pre (⟨1, 1, 2, 2, [7, 0, 0, 0]⟩ : Rng Nat) (Op.setValue 3 4 9) := by decide
example : sparsePre [(2, 5, (1 : Nat)), (2, 3, 2), (3, 5, 3), (3, 5, 4)] := by decide
example : Safe (empty : Rng Nat) [Op.new 0 0 5 2, Op.setValue 7 1 3, Op.range 1 1 8 8] := by
  refine ⟨by decide, fun r1 h1 => ?_⟩
  cases h1
  refine ⟨by decide, fun r2 h2 => ?_⟩
  cases h2
  exact ⟨by decide, fun _ _ => trivial⟩

/-- … and violated preconditions do panic (the hypotheses of `step_ok` are not redundant) -/
example : setValue (empty : Rng Nat) 0 0 1 = .panic "empty range" := rfl
example : setValue (⟨1, 1, 2, 2, [7, 0, 0, 0]⟩ : Rng Nat) 0 1 9 = .panic "absolute_position out of bounds" := rfl
example : (new 0 0 65535 65535 : Res (Rng Nat)) = .panic "u32 mul overflow" := by
  unfold new; rfl
/-- cells out of row order (the D40 witnesses): no panic, nothing dropped -/
example : fromSparse [(2, 0, (1 : Nat)), (1, 0, 2), (3, 0, 3)] = .ok ⟨1, 0, 3, 0, [2, 1, 3]⟩ := rfl
example : fromSparse [(3, 259, (0 : Nat)), (0, 261, 4)] =
    .ok ⟨0, 259, 3, 261, [0, 0, 4, 0, 0, 0, 0, 0, 0, 0, 0, 0]⟩ := rfl
example : fromSparse [(0, 4294967295, (1 : Nat)), (0, 0, 2)] = .panic "u32 add overflow" := rfl

example : rows (⟨3, 4, 4, 6, [1, 0, 3, 4, 5, 0]⟩ : Rng Nat) = [[1, 0, 3], [4, 5, 0]] := rfl
example : cells (⟨3, 4, 4, 6, [1, 0, 3, 4, 5, 0]⟩ : Rng Nat) =
    [(0, 0, 1), (0, 1, 0), (0, 2, 3), (1, 0, 4), (1, 1, 5), (1, 2, 0)] := rfl
example : usedCells (⟨3, 4, 4, 6, [1, 0, 3, 4, 5, 0]⟩ : Rng Nat) =
    [(0, 0, 1), (0, 2, 3), (1, 0, 4), (1, 1, 5)] := by decide
example : getValue (⟨3, 4, 4, 6, [1, 0, 3, 4, 5, 0]⟩ : Rng Nat) 4 5 = some 5 ∧
    get (⟨3, 4, 4, 6, [1, 0, 3, 4, 5, 0]⟩ : Rng Nat) 1 1 = some 5 ∧
    index (⟨3, 4, 4, 6, [1, 0, 3, 4, 5, 0]⟩ : Rng Nat) 1 1 = .ok 5 ∧
    getValue (⟨3, 4, 4, 6, [1, 0, 3, 4, 5, 0]⟩ : Rng Nat) 5 5 = none := ⟨rfl, rfl, rfl, rfl⟩

/-- double-ended consumption on a concrete range: front, back, back, front, then both ends are empty -/
example : (CellIt.consume CellIt.next CellIt.nextBack [true, false, false, true, true, false]
      (cellsIter (⟨3, 4, 4, 5, [1, 2, 3, 4]⟩ : Rng Nat))).1 =
    [(true, some (0, 0, 1)), (false, some (1, 1, 4)), (false, some (1, 0, 3)), (true, some (0, 1, 2)),
     (true, none), (false, none)] := rfl
example : (CellIt.consume CellIt.nextUsed CellIt.nextBackUsed [false, true, true, false]
      (cellsIter (⟨3, 4, 4, 6, [1, 0, 3, 4, 5, 0]⟩ : Rng Nat))).1 =
    [(false, some (1, 1, 5)), (true, some (0, 0, 1)), (true, some (0, 2, 3)), (false, some (1, 0, 4))] := by decide

end Range
