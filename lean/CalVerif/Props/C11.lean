import CalVerif.Lemmas.Dates
/-! # C11 — serial date-times convert to the right calendar date, time and duration

The theorems are about `Model/Dates.lean`, the model of `ExcelDateTime::{as_datetime, as_duration}`
and of the trait-level conversions.  The `civil_*` theorems are about day numbers alone (the pure
calendar); the others are of two kinds, marked [serial] and [ms]:

* [serial] — about cells that carry the SERIAL and the date-system flag.  The model derives the
  day number itself (1462-day offset, leap-year shim, choice of the 1900 path for plain numbers);
  for whole-day serials nothing comes from outside (`whole_days_exact`: the float step is exact
  there), for fractional serials only the ROUNDED millisecond-of-day of the fraction does.
* [ms] — about the integer millisecond count after the float step
  `round((serial [+ 1462] [+ 1]) * 86 400 000)`.  That step is NOT proved: it is validated by the
  correspondence run (exhaustively on whole days, densely on fractions) against exact integer
  arithmetic.  "Rounded to the millisecond" and "monotone in the fraction" are therefore
  statements about the rounded fraction / the millisecond count, not about the f64 serial.

`Spec/Dates.lean` is the calendar these theorems are stated against: the Gregorian leap rule,
month lengths, `nextDay`, and `addDays k d` = `k` times `nextDay`. -/

namespace Dates

/-- one more day is the next calendar day — for every day number, negative ones included -/
theorem civil_step (n : Int) : civilOfDays (n + 1) = nextDay (civilOfDays n) :=
  civilOfDays_succ n

theorem civil_period (n : Int) :
    civilOfDays (n + 146097) = { civilOfDays n with y := (civilOfDays n).y + 400 } := by
  have e : n + 146097 + epochShift = n + epochShift + 1 * 146097 := by omega
  simp only [civilOfDays, e, Int.add_mul_ediv_right _ _ (by decide : (146097 : Int) ≠ 0), Int.add_mul_emod_self_right,
    Date.mk.injEq, and_true]
  omega

/-- day number `n` is the date reached by stepping `n` times from the epoch 1899-12-30 -/
theorem civil_correct (n : Nat) : civilOfDays (n : Int) = dateOfDays n := by
  have h := civilOfDays_add 0 n
  rw [civilOfDays_zero] at h
  simpa [dateOfDays] using h

theorem civil_add (n : Int) (k : Nat) : civilOfDays (n + k) = addDays k (civilOfDays n) :=
  civilOfDays_add n k

theorem civil_valid (n : Int) : (civilOfDays n).Valid := civilOfDays_valid n

/-- distinct day numbers are distinct dates, in chronological order -/
theorem civil_strict_mono {a b : Int} (h : a < b) : (civilOfDays a).lt (civilOfDays b) :=
  civilOfDays_lt h

/-- [serial] 1900 system: serial 1 is 1900-01-01; serials 1..59 count days from 1899-12-31 (so 59 is
    1900-02-28, the day before the fictitious 1900-02-29); serial 61 is 1900-03-01; from serial
    60 on each unit is one calendar day; from 61 on the serial counts days from 1900-03-01. -/
theorem serial_1900 :
    dateOfSerial false 1 = { y := 1900, m := 1, d := 1 } ∧
    (∀ n : Nat, n ≤ 59 → dateOfSerial false n = addDays n { y := 1899, m := 12, d := 31 }) ∧
    dateOfSerial false 59 = { y := 1900, m := 2, d := 28 } ∧
    dateOfSerial false 61 = { y := 1900, m := 3, d := 1 } ∧
    (∀ n : Int, 60 ≤ n → dateOfSerial false (n + 1) = nextDay (dateOfSerial false n)) ∧
    (∀ k : Nat, dateOfSerial false (61 + k) = addDays k { y := 1900, m := 3, d := 1 }) := by
  refine ⟨by decide, ?_, by decide, by decide, fun n hn => dateOfSerial_add false hn 1,
    fun k => dateOfSerial_add false (n := 61) (by decide) k⟩
  intro n hn
  have h1 : civilOfDays 1 = { y := 1899, m := 12, d := 31 } := by decide
  rw [dateOfSerial, dayNumber_false, dayNumber1900_of_lt (n := n) (by omega), Int.add_comm,
    civilOfDays_add, h1]

/-- [serial] the last supported serial, 2 958 465, is 9999-12-31 -/
theorem serial_1900_last : dateOfSerial false 2958465 = { y := 9999, m := 12, d := 31 } := by
  decide

/-- [serial] 1904 system: serial 0 is 1904-01-01 and every unit is one calendar day (from serial −1402 = 60 − 1462 on,
    where the shifted serial passes the 1900 shim) -/
theorem serial_1904 :
    dateOfSerial true 0 = { y := 1904, m := 1, d := 1 } ∧
    (∀ n : Nat, dateOfSerial true n = addDays n { y := 1904, m := 1, d := 1 }) ∧
    (∀ n : Int, -1402 ≤ n → dateOfSerial true (n + 1) = nextDay (dateOfSerial true n)) :=
  ⟨by decide, fun n => by
      have h := dateOfSerial_add true (n := 0) (by decide) n
      rwa [Int.zero_add, show dateOfSerial true 0 = { y := 1904, m := 1, d := 1 } by decide] at h,
    fun n hn => dateOfSerial_add true (n := n) (by simp only [if_true]; omega) 1⟩

/-- [serial] on whole-day serials of the supported range every number the float step touches
    (the serial, the serial plus the 1462 offset, plus the shim's 1, and the millisecond product) is a
    non-negative integer below 2^53; that such integers are exact in f64, so that the step does not
    round there, is the IEEE fact the harness relies on, not part of the statement -/
theorem whole_days_exact (is1904 : Bool) (n : Int) (h0 : 0 ≤ n) (h1 : n ≤ 2958465) :
    0 ≤ dayNumber is1904 n ∧ dayNumber is1904 n ≤ 2958465 + 1462 ∧
    0 ≤ msOfWholeDay is1904 n ∧ msOfWholeDay is1904 n < 9007199254740992 := by
  have := dayNumber_bounds is1904 h0
  unfold msOfWholeDay
  generalize dayNumber is1904 n = k at *
  omega

/-- [ms] `civilOfMs` in closed form: the date is the calendar date of `⌊ms / 1 day⌋`, `None` exactly
    outside chrono's span -/
theorem civilOfMs_eq (ms : Int) :
    civilOfMs ms =
      if minDay ≤ ms / 86400000 ∧ ms / 86400000 ≤ maxDay then
        some { date := civilOfDays (ms / 86400000),
               time := timeOfSecs (ms / 1000 % 86400).toNat (ms % 1000).toNat }
      else none := by
  unfold civilOfMs
  simp only [days_of_ms, addDaysChecked_eq]
  by_cases h : minDay ≤ ms / 86400000 ∧ ms / 86400000 ≤ maxDay
  · rw [if_pos h, if_pos h]
  · rw [if_neg h, if_neg h]

theorem civilOfMs_day_ms (q : Int) {r : Nat} (hr : r < 86400000) :
    civilOfMs (q * 86400000 + r) =
      if minDay ≤ q ∧ q ≤ maxDay then
        some { date := civilOfDays q, time := timeOfSecs (r / 1000) (r % 1000) }
      else none := by
  have hr' : (r : Int) < 86400000 := Int.ofNat_lt.2 hr
  have hs : ((r / 1000 : Nat) : Int) < 86400 := Int.ofNat_lt.2 (Nat.div_lt_of_lt_mul hr)
  have hm : ((r % 1000 : Nat) : Int) < 1000 := Int.ofNat_lt.2 (Nat.mod_lt _ (by decide))
  have e : q * 86400000 + r = (q * 86400 + (r / 1000 : Nat)) * 1000 + (r % 1000 : Nat) := by omega
  -- in turn: the day (count / 86 400 000); after `e` the seconds (count / 1000), the milliseconds (count % 1000),
  -- the second of the day (seconds % 86 400)
  rw [civilOfMs_eq, (ediv_emod_mul_add q (Int.natCast_nonneg r) hr').1, e,
    (ediv_emod_mul_add _ (Int.natCast_nonneg _) hm).1, (ediv_emod_mul_add _ (Int.natCast_nonneg _) hm).2,
    (ediv_emod_mul_add q (Int.natCast_nonneg _) hs).2, Int.toNat_natCast, Int.toNat_natCast]

/-- [ms] **as_date / as_time are the components of as_datetime**, and they are what they should be:
    the date is the calendar date of the whole days in `ms`, the time of day is the remaining
    milliseconds split into h/m/s/ms, both well-formed -/
theorem date_time_components (ms : Int) (dt : DateTime) (h : civilOfMs ms = some dt) :
    dt.date = civilOfDays (ms / 86400000) ∧ dt.date.Valid ∧
    dt.time.toMs = (ms % 86400000).toNat ∧ dt.time.Valid := by
  have h0 : 0 ≤ ms % 86400000 := Int.emod_nonneg ms (by decide)
  have hr : (ms % 86400000).toNat < 86400000 := (Int.toNat_lt h0).2 (Int.emod_lt_of_pos ms (by decide))
  rw [← Int.mul_ediv_add_emod ms 86400000, Int.mul_comm, ← Int.toNat_of_nonneg h0,
    civilOfMs_day_ms _ hr] at h
  split at h
  · injection h with h
    subst h
    exact ⟨rfl, civilOfDays_valid _, toMs_timeOfSecs _, timeOfSecs_valid hr⟩
  · cases h

/-- [serial] whole-day serials of the supported range convert to midnight of their calendar date -/
theorem whole_day_datetime (is1904 : Bool) (n : Int) (h0 : 0 ≤ n) (h1 : n ≤ 2958465) :
    datetimeOfSerial is1904 n =
      some { date := dateOfSerial is1904 n, time := { h := 0, mi := 0, s := 0, ms := 0 } } := by
  obtain ⟨a, b, c, _⟩ := whole_days_exact is1904 n h0 h1
  have hk : minDay ≤ dayNumber is1904 n ∧ dayNumber is1904 n ≤ maxDay := by
    unfold minDay maxDay; omega
  have h := civilOfMs_day_ms (dayNumber is1904 n) (r := 0) (by decide)
  rw [if_pos hk, Int.natCast_zero, Int.add_zero] at h
  rw [datetimeOfSerial, asDatetimeOfMs_eq, msOfWholeDay, h]
  rfl

/-- [ms] a later millisecond count never gives an earlier date-time -/
theorem monotone_ms {a b : Int} (h : a ≤ b) {x y : DateTime}
    (hx : civilOfMs a = some x) (hy : civilOfMs b = some y) : x.le y := by
  obtain ⟨dx, _, tx, _⟩ := date_time_components a x hx
  obtain ⟨dy, _, ty, _⟩ := date_time_components b y hy
  unfold DateTime.le
  by_cases hd : a / 86400000 = b / 86400000
  · right
    refine ⟨by rw [dx, dy, hd], ?_⟩
    rw [tx, ty]
    exact Int.toNat_le_toNat (by omega)
  · left
    rw [dx, dy]
    exact civilOfDays_lt (by omega)

/-- [serial] whole-day serials: a larger serial never gives an earlier date (non-strict: in the 1900
    system serials 59 and 60 share 1900-02-28) -/
theorem monotone_whole_days (is1904 : Bool) {n m : Int} (h : n ≤ m) :
    (dateOfSerial is1904 n).le (dateOfSerial is1904 m) :=
  civilOfDays_le (dayNumber_mono is1904 h)

theorem shim_collision : dateOfSerial false 59 = dateOfSerial false 60 := by decide

/-- [serial] fractional serials of one date system, compared by (whole day, rounded
    millisecond-of-day): a larger serial never converts to an earlier date-time — except from the
    day before the fictitious 1900-02-29 into it (day numbers 59 → 60 of the 1900 numbering,
    i.e. serials −1403 → −1402 of the 1904 system) -/
theorem monotone_serials (is1904 : Bool) (d1 d2 : Int) (a1 b1 c1 a2 b2 c2 : Nat) (k1 k2 : Kind)
    (hr1 : (if is1904 then b1 else a1) ≤ 86400000)
    (hle : d1 < d2 ∨ (d1 = d2 ∧ (if is1904 then b1 else a1) ≤ (if is1904 then b2 else a2)))
    (hfict : ¬ ((if is1904 then d1 + 1462 else d1) = 59 ∧ (if is1904 then d2 + 1462 else d2) = 60))
    {x y : DateTime}
    (hx : (Cell.dateTime (.frac d1 a1 b1 c1) is1904 k1).asDatetime = some x)
    (hy : (Cell.dateTime (.frac d2 a2 b2 c2) is1904 k2).asDatetime = some y) : x.le y := by
  simp only [Cell.asDatetime, edtAsDatetime, dateStep] at hx hy
  refine monotone_ms ?_ (asDatetimeOfMs_eq _ ▸ hx) (asDatetimeOfMs_eq _ ▸ hy)
  generalize (if is1904 = true then b1 else a1) = r1 at *
  generalize (if is1904 = true then b2 else a2) = r2 at *
  rcases hle with hlt | ⟨rfl, hr⟩
  · have := dayNumber_lt is1904 hlt hfict
    omega
  · omega

/-- [serial] **Known finding C11-a, proved of the model:** the conversion is NOT monotone across
    serial 60.  The day [60,61) is the fictitious 1900-02-29; the shim maps it onto the same
    calendar day as [59,60), so serial 59.5 (1900-02-28 12:00) converts to a later instant than
    serial 60 (1900-02-28 00:00). -/
theorem fictitious_day_not_monotone :
    edtAsDatetime (.frac 59 43200000 43200000 43200000) false =
      some { date := { y := 1900, m := 2, d := 28 }, time := { h := 12, mi := 0, s := 0, ms := 0 } } ∧
    edtAsDatetime (.whole 60) false =
      some { date := { y := 1900, m := 2, d := 28 }, time := { h := 0, mi := 0, s := 0, ms := 0 } } := by
  decide

/-- [serial] a whole-day serial cell of the supported range converts to midnight of the date its
    own system assigns to it -/
theorem cell_whole_day (is1904 : Bool) (n : Int) (h0 : 0 ≤ n) (h1 : n ≤ 2958465) (k : Kind) :
    (Cell.dateTime (.whole n) is1904 k).asDatetime =
      some { date := dateOfSerial is1904 n, time := { h := 0, mi := 0, s := 0, ms := 0 } } :=
  whole_day_datetime is1904 n h0 h1

/-- [serial] a fractional serial cell: the date is the date of its whole day in its own system and
    the time of day is the rounded millisecond-of-day `r` of the fraction (the one number taken
    from the float step); `r = 86 400 000` is midnight of the next calendar day -/
theorem cell_fractional (is1904 : Bool) (day : Int) (h0 : 0 ≤ day) (h1 : day ≤ 2958465)
    (r0 r4 rd : Nat) (k : Kind) (hr : (if is1904 then r4 else r0) ≤ 86400000) :
    ∃ dt, (Cell.dateTime (.frac day r0 r4 rd) is1904 k).asDatetime = some dt ∧ dt.time.Valid ∧
      ((if is1904 then r4 else r0) < 86400000 →
        dt.date = dateOfSerial is1904 day ∧ dt.time.toMs = (if is1904 then r4 else r0)) ∧
      ((if is1904 then r4 else r0) = 86400000 →
        dt.date = nextDay (dateOfSerial is1904 day) ∧ dt.time.toMs = 0) := by
  obtain ⟨a, b, _, _⟩ := whole_days_exact is1904 day h0 h1
  simp only [Cell.asDatetime, edtAsDatetime, dateStep, dateOfSerial]
  generalize dayNumber is1904 day = q at *
  generalize (if is1904 = true then r4 else r0) = r at *
  rw [asDatetimeOfMs_eq]
  rcases Nat.lt_or_eq_of_le hr with hlt | heq
  · rw [civilOfMs_day_ms q hlt, if_pos (by unfold minDay maxDay; omega)]
    exact ⟨_, rfl, timeOfSecs_valid hlt, fun _ => ⟨rfl, toMs_timeOfSecs r⟩,
      fun h => absurd h (Nat.ne_of_lt hlt)⟩
  · have e : q * 86400000 + (r : Int) = (q + 1) * 86400000 + ((0 : Nat) : Int) := by omega
    rw [e, civilOfMs_day_ms (q + 1) (r := 0) (by decide), if_pos (by unfold minDay maxDay; omega)]
    exact ⟨_, rfl, timeOfSecs_valid (r := 0) (by decide), fun h => absurd heq (Nat.ne_of_lt h),
      fun _ => ⟨civilOfDays_succ q, toMs_timeOfSecs 0⟩⟩

/-- [serial] **as_date / as_time are the components of as_datetime** for every cell, ISO cells
    included (where the code falls back to the date-only / time-only parsers only when the
    date-time parser fails) -/
theorem cell_date_time_components (c : Cell) (dt : DateTime) (h : c.asDatetime = some dt) :
    c.asDate = some dt.date ∧ c.asTime = some dt.time := by
  cases c <;> simp_all [Cell.asDate, Cell.asTime, Cell.asDatetime]

/-- [serial] **plain Int/Float cells convert like 1900-system date-times** — and NOT like
    1904-system ones: on every whole-day serial of the supported range the 1904 reading is a
    different date.  Plain numbers have no duration. -/
theorem plain_number_is_1900 :
    (∀ n k, (Cell.int n).asDatetime = (Cell.dateTime (.whole n) false k).asDatetime) ∧
    (∀ s k, (Cell.float s).asDatetime = (Cell.dateTime s false k).asDatetime) ∧
    (∀ n : Int, 0 ≤ n → n ≤ 2958465 → ∀ k,
        (Cell.int n).asDatetime ≠ (Cell.dateTime (.whole n) true k).asDatetime) ∧
    (∀ n, (Cell.int n).asDuration = none) ∧ (∀ s, (Cell.float s).asDuration = none) := by
  refine ⟨fun _ _ => rfl, fun _ _ => rfl, ?_, fun _ => rfl, fun _ => rfl⟩
  intro n h0 h1 k heq
  have e1 : (Cell.int n).asDatetime = _ := whole_day_datetime false n h0 h1
  have e2 := cell_whole_day true n h0 h1 k
  rw [e1, e2] at heq
  injection heq with heq
  injection heq with hdate _
  exact absurd (civilOfDays_injective hdate)
    (Int.ne_of_lt (dayNumber1900_lt (m := n + 1462) (by omega) (by omega)))

/-- [serial] "a duration is the serial times 24 h": whatever the date system and the type flag,
    with no offset and no shim — whole days exactly, fractional serials up to the rounded
    millisecond-of-day `rd`. The bound −10^8 is the domain of `Serial.whole` / `.frac` (Model/Dates.lean); the proof
    needs only that the millisecond count is not below `minDeltaMs` (−i64::MAX). -/
theorem duration_is_serial_times_24h (is1904 : Bool) (k : Kind) :
    (∀ n : Int, -100000000 ≤ n →
        (Cell.dateTime (.whole n) is1904 k).asDuration = some (n * 86400000)) ∧
    (∀ (day : Int) (r0 r4 rd : Nat), -100000000 ≤ day →
        (Cell.dateTime (.frac day r0 r4 rd) is1904 k).asDuration = some (day * 86400000 + rd)) :=
  ⟨fun n hn => tryMilliseconds_of_ge (v := n * 86400000) (by unfold minDeltaMs; omega),
    fun day _ _ rd hn => tryMilliseconds_of_ge (v := day * 86400000 + rd) (by unfold minDeltaMs; omega)⟩

/-! ## the serde helpers `deserialize_as_*` (known findings C11-b/c/d as theorems) -/

/-- [serial] **C11-b:** for plain numbers and 1900-system date-time cells the helpers see what the
    direct conversion sees; a 1904-system cell is converted as if it were a 1900-system one — a
    different date on every whole-day serial of the supported range, e.g. serial 0:
    1899-12-31 instead of 1904-01-01 -/
theorem helper_drops_1904 :
    (∀ s k, (Cell.dateTime s false k).viaSerde.asDatetime = (Cell.dateTime s false k).asDatetime) ∧
    (∀ n : Int, 0 ≤ n → n ≤ 2958465 → ∀ k,
        (Cell.dateTime (.whole n) true k).viaSerde.asDatetime ≠ (Cell.dateTime (.whole n) true k).asDatetime) ∧
    (Cell.dateTime (.whole 0) true .dateTime).asDatetime =
      some { date := { y := 1904, m := 1, d := 1 }, time := { h := 0, mi := 0, s := 0, ms := 0 } } ∧
    (Cell.dateTime (.whole 0) true .dateTime).viaSerde.asDatetime =
      some { date := { y := 1899, m := 12, d := 31 }, time := { h := 0, mi := 0, s := 0, ms := 0 } } := by
  refine ⟨fun _ _ => rfl, ?_, by decide, by decide⟩
  intro n h0 h1 k
  exact plain_number_is_1900.2.2.1 n h0 h1 k

/-- [serial] **C11-c:** through the helpers no cell ever yields a duration, although date-time
    cells have one (serial 0.5 of type TimeDelta: 12 h) -/
theorem helper_never_duration :
    (∀ c : Cell, c.viaSerde.asDuration = none) ∧
    (Cell.dateTime (.frac 0 43200000 43200000 43200000) false .timeDelta).asDuration = some 43200000 := by
  refine ⟨?_, by decide⟩
  intro c; cases c <;> rfl

/-- [serial] **C11-d:** through the helpers ISO cells convert to nothing, although the cell itself
    converts whenever chrono parses its text -/
theorem helper_iso_none :
    (∀ pdt pd pt, (Cell.dateTimeIso pdt pd pt).viaSerde.asDatetime = none ∧
        (Cell.dateTimeIso pdt pd pt).viaSerde.asDate = none ∧
        (Cell.dateTimeIso pdt pd pt).viaSerde.asTime = none) ∧
    (∀ pt, (Cell.durationIso pt).viaSerde.asTime = none ∧ (Cell.durationIso pt).viaSerde.asDuration = none) ∧
    (∀ dt pd pt, (Cell.dateTimeIso (some dt) pd pt).asDatetime = some dt) ∧
    (∀ t, (Cell.durationIso (some t)).asDuration = some (t.toMs : Int)) :=
  ⟨fun _ _ _ => ⟨rfl, rfl, rfl⟩, fun _ => ⟨rfl, rfl⟩, fun _ _ _ => rfl, fun _ => rfl⟩

/-- [ms] a duration is the millisecond count itself; the only integer refused is `i64::MIN`,
    which chrono's `TimeDelta` cannot hold; a non-finite product gives `None` -/
theorem duration_is_ms (v : Int) :
    durationOfMs (.ms v) = (if v < -9223372036854775807 then none else some v) ∧
    durationOfMs .nonFinite = none :=
  ⟨rfl, rfl⟩

/-- [ms] `as_datetime` is `None` exactly when the float step was non-finite or the millisecond count
    lies outside chrono's span −262143-01-01T00:00 ..= +262142-12-31T23:59:59.999; otherwise it is
    the (right, see `date_time_components`) date-time.  Never a panic, never the epoch by
    default (fix D26). The two bounds are `minDay` · 86 400 000 and (`maxDay` + 1) · 86 400 000. -/
theorem out_of_span_none :
    asDatetimeOfMs .nonFinite = none ∧
    (∀ v : Int, asDatetimeOfMs (.ms v) = none ↔
        (v < -8332392067200000 ∨ 8212476038400000 ≤ v)) := by
  refine ⟨rfl, fun v => ?_⟩
  rw [asDatetimeOfMs_eq, civilOfMs_eq]
  unfold minDay maxDay
  split <;> simp only [reduceCtorEq, false_iff, true_iff] <;> omega

/-- 2021-10-15T19:00:00 (serial 44484.791666…, the repository's own regression value) -/
example : asDatetimeOfMs (.ms 3843486000000) =
    some { date := { y := 2021, m := 10, d := 15 }, time := { h := 19, mi := 0, s := 0, ms := 0 } } := by
  decide

/-- a negative count: one millisecond before the epoch -/
example : civilOfMs (-1) =
    some { date := { y := 1899, m := 12, d := 29 }, time := { h := 23, mi := 59, s := 59, ms := 999 } } := by
  decide

/-- leap days exist where they should: 2000-02-29 and 1904-02-29, and not in 1900 -/
example : civilOfDays 36585 = { y := 2000, m := 2, d := 29 } ∧
    dateOfSerial true 59 = { y := 1904, m := 2, d := 29 } ∧
    nextDay { y := 1900, m := 2, d := 28 } = { y := 1900, m := 3, d := 1 } := by decide

/-- the hypotheses of `monotone_ms` and `date_time_components` are met across a day boundary -/
example : ∃ x y, civilOfMs 86399999 = some x ∧ civilOfMs 86400000 = some y ∧ x.le y ∧ x ≠ y :=
  ⟨_, _, rfl, rfl, by decide, by decide⟩

/-- the spec calendar itself behaves: February has 29 days in 2000 and 1904, 28 in 1900 and 1901,
    December is followed by January of the next year -/
example : addDays 29 { y := 2000, m := 2, d := 1 } = { y := 2000, m := 3, d := 1 } ∧
    addDays 28 { y := 1900, m := 2, d := 1 } = { y := 1900, m := 3, d := 1 } ∧
    addDays 29 { y := 1904, m := 2, d := 1 } = { y := 1904, m := 3, d := 1 } ∧
    addDays 28 { y := 1901, m := 2, d := 1 } = { y := 1901, m := 3, d := 1 } ∧
    addDays 31 { y := 1999, m := 12, d := 1 } = { y := 2000, m := 1, d := 1 } := by decide +kernel

/-- `serial_1900` / `serial_1904` instances: 1970-01-01 is serial 25569 resp. 24107 -/
example : dateOfSerial false 25569 = { y := 1970, m := 1, d := 1 } ∧
    dateOfSerial true 24107 = { y := 1970, m := 1, d := 1 } := by decide

/-- both edges of the span -/
example : asDatetimeOfMs (.ms (-8332392067200000)) ≠ none ∧ asDatetimeOfMs (.ms (-8332392067200001)) = none ∧
    asDatetimeOfMs (.ms 8212476038399999) ≠ none ∧ asDatetimeOfMs (.ms 8212476038400000) = none := by
  decide

end Dates
