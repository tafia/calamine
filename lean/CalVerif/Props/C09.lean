import CalVerif.Lemmas.De
import CalVerif.Model.DeData
/-! # C09 — serde deserialization maps rows to records faithfully
    The properties of `Model/De.lean` and `Model/DeData.lean`, and at the end a concrete range on which the
    hypotheses hold. `WF r`: `r` satisfies the rectangle invariant of C05 and its coordinates are `u32` values.
    Every theorem holds for every `std : Std` (the unmodelled `f64::to_string` / `parse::<f64|f32>`). -/
namespace De
open Range (Rng)

/-! ## one item per row after the header row, in order; `size_hint` exact -/

/-- The results of the first `k` calls to `next`: the `j`-th call deserializes row `j` after the
    header row (if there is one) at its absolute position `(start.row + hdr + j, start.col)`, and
    returns `None` once the rows are used up. -/
theorem items_spec {std : Std} {cfg : Headers} {r : Rng Data} {st : DeState} (hw : WF r)
    (h : new std cfg r = .ok st) (sh : Shape) (k : Nat) :
    items sh k st = (List.range k).map fun j =>
      ((Range.rows r)[j + hdrRows cfg r]?).map fun row =>
        rowItem st.colIdx st.headers row (r.sr + hdrRows cfg r + j, r.sc) sh := by
  rw [items_eq_map]
  exact List.map_congr_left fun j _ => item_spec hw h sh j

/-- number of items = height − [header row consumed]: the `j`-th call returns an item iff `j` is below it -/
theorem items_count {std : Std} {cfg : Headers} {r : Rng Data} {st : DeState} (hw : WF r)
    (h : new std cfg r = .ok st) (sh : Shape) (k j : Nat) (hj : j < k) :
    (j < r.height - hdrRows cfg r → ∃ it, (items sh k st)[j]? = some (some it)) ∧
    (r.height - hdrRows cfg r ≤ j → (items sh k st)[j]? = some none) := by
  rw [items_eq_map, List.getElem?_map, List.getElem?_range hj, Option.map_some, item_spec hw h]
  have hlen := hw.inv.rows_length
  constructor
  · intro hlt
    rw [List.getElem?_eq_getElem (by rw [hlen]; exact Nat.add_lt_of_lt_sub hlt)]
    exact ⟨_, rfl⟩
  · intro hge
    rw [List.getElem?_eq_none (by rw [hlen]; exact Nat.sub_le_iff_le_add.mp hge)]; rfl

/-- After `k` calls to `next` the hint is `(n − k, Some(n − k))` with `n = height − [header row]`
    (truncated subtraction: it never underflows, also for empty and header-only ranges). -/
theorem size_hint_exact {std : Std} {cfg : Headers} {r : Rng Data} {st : DeState} (hw : WF r)
    (h : new std cfg r = .ok st) (sh : Shape) (k : Nat) :
    sizeHint (nextN sh k st) =
      (r.height - hdrRows cfg r - k, some (r.height - hdrRows cfg r - k)) := by
  obtain ⟨hrows, _⟩ := new_state hw.inv h
  unfold sizeHint
  rw [nextN_rows, hrows, List.length_drop, List.length_drop, hw.inv.rows_length]

/-! ## skipping: `nth` (and with it `skip`, `step_by`, which std implements through `nth`) -/

/-- `nth n` is `n` calls to `next` whose results are dropped, followed by one more `next` -/
theorem nth_eq_iterate_next (st : DeState) (sh : Shape) (n : Nat) :
    nth st sh n = next (nextN sh n st) sh := by
  induction n generalizing st with
  | zero => rfl
  | succ n ih => rw [nth, ih]; rfl

/-- After `k` calls to `next`, `nth n` yields the item of row `k + n` after the header row, at that row's own
    absolute position `(start.row + hdr + k + n, start.col)` (skipped rows move the position too), or `None`
    past the end; afterwards `k + n + 1` rows are consumed. -/
theorem nth_spec {std : Std} {cfg : Headers} {r : Rng Data} {st : DeState} (hw : WF r)
    (h : new std cfg r = .ok st) (sh : Shape) (k n : Nat) :
    (nth (nextN sh k st) sh n).1 =
      ((Range.rows r)[k + n + hdrRows cfg r]?).map (fun row =>
        rowItem st.colIdx st.headers row (r.sr + hdrRows cfg r + (k + n), r.sc) sh) ∧
    (nth (nextN sh k st) sh n).2 = nextN sh (k + n + 1) st := by
  rw [nth_eq_iterate_next, nextN_add]
  exact ⟨item_spec hw h sh (k + n), nextN_add sh 1 (k + n) st⟩

/-! ## without headers: a record is the row's cells by position -/

/-- `Headers::None`: whatever the record type asks for (`seq` or `map`: there are no headers, so a map request
    falls back to a sequence), row `j` is handed over as its `width` cells in column order, the cell at
    relative column `i` with the absolute position `(start.row + j, start.col + i)`. -/
theorem seq_by_position {std : Std} {r : Rng Data} {st : DeState} (hw : WF r)
    (h : new std .none r = .ok st) (sh : Shape) (j : Nat) (row : List Data)
    (hr : (Range.rows r)[j]? = some row) :
    rowItem st.colIdx st.headers row (r.sr + j, r.sc) sh =
      .seq r.width (row.zipIdx.map fun p => .ok (p.1, (r.sr + j, r.sc + p.2))) := by
  cases h
  have hev : seqEvents (List.range r.width) row (r.sr + j, r.sc) =
      row.zipIdx.map fun p => .ok (p.1, (r.sr + j, r.sc + p.2)) := by
    rw [← hw.inv.row_length hr, seqEvents_range]
    apply List.map_congr_left
    intro p hp
    rw [cellPos_row hw hr (List.snd_lt_of_mem_zipIdx hp)]
  cases sh <;> simp only [rowItem, hev, List.length_range]

/-! ## with headers: fields are bound by header string, empty cells are absent -/

/-- `Headers::All` on a range with a header row `hd` (`new` succeeded, so `hd` has no error cell): the
    headers are the texts of the header cells, and a record type asking for a map/struct is handed, for
    row `j` after the header row, exactly the NON-EMPTY cells in column order, each keyed by the header
    string of its column and carrying its absolute position. -/
theorem map_by_header {std : Std} {r : Rng Data} {st : DeState} (hw : WF r)
    (h : new std .all r = .ok st) (hd : List Data) (hhd : (Range.rows r)[0]? = some hd)
    (j : Nat) (row : List Data) (hr : (Range.rows r)[j + 1]? = some row) :
    st.headers = some (hd.map (textOf std)) ∧ (∀ d ∈ hd, d.isError = false) ∧
    rowItem st.colIdx st.headers row (r.sr + 1 + j, r.sc) .map =
      .map (row.zipIdx.filterMap fun p =>
        if p.1.isEmpty then none
        else some (.ok ((hd.map (textOf std)).getD p.2 [], p.1, (r.sr + 1 + j, r.sc + p.2)))) := by
  obtain ⟨rest, hrows⟩ := List.head?_eq_some_iff.mp (List.head?_eq_getElem? ▸ hhd)
  rw [new_of_cons (cfg := .all) std nofun hrows] at h
  obtain ⟨hs, hh, h⟩ := DRes.bind_eq_ok h
  cases h
  obtain ⟨rfl, hne⟩ := headerRow_eq_ok.mp hh
  refine ⟨rfl, hne, congrArg Item.map ?_⟩
  have hl : hd.length = row.length :=
    (hw.inv.row_length hhd).trans (hw.inv.row_length hr).symm
  show mapEvents _ (List.range hd.length) _ _ = _
  rw [hl, mapEvents_range _ _ _ (by rw [List.length_map, hl])]
  exact filterMap_congr_mem _ fun p hp => by rw [cellPos_row hw hr (List.snd_lt_of_mem_zipIdx hp)]

/-- Fields are bound by header name independently of column order: permuting the columns of the header
    row and of a data row in the same way (`perm` a permutation of the column indices) permutes the
    (header, cell) pairs handed to a map/struct visitor and changes nothing else — every non-empty cell
    still arrives under the header of its own column. -/
theorem map_column_order_independent (hs : List Str) (row : List Data) (hl : hs.length = row.length)
    (perm : List Nat) (hp : perm.Perm (List.range row.length)) (pos pos' : Pos) :
    ((mapEvents (perm.map fun i => hs.getD i []) (List.range (perm.map fun i => row.getD i .empty).length)
        (perm.map fun i => row.getD i .empty) pos').filterMap evKV).Perm
      ((mapEvents hs (List.range row.length) row pos).filterMap evKV) := by
  rw [mapEvents_kv _ _ _ (by simp), mapEvents_kv _ _ _ hl]
  apply List.Perm.filter
  rw [List.zip_map', zip_eq_range_map hs row hl]
  exact hp.map _

/-! ## custom headers: a requested name selects the first column whose trimmed header equals it -/

/-- `Headers::Custom(names)`: the selected column of the `k`-th requested name is the FIRST column whose
    trimmed header equals the trimmed name; columns come in the order of the request. -/
theorem custom_headers {hs names : List Str} {idx : List Nat} (hc : customIdx hs names = .ok idx) :
    idx.length = names.length ∧
    ∀ (k : Nat) (n : Str), names[k]? = some n →
      ∃ i, idx[k]? = some i ∧ ∃ hi : i < hs.length, trim hs[i] = trim n ∧
        ∀ (i' : Nat) (hi' : i' < i), trim (hs[i']'(by omega)) ≠ trim n := by
  obtain ⟨rfl, hocc⟩ := customIdx_eq_ok.mp hc
  refine ⟨List.length_map _, fun k n hk => ⟨_, ?_, findIdx?_trim_eq_some.mp (findIdx?_trim_of_mem (hocc n (List.mem_of_getElem? hk)))⟩⟩
  rw [List.getElem?_map, hk]; rfl

/-- every requested name that occurs (after trimming) among the headers is found -/
theorem custom_headers_total {hs names : List Str}
    (hall : ∀ n ∈ names, ∃ h ∈ hs, trim h = trim n) : ∃ idx, customIdx hs names = .ok idx := by
  exact ⟨_, customIdx_eq_ok.mpr ⟨rfl, hall⟩⟩

/-- `HeaderNotFound` carries the (trimmed) FIRST requested name that matches no header -/
theorem header_not_found {hs : List Str} (pre : List Str) (n : Str) (post : List Str)
    (hpre : ∀ p ∈ pre, ∃ h ∈ hs, trim h = trim p) (hn : ∀ h ∈ hs, trim h ≠ trim n) :
    customIdx hs (pre ++ n :: post) = .err (.headerNotFound (trim n)) := by
  refine mapMD_first_err n post (customIdx_eq_ok.mpr ⟨rfl, hpre⟩) ?_
  rw [findIdx?_trim_eq_none.mpr hn]

/-- Not only permutations: selecting any sub-list of the requested names in any order (with repetitions)
    selects the corresponding columns in that order: the column of a name does not depend on the other names. -/
theorem column_permutation_independent {hs names : List Str} {idx : List Nat}
    (hc : customIdx hs names = .ok idx) (sel : List Nat) (hsel : ∀ s ∈ sel, s < names.length) :
    customIdx hs (sel.map fun s => names.getD s []) = .ok (sel.map fun s => idx.getD s 0) := by
  obtain ⟨rfl, hocc⟩ := customIdx_eq_ok.mp hc
  have hget := fun s hs' => getElem?_eq_some_getD (hsel s hs') []
  refine customIdx_eq_ok.mpr ⟨?_, fun n hn => ?_⟩
  · rw [List.map_map]
    refine List.map_congr_left fun s hs' => ?_
    rw [List.getD_eq_getElem?_getD, List.getElem?_map, hget s hs']; rfl
  · obtain ⟨s, hs', rfl⟩ := List.mem_map.mp hn
    exact hocc _ (List.mem_of_getElem? (hget s hs'))

/-- the events of such a sub-selection are the corresponding events of the full selection, in the selected order
    (`hsel` keeps every `s` inside `idx`, so the `getD` default `.panic ""` is never taken) -/
theorem column_permutation_events (idx : List Nat) (row : List Data) (pos : Pos) (sel : List Nat)
    (hsel : ∀ s ∈ sel, s < idx.length) :
    seqEvents (sel.map fun s => idx.getD s 0) row pos =
      sel.map fun s => (seqEvents idx row pos).getD s (.panic "") := by
  unfold seqEvents
  rw [List.map_map]
  apply List.map_congr_left
  intro s hs
  have hi := getElem?_eq_some_getD (hsel s hs) 0
  rw [List.getD_eq_getElem?_getD (l := List.map _ idx), List.getElem?_map, hi]; rfl

/-- `new` with custom headers on a range whose header row `hd` has no error cell: the outcome is that
    of the column selection over the header texts (so `custom_headers`, `header_not_found` and
    `column_permutation_independent` describe `RangeDeserializer::new`). -/
theorem new_custom_spec (std : Std) (names : List Str) {r : Rng Data} {hd : List Data}
    {rest : List (List Data)} (hr : Range.rows r = hd :: rest) (hne : ∀ d ∈ hd, d.isError = false) :
    new std (.custom names) r =
      (match customIdx (hd.map (textOf std)) names with
       | .ok idx => .ok ⟨idx, some (hd.map (textOf std)), rest, nextRowPos (r.sr, r.sc)⟩
       | .err e => .err e
       | .panic s => .panic s) := by
  rw [new_of_cons (cfg := .custom names) std nofun hr, headerRow_eq_ok.mpr ⟨rfl, hne⟩]
  show customIdx (hd.map (textOf std)) names >>= _ = _
  cases customIdx (hd.map (textOf std)) names <;> rfl

/-! ## an error cell fails its own record, at its own position, and no other -/

/-- whatever the visitor asks an error cell for, it gets `CellError` with the cell's kind and the position
    the cell deserializer was built with (`option` / `newtype_struct` re-offer the same deserializer, the
    failure comes with the next request) -/
theorem visitCell_error (std : Std) (kind : Nat) (pos : Pos) (t : Target) :
    visitCell std (.error kind) pos t = .err (.cellError kind pos) := by
  cases t <;> rfl

theorem convert_error (std : Std) (kind : Nat) (pos : Pos) (t : Target) (h1 : t ≠ .option)
    (h2 : t ≠ .newtypeStruct) : convert std (.error kind) pos t = .err (.cellError kind pos) := by
  cases t <;> first | rfl | contradiction

/-- An `Error` cell at relative column `i` of the `j`-th row after the header row (absolute row
    `ρ = start.row + hdr + j`), selected as the `c`-th entry of a column selection `st.colIdx` (any
    selection: `_h` is not needed, so `st` need not come from `new`): the cell deserializer handed to the
    record's visitor (sequence or map access) carries the absolute position `(ρ, start.col + i)`, and every
    request on it fails with `CellError{kind, pos = (ρ, start.col + i)}`. -/
theorem error_cell_position {std : Std} {cfg : Headers} {r : Rng Data} {st : DeState} (hw : WF r)
    (_h : new std cfg r = .ok st) (j : Nat) (row : List Data)
    (hr : (Range.rows r)[j + hdrRows cfg r]? = some row) (i kind : Nat)
    (hi : row[i]? = some (.error kind)) (c : Nat) (hc : st.colIdx[c]? = some i) (t : Target) :
    (seqEvents st.colIdx row (r.sr + hdrRows cfg r + j, r.sc))[c]? =
        some (.ok (.error kind, (r.sr + hdrRows cfg r + j, r.sc + i))) ∧
    (∀ hs : List Str, i < hs.length →
        .ok (hs.getD i [], .error kind, (r.sr + hdrRows cfg r + j, r.sc + i)) ∈
          mapEvents hs st.colIdx row (r.sr + hdrRows cfg r + j, r.sc)) ∧
    visitCell std (.error kind) (r.sr + hdrRows cfg r + j, r.sc + i) t =
        .err (.cellError kind (r.sr + hdrRows cfg r + j, r.sc + i)) := by
  have hp : cellPos (r.sr + hdrRows cfg r + j, r.sc) i = (r.sr + hdrRows cfg r + j, r.sc + i) :=
    cellPos_row hw hr (List.getElem?_eq_some_iff.mp hi).1 _
  refine ⟨?_, ?_, visitCell_error _ _ _ _⟩
  · simp only [seqEvents, List.getElem?_map, hc, Option.map_some, hi, hp]
  · intro hs hlt
    refine List.mem_filterMap.mpr ⟨i, List.mem_of_getElem? hc, ?_⟩
    simp only [hi, getElem?_eq_some_getD hlt [], hp]
    rfl

/-- … so a record visitor that got through the cells before it fails with exactly that error -/
theorem record_fails_at_error (std : Std) (sched : List Target) (pre post : List (DRes (Data × Pos)))
    (kind : Nat) (pos : Pos) (hpre : (recordSeq std sched 0 pre).2 = none) :
    (recordSeq std sched 0 (pre ++ .ok (.error kind, pos) :: post)).2 = some (.err (.cellError kind pos)) := by
  rw [recordSeq_snd_append std sched pre 0 _ hpre]
  simp [recordSeq, visitCell_error]

/-- The result for row `j` depends only on row `j`, the first row (headers), the width and the start
    corner: two ranges agreeing on these give the same `j`-th item, whatever their other rows hold
    (in particular an error cell in another row does not affect it). -/
theorem rows_independent {std : Std} {cfg : Headers} {r1 r2 : Rng Data} {st1 st2 : DeState}
    (hw1 : WF r1) (hw2 : WF r2) (h1 : new std cfg r1 = .ok st1) (h2 : new std cfg r2 = .ok st2)
    (hhd : (Range.rows r1)[0]? = (Range.rows r2)[0]?) (hwd : r1.width = r2.width)
    (hst : r1.start = r2.start) (hsr : r1.sr = r2.sr) (hsc : r1.sc = r2.sc)
    (hh : hdrRows cfg r1 = hdrRows cfg r2) (j : Nat)
    (hrow : (Range.rows r1)[j + hdrRows cfg r1]? = (Range.rows r2)[j + hdrRows cfg r1]?)
    (sh : Shape) (k1 k2 : Nat) (hj1 : j < k1) (hj2 : j < k2) :
    (items sh k1 st1)[j]? = (items sh k2 st2)[j]? := by
  obtain ⟨hc, hhs⟩ := new_static_congr h1 h2 hhd hwd hst
  rw [items_spec hw1 h1, items_spec hw2 h2]
  simp only [List.getElem?_map, List.getElem?_range hj1, List.getElem?_range hj2, Option.map_some]
  rw [← hh, ← hrow, hc, hhs, hsr, hsc]

/-! ## what a cell converts to, by the type requested -/

theorem convert_empty (std : Std) (pos : Pos) :
    convert std .empty pos .option = .ok .none ∧
    convert std .empty pos .bool = .ok (.bool false) ∧
    convert std .empty pos .str = .ok (.str []) ∧
    convert std .empty pos .string = .ok (.str []) ∧
    convert std .empty pos .unit = .ok .unit ∧
    convert std .empty pos .any = .ok .unit ∧
    convert std .empty pos .bytes = .ok (.bytes []) := ⟨rfl, rfl, rfl, rfl, rfl, rfl, rfl⟩

theorem convert_option_some (std : Std) (d : Data) (pos : Pos) (h : d ≠ .empty) :
    convert std d pos .option = .ok .some := by
  cases d <;> first | rfl | contradiction

/-- numbers are not accepted for `Empty`, booleans, dates and durations -/
theorem convert_num_rejects (std : Std) (t : NumTy) (pos : Pos) (d : Data)
    (h : d = .empty ∨ (∃ b, d = .bool b) ∨ (∃ b, d = .dateTime b) ∨ (∃ s, d = .dateTimeIso s) ∨ (∃ s, d = .durationIso s)) :
    convert std d pos (.num t) = .err (.custom "num") := by
  rcases h with h | ⟨b, h⟩ | ⟨b, h⟩ | ⟨s, h⟩ | ⟨s, h⟩ <;> subst h <;> rfl

/-- boolean strings: exactly the six spellings -/
theorem convert_bool_string (std : Std) (s : Str) (pos : Pos) :
    convert std (.string s) pos .bool =
      if s = "TRUE".toList ∨ s = "true".toList ∨ s = "True".toList then .ok (.bool true)
      else if s = "FALSE".toList ∨ s = "false".toList ∨ s = "False".toList then .ok (.bool false)
      else .err (.custom "bool") := rfl

theorem convert_bool_num (std : Std) (pos : Pos) (v : Int) (b : Nat) :
    convert std (.int v) pos .bool = .ok (.bool (v != 0)) ∧
    convert std (.float b) pos .bool = .ok (.bool (b % 2 ^ 63 != 0)) := ⟨rfl, rfl⟩

/-- integer cells cast to an integer type that can hold them are unchanged -/
theorem convert_int_in_range (std : Std) (t : NumTy) (ht : t.isFloat = false) (v : Int) (pos : Pos)
    (hlo : t.lo ≤ v) (hhi : v ≤ t.hi) : convert std (.int v) pos (.num t) = .ok (.int t v) := by
  show convNum std t (.int v) pos = _
  rw [convNum_int std ht, wrapInt_of_mem t v hlo hhi]

/-- numeric strings: the decimal text of an integer (as `i64::to_string` writes it) converts back to that
    integer for every integer target type that can hold it -/
theorem convert_numeric_string (std : Std) (t : NumTy) (ht : t.isFloat = false) (v : Int) (pos : Pos)
    (hlo : t.lo ≤ v) (hhi : v ≤ t.hi) :
    convert std (.string (intToStr v)) pos (.num t) = .ok (.int t v) := by
  show convNum std t (.string (intToStr v)) pos = _
  rw [convNum_string std ht, parseInt_intToStr t.signed t.lo t.hi v hlo hhi fun h => by simp [NumTy.lo, h]]

/-- a cast to an integer type lands in that type's range (floats saturate, integers wrap). The two bounds are
    `f64ToInt_mem` and `wrapInt_mem`, which hold for every `t`; `ht` only restricts the statement. -/
theorem convert_num_in_range (t : NumTy) (ht : t.isFloat = false) (b : Nat) (v : Int) :
    (t.lo ≤ f64ToInt t b ∧ f64ToInt t b ≤ t.hi) ∧ (t.lo ≤ wrapInt t v ∧ wrapInt t v ≤ t.hi) :=
  ⟨f64ToInt_mem t b, wrapInt_mem t v⟩

/-- a cell that is not an error never produces `CellError`, and an error cell reports its own kind and
    the position its deserializer was built with -/
theorem convert_no_spurious_cell_error (std : Std) (d : Data) (pos : Pos) (t : Target) (kind : Nat) (p : Pos)
    (h : convert std d pos t = .err (.cellError kind p)) : d = .error kind ∧ p = pos :=
  convert_own std d pos t kind p h

/-- some points of the numeric tables (casts, parsing), evaluated by the kernel -/
theorem convert_points :
    f64ToInt .i8 0xC05F400000000000 = -125 ∧           -- -125.0 as i8
    f64ToInt .i8 0xC060200000000000 = -128 ∧           -- -129.0 as i8 saturates
    f64ToInt .u8 0x406FFCCCCCCCCCCD = 255 ∧            -- 255.9 as u8 truncates
    f64ToInt .u8 0xBFF0000000000000 = 0 ∧              -- -1.0 as u8 saturates
    f64ToInt .i64 0x7FF8000000000000 = 0 ∧             -- NaN as i64
    f64ToInt .i64 0x7FF0000000000000 = 9223372036854775807 ∧ -- +inf as i64
    wrapInt .u8 (-1) = 255 ∧ wrapInt .i8 128 = -128 ∧ wrapInt .u32 4294967296 = 0 ∧
    intToF64 9007199254740993 = 0x4340000000000000 ∧   -- 2^53+1 rounds to even
    intToF32 16777217 = 0x4B800000 ∧
    f64ToF32 0x3FF0000000000001 = 0x3F800000 ∧
    f64ToF32 0x47EFFFFFF0000000 = 0x7F800000 ∧         -- f32::MAX + half ulp rounds to +inf
    f64ToF32 0x36A0000000000000 = 0x00000001 ∧         -- smallest f32 subnormal
    parseInt true (-128) 127 "-128".toList = some (-128) ∧ parseInt true (-128) 127 "128".toList = none ∧
    parseInt false 0 255 "+7".toList = some 7 ∧ parseInt false 0 255 "-0".toList = none ∧
    parseInt true (-128) 127 "+".toList = none ∧ parseInt true (-128) 127 "".toList = none ∧
    parseInt true (-128) 127 " 1".toList = none ∧ parseInt false 0 255 "007".toList = some 7 := by
  decide

/-! ## `Data` as a deserialization target: `impl Deserialize for Data` -/

/-- "`Data` round-trips through serde except …", as a table: deserializing a cell INTO `Data` through its cell
    deserializer gives the cell back for `Int`, `Float`, `String`, `Bool`, `Empty`; a `DateTime` comes back as
    the `Float` of its serial value, `DateTimeIso` / `DurationIso` as `String`; an `Error` cell is
    `Err(CellError{kind, pos})`. -/
theorem data_roundtrip_table (pos : Pos) :
    (∀ v, dataOfCell (.int v) pos = .ok (.int v)) ∧
    (∀ b, dataOfCell (.float b) pos = .ok (.float b)) ∧
    (∀ s, dataOfCell (.string s) pos = .ok (.string s)) ∧
    (∀ b, dataOfCell (.bool b) pos = .ok (.bool b)) ∧
    dataOfCell .empty pos = .ok .empty ∧
    (∀ b, dataOfCell (.dateTime b) pos = .ok (.float b)) ∧
    (∀ s, dataOfCell (.dateTimeIso s) pos = .ok (.string s)) ∧
    (∀ s, dataOfCell (.durationIso s) pos = .ok (.string s)) ∧
    (∀ k, dataOfCell (.error k) pos = .err (.cellError k pos)) :=
  ⟨fun _ => rfl, fun _ => rfl, fun _ => rfl, fun _ => rfl, rfl, fun _ => rfl, fun _ => rfl, fun _ => rfl,
   fun _ => rfl⟩

theorem data_roundtrip (d : Data) (pos : Pos) :
    dataOfCell d pos = (match d with
      | .error k => .err (.cellError k pos)
      | d => .ok (serdeImage d)) := by
  cases d <;> rfl

/-- the round trip is the identity exactly on `Int`, `Float`, `String`, `Bool`, `Empty` -/
theorem data_roundtrip_identity_iff (d : Data) (pos : Pos) :
    dataOfCell d pos = .ok d ↔
      (match d with
       | .dateTime _ | .dateTimeIso _ | .durationIso _ | .error _ => False
       | _ => True) := by
  cases d with
  | dateTime _ | dateTimeIso _ | durationIso _ | error _ => exact ⟨fun h => (nomatch h), False.elim⟩
  | _ => exact ⟨fun _ => trivial, fun _ => rfl⟩

theorem opt_data_table (d : Data) (pos : Pos) :
    optDataOfCell d pos = (match d with
      | .empty => .ok none
      | .error k => .err (.cellError k pos)
      | d => .ok (some (serdeImage d))) := by
  cases d <;> rfl

/-- the visitor itself: which variant each `visit_*` builds. Unsigned values above `i64::MAX` wrap
    (`value as i64`); `visit_bytes`, `visit_newtype_struct`, `visit_enum` are not implemented. -/
theorem dataVisitor_table :
    (∀ b, dataVisitor (.bool b) = .data (.bool b)) ∧
    (∀ t v, t.signed = true → dataVisitor (.int t v) = .data (.int v)) ∧
    (∀ t v, t.signed = false → 0 ≤ v → v ≤ 9223372036854775807 → dataVisitor (.int t v) = .data (.int v)) ∧
    dataVisitor (.int .u64 18446744073709551615) = .data (.int (-1)) ∧
    dataVisitor (.int .u64 9223372036854775808) = .data (.int (-9223372036854775808)) ∧
    (∀ b, dataVisitor (.f64 b) = .data (.float b)) ∧
    dataVisitor (.f32 0x3FC00000) = .data (.float 0x3FF8000000000000) ∧     -- 1.5f32
    dataVisitor (.f32 0x00000001) = .data (.float 0x36A0000000000000) ∧     -- smallest f32 subnormal
    dataVisitor (.f32 0xFF800000) = .data (.float 0xFFF0000000000000) ∧     -- -inf
    (∀ s, dataVisitor (.str s) = .data (.string s)) ∧
    (∀ c, dataVisitor (.char c) = .data (.string [c])) ∧
    dataVisitor .unit = .data .empty ∧ dataVisitor .none = .data .empty ∧ dataVisitor .some = .again ∧
    (∀ s, dataVisitor (.bytes s) = .invalidType) ∧ dataVisitor .newtype = .invalidType ∧
    (∀ s, dataVisitor (.enum s) = .invalidType) := by
  refine ⟨fun _ => rfl, ?_, ?_, by decide, by decide, fun _ => rfl, by decide, by decide, by decide,
    fun _ => rfl, fun _ => rfl, rfl, rfl, rfl, fun _ => rfl, rfl, fun _ => rfl⟩
  · intro t v h; rw [dataVisitor, if_pos h]
  · intro t v h h0 h1
    simp only [dataVisitor, h]
    rw [if_neg Bool.false_ne_true, wrapInt_of_mem .i64 v (Int.le_trans (by decide) h0) h1]

/-- `deserialize_as_i64_or_none` / `deserialize_as_f64_or_none` on a cell that is not an error never fail: they
    return the `as_i64` / `as_f64` accessor (`DataConv.viewData`) of the cell's serde image — so a `DateTime`
    cell is read like the `Float` of its serial value and the ISO cells like `String`s; an error cell is
    `CellError` at its position. -/
theorem as_or_none_spec (σ : DataConv.Std) (d : Data) (pos : Pos) :
    (d.isError = false →
      asI64OrNone σ d pos = .ok (DataConv.viewData σ (toConv (serdeImage d))).asI64 ∧
      asF64OrNone σ d pos = .ok (DataConv.viewData σ (toConv (serdeImage d))).asF64) ∧
    (∀ k, d = .error k →
      asI64OrNone σ d pos = .err (.cellError k pos) ∧ asF64OrNone σ d pos = .err (.cellError k pos)) := by
  constructor
  · intro h; cases d <;> first | exact ⟨rfl, rfl⟩ | cases h
  · intro k h; subst h; exact ⟨rfl, rfl⟩

theorem as_i64_or_none_table (σ : DataConv.Std) (pos : Pos) :
    (∀ v, asI64OrNone σ (.int v) pos = .ok (some v)) ∧
    (∀ b, asI64OrNone σ (.float b) pos = .ok (some (σ.floatAsI64 b))) ∧
    (∀ b, asI64OrNone σ (.bool b) pos = .ok (some (if b then 1 else 0))) ∧
    (∀ s, asI64OrNone σ (.string s) pos = .ok (σ.atoiI64 s)) ∧
    asI64OrNone σ .empty pos = .ok none ∧
    (∀ b, asI64OrNone σ (.dateTime b) pos = .ok (some (σ.floatAsI64 b))) ∧
    (∀ s, asI64OrNone σ (.dateTimeIso s) pos = .ok (σ.atoiI64 s)) ∧
    (∀ s, asI64OrNone σ (.durationIso s) pos = .ok (σ.atoiI64 s)) :=
  ⟨fun _ => rfl, fun _ => rfl, fun _ => rfl, fun _ => rfl, rfl, fun _ => rfl, fun _ => rfl, fun _ => rfl⟩

/-- `…_or_string`: the accessor's value, or else the `Display` text of the serde image (`""` for `Empty`,
    `true`/`false`, the ISO text) -/
theorem as_or_string_spec (σ : DataConv.Std) (d : Data) (pos : Pos) (h : d.isError = false) :
    asI64OrString σ d pos = .ok (match (DataConv.viewData σ (toConv (serdeImage d))).asI64 with
      | some v => .ok v
      | none => .error (displayData σ (serdeImage d))) ∧
    asF64OrString σ d pos = .ok (match (DataConv.viewData σ (toConv (serdeImage d))).asF64 with
      | some v => .ok v
      | none => .error (displayData σ (serdeImage d))) := by
  cases d <;> first | exact ⟨rfl, rfl⟩ | cases h

/-- `_or_none` is `_or_string` with the text dropped -/
theorem as_or_none_of_or_string (σ : DataConv.Std) (d : Data) (pos : Pos) :
    asI64OrNone σ d pos = (asI64OrString σ d pos).map (fun r => match r with | .ok v => some v | .error _ => none) ∧
    asF64OrNone σ d pos = (asF64OrString σ d pos).map (fun r => match r with | .ok v => some v | .error _ => none) := by
  unfold asI64OrNone asI64OrString asF64OrNone asF64OrString
  cases hd : dataOfCell d pos with
  | ok x =>
    simp only [DRes.map]
    constructor
    · cases (DataConv.viewData σ (toConv x)).asI64 <;> rfl
    · cases (DataConv.viewData σ (toConv x)).asF64 <;> rfl
  | err e => exact ⟨rfl, rfl⟩
  | panic s => exact ⟨rfl, rfl⟩

/-- `with_deserialize_headers::<T>()` for a struct `T` with fields `fs` IS `with_headers(fs)` -/
theorem with_deserialize_headers_eq (std : Std) (fs : List Str) (r : Rng Data) :
    withDeserializeHeaders (some fs) = .custom fs ∧
    new std (withDeserializeHeaders (some fs)) r = new std (.custom fs) r := ⟨rfl, rfl⟩

/-- for a `T` that is not a struct (tuple, sequence, map) no header is requested: no column is selected and
    every record is handed an empty sequence / map -/
theorem with_deserialize_headers_non_struct {std : Std} {r : Rng Data} {st : DeState}
    (h : new std (withDeserializeHeaders none) r = .ok st) :
    st.colIdx = [] ∧ ∀ row pos sh, rowItem st.colIdx st.headers row pos sh = .seq 0 [] ∨
      rowItem st.colIdx st.headers row pos sh = .map [] := by
  have hc : st.colIdx = [] := by
    change new std (.custom []) r = .ok st at h
    cases hr : Range.rows r with
    | nil => rw [new_of_nil (cfg := .custom []) std nofun hr] at h; cases h; rfl
    | cons hd rest =>
      rw [new_of_cons (cfg := .custom []) std nofun hr] at h
      obtain ⟨hs, _, h⟩ := DRes.bind_eq_ok h
      cases h; rfl
  refine ⟨hc, ?_⟩
  intro row pos sh
  rw [hc]
  cases sh with
  | seq => left; rfl
  | map => cases st.headers with
    | none => left; rfl
    | some hs => right; rfl

/-! ## the builder: the last configuration call wins -/

/-- Whatever constructor a builder came from and whatever `has_headers` calls came before, the LAST
    `has_headers(yes)` alone decides: `Headers::All` for `true`, `Headers::None` for `false`; without any such
    call the constructor's configuration stands. -/
theorem builder_last_call_wins (start : Headers) (calls : List Bool) :
    builderCalls start calls = (match calls.getLast? with
      | some true => .all
      | some false => .none
      | none => start) := by
  induction calls generalizing start with
  | nil => rfl
  | cons c cs ih =>
    have h : builderCalls start (c :: cs) = builderCalls (hasHeaders start c) cs := rfl
    rw [h, ih]
    cases cs with
    | nil => cases c <;> rfl
    | cons d ds =>
      rw [List.getLast?_cons_cons]
      have : (d :: ds).getLast? = some ((d :: ds).getLast (by simp)) := List.getLast?_eq_some_getLast (by simp)
      rw [this]
      cases (d :: ds).getLast (by simp) <;> rfl

/-- in particular `has_headers(false)` followed by `has_headers(true)` is a plain header-reading builder again -/
theorem builder_reenable (start : Headers) :
    builderCalls start [false, true] = builderNew ∧ builderCalls start [true, false] = .none := ⟨rfl, rfl⟩

/-! ## the hypotheses are satisfiable: a concrete range away from the origin -/

/-- a `Std` for the examples (no float is formatted or parsed in them) -/
def exStd : Std := ⟨fun _ => [], fun _ => none, fun _ => none⟩

/-- rows 5–7 × columns 3–4: header row `" id"`, `"b "`, then `(1, _)`, `(#NULL!, 1.5)` -/
def exRange : Rng Data :=
  ⟨5, 3, 7, 4, [.string " id".toList, .string "b ".toList, .int 1, .empty, .error 3, .float 0x3FF8000000000000]⟩

theorem exRange_wf : WF exRange :=
  ⟨⟨by decide, fun _ => by decide⟩, by decide, by decide⟩

/-- headers selected in the opposite order, padded differently: columns 1 then 0 -/
example : ∃ st, new exStd (.custom ["b".toList, "id ".toList]) exRange = .ok st ∧ st.colIdx = [1, 0] ∧
    items .seq 3 st =
      [some (.seq 2 [.ok (.empty, (6, 4)), .ok (.int 1, (6, 3))]),
       some (.seq 2 [.ok (.float 0x3FF8000000000000, (7, 4)), .ok (.error 3, (7, 3))]),
       none] ∧
    sizeHint st = (2, some 2) ∧ sizeHint (nextN .seq 1 st) = (1, some 1) ∧
    sizeHint (nextN .seq 3 st) = (0, some 0) :=
  ⟨_, rfl, by decide, by decide, by decide, by decide, by decide⟩

/-- by header name: the empty cell is skipped, the error cell fails its record at its own position (7,3) -/
example : ∃ st, new exStd .all exRange = .ok st ∧
    items .map 2 st =
      [some (.map [.ok (" id".toList, .int 1, (6, 3))]),
       some (.map [.ok (" id".toList, .error 3, (7, 3)), .ok ("b ".toList, .float 0x3FF8000000000000, (7, 4))])] ∧
    (recordMap exStd [.any] 0 [.ok (" id".toList, .error 3, (7, 3))]).2 = some (.err (.cellError 3 (7, 3))) :=
  ⟨_, rfl, by decide, by decide⟩

example : new exStd (.custom ["b".toList, "zz ".toList, "yy".toList]) exRange = .err (.headerNotFound "zz".toList) := by
  decide

end De
