import CalVerif.Model.Reader
import CalVerif.Model.Auto
import CalVerif.Model.DataConv
/-! # C07 — read calls are pure and the alternative access paths agree

    Three parts. `Reader`: theorems about the reader state machine of `Model/Reader.lean`. What they carry: the
    *design* (which fields exist and which method writes them) makes every result a function of the file, the
    call's arguments, the header-row option in force and whether `load_merged_regions`/`load_tables`
    were called. That the real methods touch nothing else (zip cursor, buffers) is what the
    correspondence run of this check tests against freshly opened readers — see claims/C07.json.
    `Auto`: which reader format auto-detection picks (`Model/Auto.lean`). `DataConv`: the owned read is the borrowed
    read converted cell by cell (`Model/DataConv.lean`). -/
namespace Reader

theorem hdrAfter_append (h : Hdr) (a b : List Op) : hdrAfter h (a ++ b) = hdrAfter (hdrAfter h a) b := by
  induction a generalizing h with
  | nil => rfl
  | cons op rest ih => cases op <;> simp [hdrAfter, ih]

theorem stateAfter_append (F : FileSem) (s : State) (a b : List Op) :
    stateAfter F s (a ++ b) = stateAfter F (stateAfter F s a) b := by
  simp only [stateAfter, hdrAfter_append, List.any_append, State.mk.injEq, true_and]
  constructor
  · cases F.loadMergedErr.isNone <;> simp [Bool.or_assoc]
  · cases F.loadTablesErr.isNone <;> simp [Bool.or_assoc]

theorem step_state (F : FileSem) (s : State) (op : Op) : (step F s op).1 = stateAfter F s [op] := by
  cases op <;> simp [step, stateAfter, hdrAfter, isLoadMerged, isLoadTables]
  · cases F.loadMergedErr <;> simp
  · cases F.loadTablesErr <;> simp

/-- reads never change the state: the state after a history is determined by its setter calls -/
theorem run_state (F : FileSem) (s : State) (ops : List Op) : (run F s ops).1 = stateAfter F s ops := by
  induction ops generalizing s with
  | nil => simp [run, stateAfter, hdrAfter]
  | cons op rest ih =>
    simp only [run]
    rw [ih, step_state, ← stateAfter_append]; rfl

theorem run_length (F : FileSem) (s : State) (ops : List Op) : (run F s ops).2.length = ops.length := by
  induction ops generalizing s with
  | nil => rfl
  | cons op rest ih => simp [run, ih]

/-- the i-th result of any history is the result a fresh reader gives for that call once
    brought to the option / loaded flags determined by the setter calls before it — a function only of
    the file, the call's arguments, and the option in force. Nothing any earlier *read* did matters. -/
theorem read_pure (F : FileSem) (s : State) (ops : List Op) (i : Nat) (op : Op) (h : ops[i]? = some op) :
    (run F s ops).2[i]? = some (pureResult F (stateAfter F s (ops.take i)) op) := by
  induction ops generalizing s i with
  | nil => simp at h
  | cons o rest ih =>
    cases i with
    | zero =>
      simp at h; subst h
      simp [run, pureResult, stateAfter, hdrAfter]
    | succ j =>
      simp only [List.getElem?_cons_succ] at h
      simp only [run, List.getElem?_cons_succ, List.take_succ_cons]
      rw [ih _ j h, step_state, ← stateAfter_append]; rfl

theorem reread_same (F : FileSem) (s : State) (ops : List Op) (i j : Nat) (op : Op)
    (hi : ops[i]? = some op) (hj : ops[j]? = some op)
    (hsame : stateAfter F s (ops.take i) = stateAfter F s (ops.take j)) :
    (run F s ops).2[i]? = (run F s ops).2[j]? := by
  rw [read_pure F s ops i op hi, read_pure F s ops j op hj, hsame]

/-- the option in force is the last one set; earlier settings leave no trace -/
theorem hdr_last_wins (h h' : Hdr) (ops : List Op) : hdrAfter h (ops ++ [.withHeaderRow h']) = h' := by
  rw [hdrAfter_append]; rfl

/-- the option can be changed back: after `h₁ … h₀` a read sees `h₀` again -/
theorem hdr_change_back (F : FileSem) (s : State) (h1 : Hdr) (name : String) :
    (run F s [.withHeaderRow h1, .withHeaderRow s.hdr, .range name]).2[2]? = some (rangeOut F s.hdr name) := by
  simp [run, step]

/-- `worksheet_range` is `worksheet_range_ref` converted cell by cell -/
theorem range_ref_owned_agree (F : FileSem) (s : State) (name : String) :
    (step F s (.range name)).2 = F.toOwned (step F s (.rangeRef name)).2 := rfl

/-- `worksheet_range_at(n)` is `worksheet_range` of the n-th sheet name; beyond the list it is `None` -/
theorem range_at_agree (F : FileSem) (s : State) (n : Nat) :
    (step F s (.rangeAt n)).2 = match F.sheets[n]? with
      | some name => (step F s (.range name)).2
      | none => unknownSheet := by
  simp only [step]; cases F.sheets[n]? <;> rfl

/-- under the default option (for the lazy readers: under any option), the entries of `worksheets()` are the
    per-name `worksheet_range` results, in the reader's sheet order — for the sheets whose read succeeds; a sheet
    whose read is an error has no entry -/
theorem worksheets_agree (F : FileSem) (s : State) (h : s.hdr = .firstNonEmpty ∨ F.eager = false) :
    (step F s .worksheets).2 = "&".intercalate (F.sheets.filterMap fun n =>
      if F.failed (step F s (.range n)).2 then none else some (n ++ "=" ++ (step F s (.range n)).2)) := by
  simp only [step, worksheetsOut]
  rcases h with h | h
  · simp only [h, ite_self]
  · simp only [h, Bool.false_eq_true, if_false]
    rfl

def isRead : Op → Bool
  | .withHeaderRow _ | .loadMerged | .loadTables => false
  | _ => true

theorem read_keeps_state (F : FileSem) (s : State) (op : Op) (h : isRead op = true) : (step F s op).1 = s := by
  cases op <;> simp_all [isRead, step]

/-- reads commute: swapping two adjacent non-setter calls swaps their results and changes nothing else -/
theorem reads_commute (F : FileSem) (s : State) (a b : Op) (ha : isRead a = true) (hb : isRead b = true)
    (rest : List Op) :
    run F s (a :: b :: rest) = ((run F s rest).1, (step F s a).2 :: (step F s b).2 :: (run F s rest).2) ∧
    run F s (b :: a :: rest) = ((run F s rest).1, (step F s b).2 :: (step F s a).2 :: (run F s rest).2) := by
  simp [run, read_keeps_state F s a ha, read_keeps_state F s b hb]

/-- a name that is not in the reader's sheet table gives `WorksheetNotFound` for the
    value read, the borrowed read and the formula read — never the content of some other sheet -/
theorem unknown_sheet_is_error (F : FileSem) (s : State) (name : String)
    (h : ∀ e ∈ F.parts, e.1 ≠ name) :
    (step F s (.rangeRef name)).2 = worksheetNotFound ∧
    (step F s (.range name)).2 = F.toOwned worksheetNotFound ∧
    (step F s (.formula name)).2 = worksheetNotFound := by
  have hl : lookupSheet F name = none := by
    unfold lookupSheet
    rw [Option.map_eq_none_iff, List.find?_eq_none]
    intro e he
    have := h e he
    simpa using this
  simp [step, rangeOut, FileSem.rangeRef, FileSem.formula, hl]

/-- a known name reads the part of the FIRST table entry carrying that name (and only that part) -/
theorem known_sheet_reads_its_part (F : FileSem) (s : State) (name part : String) (pre post : List (String × String))
    (hparts : F.parts = pre ++ (name, part) :: post) (hpre : ∀ e ∈ pre, e.1 ≠ name) :
    (step F s (.rangeRef name)).2 = F.partRange part s.hdr ∧ (step F s (.formula name)).2 = F.partFormula part := by
  have hl : lookupSheet F name = some part := by
    unfold lookupSheet
    rw [hparts, List.find?_append]
    have : pre.find? (fun e => e.1 == name) = none := by
      rw [List.find?_eq_none]; intro e he; have := hpre e he; simpa using this
    simp [this]
  simp [step, FileSem.rangeRef, FileSem.formula, hl]

/-- a name that is looked up successfully is an entry of the table, with the part the lookup returns -/
theorem distinct_names_distinct_parts (F : FileSem) (n1 n2 p1 p2 : String)
    (h1 : lookupSheet F n1 = some p1) (h2 : lookupSheet F n2 = some p2) (hne : n1 ≠ n2) :
    (n1, p1) ∈ F.parts ∧ (n2, p2) ∈ F.parts := by
  unfold lookupSheet at h1 h2
  obtain ⟨e1, he1, rfl⟩ := Option.map_eq_some_iff.mp h1
  obtain ⟨e2, he2, rfl⟩ := Option.map_eq_some_iff.mp h2
  have m1 := List.mem_of_find?_eq_some he1
  have m2 := List.mem_of_find?_eq_some he2
  have k1 := List.find?_some he1
  have k2 := List.find?_some he2
  simp only [beq_iff_eq] at k1 k2
  subst k1 k2
  exact ⟨m1, m2⟩

/-- a load that fails leaves the reader as it was: the error is returned, no cache is set -/
theorem failed_load_is_noop (F : FileSem) (s : State) :
    (∀ e, F.loadMergedErr = some e → step F s .loadMerged = (s, e)) ∧
    (∀ e, F.loadTablesErr = some e → step F s .loadTables = (s, e)) := by
  constructor <;> intro e h <;> simp [step, h]

/-- the calls whose result looks at a cache filled by `load_merged_regions` / `load_tables` -/
def usesCaches : Op → Bool
  | .mergedRegions | .mergedBySheet _ | .tableNames | .tableByName _ | .loadMerged | .loadTables => true
  | _ => false

/-- every other call — value, borrowed, indexed and formula reads, `worksheets()`, `worksheet_merge_cells`,
    VBA, sheet names, metadata — returns the same result whether or not the caches were loaded (successfully or
    not, before or after): it depends on the file, its arguments and the header-row option only -/
theorem reads_ignore_caches (F : FileSem) (s s' : State) (op : Op) (hop : usesCaches op = false)
    (hh : s.hdr = s'.hdr) : (step F s op).2 = (step F s' op).2 := by
  cases op <;> simp_all [usesCaches, step]

/-- auto-detection wrapper: `Sheets` is a tagged union whose every method forwards to the wrapped reader -/
inductive Kind where | xls | xlsx | xlsb | ods
def stepAuto (F : FileSem) (_k : Kind) (s : State) (op : Op) : State × Out := step F s op
theorem auto_equals_format_reader (F : FileSem) (k : Kind) (s : State) (op : Op) :
    stepAuto F k s op = step F s op := rfl

def demoFile : FileSem :=
  { eager := false, sheets := ["A", "B"], parts := [("A", "A"), ("B", "B")],
    partRange := fun n h => n ++ (match h with | .firstNonEmpty => "@d" | .row k => "@" ++ toString k),
    partFormula := fun n => "f" ++ n,
    toOwned := fun o => "own(" ++ o ++ ")", mergeCells := fun _ => "m",
    mergedAll := "M", mergedBySheet := fun n => "M" ++ n, tableNames := "T",
    tableMeta := fun n => if n = "t1" then .ok ("A", "w") else .error "err:TableNotFound",
    window := fun r w => r ++ "|" ++ w, vba := "v", metadata := "md" }

example : (run demoFile {} [.range "A", .withHeaderRow (.row 3), .range "A", .tableByName "t1", .loadTables,
    .tableByName "t1", .withHeaderRow .firstNonEmpty, .range "A"]).2 =
    ["own(A@d)", "unit", "own(A@3)", "panic:not-loaded", "unit", "own(A@3)|w", "unit", "own(A@d)"] := by rfl

end Reader

/-! ## auto-detection: which reader is chosen (`Model/Auto.lean`)

    `auto_equals_format_reader` above says that the wrapper forwards; these say which reader it wraps. The
    hypothesis "no reader earlier in the trial order opens the bytes" is not provable here — it is a fact about
    the four container formats (a compound file is not a zip, an xlsx has no `xl/workbook.bin`, an ods has its
    `mimetype`) — and is MEASURED by the correspondence run on every generated file (all four `new` are called). -/

namespace Auto

theorem from_rs_opens_iff (a : Accepts) : (fromRs a).isSome = (a.xls || a.xlsx || a.xlsb || a.ods) := by
  cases a with | mk x1 x2 x3 x4 => cases x1 <;> cases x2 <;> cases x3 <;> cases x4 <;> rfl

theorem find?_first {β : Type} [DecidableEq β] (p : β → Bool) (f : β) : ∀ (l : List β), l.find? p = some f →
    p f = true ∧ ∀ g, (l.takeWhile (· ≠ f)).contains g = true → p g = false
  | [], h => nomatch h
  | x :: l, h => by
    by_cases hx : p x = true
    · rw [List.find?_cons_of_pos hx] at h
      cases h
      refine ⟨hx, fun g hg => ?_⟩
      rw [List.takeWhile_cons_of_neg (by simp)] at hg
      cases hg
    · rw [List.find?_cons_of_neg hx] at h
      obtain ⟨h1, h2⟩ := find?_first p f l h
      have hxf : x ≠ f := fun e => hx (e ▸ h1)
      refine ⟨h1, fun g hg => ?_⟩
      rw [List.takeWhile_cons_of_pos (p := (· ≠ f)) (decide_eq_true hxf), List.contains_cons, Bool.or_eq_true] at hg
      rcases hg with hg | hg
      · rw [beq_iff_eq] at hg
        rw [hg]; exact Bool.not_eq_true _ |>.mp hx
      · exact h2 g hg

/-- the reader it picks does open the file, and no reader earlier in the order does -/
theorem from_rs_first (a : Accepts) (f : Fmt) (h : fromRs a = some f) :
    a.of f = true ∧ ∀ g, (trialOrder.takeWhile (· ≠ f)).contains g = true → a.of g = false :=
  find?_first a.of f trialOrder h

/-- **the property's clause**: if the format's own reader opens the bytes and no reader tried before it does,
    auto-detection wraps exactly that reader (whatever the later readers would say) -/
theorem auto_picks_own_reader (a : Accepts) (f : Fmt) (hown : a.of f = true)
    (hearlier : ∀ g, (trialOrder.takeWhile (· ≠ f)).contains g = true → a.of g = false) : fromRs a = some f := by
  cases a with | mk x1 x2 x3 x4 =>
  cases f <;> simp [Accepts.of] at hown <;> subst hown
  · rfl
  · have := hearlier .xls (by decide); simp [Accepts.of] at this; subst this; rfl
  · have h1 := hearlier .xls (by decide); have h2 := hearlier .xlsx (by decide)
    simp [Accepts.of] at h1 h2; subst h1 h2; rfl
  · have h1 := hearlier .xls (by decide); have h2 := hearlier .xlsx (by decide); have h3 := hearlier .xlsb (by decide)
    simp [Accepts.of] at h1 h2 h3; subst h1 h2 h3; rfl

/-- with a known extension `open_workbook_auto` is that reader and nothing else: its success or ITS error, never a
    fallback to another format -/
theorem from_path_known_extension (ext : String) (f : Fmt) (a : Accepts) (h : byExtension (some ext) = some f) :
    fromPath (some ext) a = if a.of f then .opened f else .readerError f := by
  simp [fromPath, h]

/-- with an unknown (or no, or differently cased) extension it is the trial order of `open_workbook_auto_from_rs` -/
theorem from_path_unknown_extension (ext : Option String) (a : Accepts) (h : byExtension ext = none) :
    fromPath ext a = match fromRs a with | some f => .opened f | none => .cannotDetect := by
  simp only [fromPath, h]
  cases fromRs a <;> rfl

example : fromRs ⟨false, true, false, false⟩ = some .xlsx := rfl
example : fromRs ⟨false, true, true, true⟩ = some .xlsx := rfl
example : fromRs ⟨false, false, false, false⟩ = none := rfl
example : fromPath (some "xlsb") ⟨false, true, false, false⟩ = .readerError .xlsb := rfl
example : fromPath (some "XLSX") ⟨false, true, false, false⟩ = .opened .xlsx := rfl
example : byExtension (some "xlam") = some .xlsx := rfl

end Auto

/-! ## the owned path is the borrowed path converted cell by cell, and the conversion loses nothing observable

    `range_ref_owned_agree` above is an identity of the reader model. These theorems are about the conversion itself
    (`Model/DataConv.lean`: `impl From<DataRef> for Data`, both `impl DataType`, and the range-level map of
    `worksheet_range`). -/

namespace DataConv

/-- every observation of the `DataType` trait gives the same answer on the owned cell as on the borrowed one
    (is_*, get_*, as_string, as_i64, as_f64), whatever std and the number parsers compute -/
theorem view_toData (σ : Std) (v : DataRef) : viewData σ (toData v) = viewRef σ v := by
  cases v <;> rfl

/-- what the conversion keeps of a borrowed cell -/
def canon : DataRef → DataRef
  | .sharedString s => .string s
  | v => v

def ofData : Data → DataRef
  | .int v => .int v
  | .float b => .float b
  | .string s => .string s
  | .bool b => .bool b
  | .dateTime d => .dateTime d
  | .dateTimeIso s => .dateTimeIso s
  | .durationIso s => .durationIso s
  | .error k => .error k
  | .empty => .empty

theorem ofData_toData (v : DataRef) : ofData (toData v) = canon v := by cases v <;> rfl

theorem canon_cases (v : DataRef) : canon v = v ∨ ∃ s, v = .sharedString s ∧ canon v = .string s := by
  cases v with
  | sharedString s => exact Or.inr ⟨s, rfl, rfl⟩
  | _ => exact Or.inl rfl

/-- the conversion identifies exactly `String` and `SharedString` of the same text and nothing else -/
theorem toData_eq_iff (a b : DataRef) :
    toData a = toData b ↔
      a = b ∨ (∃ s, (a = .string s ∧ b = .sharedString s) ∨ (a = .sharedString s ∧ b = .string s)) := by
  constructor
  · intro h
    -- the owned cell determines the borrowed one up to `canon`
    have hc : canon a = canon b := by rw [← ofData_toData, ← ofData_toData, h]
    rcases canon_cases a with ha | ⟨s, ha, ha'⟩ <;> rcases canon_cases b with hb | ⟨t, hb, hb'⟩
    · exact Or.inl (by rw [← ha, ← hb, hc])
    · exact Or.inr ⟨t, Or.inl ⟨by rw [← ha, hc, hb'], hb⟩⟩
    · exact Or.inr ⟨s, Or.inr ⟨ha, by rw [← hb, ← hc, ha']⟩⟩
    · rw [ha', hb'] at hc
      injection hc with hc
      exact Or.inl (by rw [ha, hb, hc])
  · rintro (rfl | ⟨s, ⟨rfl, rfl⟩ | ⟨rfl, rfl⟩⟩) <;> rfl

/-- an empty borrowed cell is an empty owned cell and conversely (used cells correspond) -/
theorem toData_empty_iff (v : DataRef) : toData v = .empty ↔ v = .empty := by
  cases v <;> simp [toData]

/-- `worksheet_range` as a whole: same corners, same size, and at EVERY relative position the owned range holds the
    conversion of what the borrowed range holds (`None` outside both) -/
theorem owned_range_cells (r : Range.Rng DataRef) :
    (toOwnedRange r).start = r.start ∧ (toOwnedRange r).end_ = r.end_ ∧
    (toOwnedRange r).height = r.height ∧ (toOwnedRange r).width = r.width ∧
    (∀ i j, Range.get (toOwnedRange r) i j = (Range.get r i j).map toData) ∧
    (∀ p q, Range.getValue (toOwnedRange r) p q = (Range.getValue r p q).map toData) := by
  have hl : (toOwnedRange r).inner.length = r.inner.length := by simp [toOwnedRange]
  have hs : (toOwnedRange r).sr = r.sr ∧ (toOwnedRange r).sc = r.sc ∧ (toOwnedRange r).er = r.er ∧
      (toOwnedRange r).ec = r.ec := ⟨rfl, rfl, rfl, rfl⟩
  have hw : (toOwnedRange r).width = r.width := by unfold Range.Rng.width; rw [hl]; rfl
  have hh : (toOwnedRange r).height = r.height := by unfold Range.Rng.height; rw [hl]; rfl
  have hget : ∀ i j, Range.get (toOwnedRange r) i j = (Range.get r i j).map toData := by
    intro i j
    unfold Range.get
    rw [hw, hh]
    split
    · rfl
    · simp [toOwnedRange]
  refine ⟨?_, ?_, hh, hw, hget, fun p q => ?_⟩
  · unfold Range.Rng.start; rw [hl]; rfl
  · unfold Range.Rng.end_; rw [hl]; rfl
  · unfold Range.getValue
    rw [hs.1, hs.2.1, hs.2.2.1, hs.2.2.2]
    split
    · exact hget _ _
    · rfl

/-- the invariant of C05 carries over, so everything proved there about rows / cells / accessors holds of the owned
    range too -/
theorem owned_range_inv (r : Range.Rng DataRef) (hi : Range.Inv r) : Range.Inv (toOwnedRange r) := by
  obtain ⟨_, _, hh, hw, _, _⟩ := owned_range_cells r
  have hl : (toOwnedRange r).inner.length = r.inner.length := by simp [toOwnedRange]
  exact ⟨by rw [hl, hh, hw]; exact hi.len, fun hne => hi.ord (by rwa [hl] at hne)⟩

example : toData (.sharedString "ab".toList) = .string "ab".toList := rfl
example : toData (.dateTime ⟨4674916728738455552, false, true⟩) = .dateTime ⟨4674916728738455552, false, true⟩ := rfl

end DataConv
