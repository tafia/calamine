/-! UTF-8 between the byte strings of the XML event models (`List Nat`, one `Nat` < 256 per byte) and
    the character lists of the formula models (`List Char`): what Rust's `str::from_utf8` (inside
    quick-xml's `unescape`) and `String::into_bytes` do. The decoder is strict (RFC 3629: shortest
    form, no surrogates, ≤ U+10FFFF). `utf8Decode (utf8Encode l) = some l` is proved below. -/

namespace Utf8

/-- the bytes of one scalar value -/
def encodeNat (n : Nat) : List Nat :=
  if n < 0x80 then [n]
  else if n < 0x800 then [0xC0 + n / 64, 0x80 + n % 64]
  else if n < 0x10000 then [0xE0 + n / 4096, 0x80 + n / 64 % 64, 0x80 + n % 64]
  else [0xF0 + n / 262144, 0x80 + n / 4096 % 64, 0x80 + n / 64 % 64, 0x80 + n % 64]

def utf8Encode (l : List Char) : List Nat := l.flatMap fun c => encodeNat c.toNat

def isCont (b : Nat) : Bool := 0x80 ≤ b && b ≤ 0xBF

def validScalar (n : Nat) : Bool := n < 0xD800 || (0xE000 ≤ n && n < 0x110000)

/-- strict decoder with an explicit budget (`fuel = length` always suffices) -/
def decodeAux : Nat → List Nat → Option (List Char)
  | _, [] => some []
  | 0, _ :: _ => none
  | f + 1, b0 :: rest =>
    if b0 < 0x80 then (decodeAux f rest).map (Char.ofNat b0 :: ·)
    else if 0xC2 ≤ b0 ∧ b0 ≤ 0xDF then
      match rest with
      | b1 :: rest' =>
        if isCont b1 then (decodeAux f rest').map (Char.ofNat ((b0 - 0xC0) * 64 + (b1 - 0x80)) :: ·) else none
      | _ => none
    else if 0xE0 ≤ b0 ∧ b0 ≤ 0xEF then
      match rest with
      | b1 :: b2 :: rest' =>
        let n := (b0 - 0xE0) * 4096 + (b1 - 0x80) * 64 + (b2 - 0x80)
        if isCont b1 && isCont b2 && decide (0x800 ≤ n) && validScalar n then (decodeAux f rest').map (Char.ofNat n :: ·) else none
      | _ => none
    else if 0xF0 ≤ b0 ∧ b0 ≤ 0xF4 then
      match rest with
      | b1 :: b2 :: b3 :: rest' =>
        let n := (b0 - 0xF0) * 262144 + (b1 - 0x80) * 4096 + (b2 - 0x80) * 64 + (b3 - 0x80)
        if isCont b1 && isCont b2 && isCont b3 && decide (0x10000 ≤ n) && decide (n < 0x110000) then (decodeAux f rest').map (Char.ofNat n :: ·) else none
      | _ => none
    else none

def utf8Decode (bs : List Nat) : Option (List Char) := decodeAux bs.length bs

theorem char_valid (c : Char) : c.toNat < 0xD800 ∨ (0xE000 ≤ c.toNat ∧ c.toNat < 0x110000) :=
  c.valid

theorem toNat_ofNat_valid (n : Nat) (h : n < 0xD800 ∨ (0xE000 ≤ n ∧ n < 0x110000)) : (Char.ofNat n).toNat = n := by
  have hv : n.isValidChar := h
  unfold Char.ofNat
  rw [dif_pos hv]
  rfl

theorem utf8Encode_cons (c : Char) (cs : List Char) : utf8Encode (c :: cs) = encodeNat c.toNat ++ utf8Encode cs :=
  List.flatMap_cons

theorem isCont_iff (b : Nat) : isCont b = true ↔ 0x80 ≤ b ∧ b ≤ 0xBF := by
  simp only [isCont, Bool.and_eq_true, decide_eq_true_eq]

theorem decodeAux_one (f b0 : Nat) (rest : List Nat) (h : b0 < 0x80) :
    decodeAux (f + 1) (b0 :: rest) = (decodeAux f rest).map (Char.ofNat b0 :: ·) := by
  conv => lhs; unfold decodeAux
  rw [if_pos h]

theorem decodeAux_two (f b0 b1 : Nat) (rest : List Nat) (h : 0xC2 ≤ b0 ∧ b0 ≤ 0xDF) :
    decodeAux (f + 1) (b0 :: b1 :: rest) =
      if isCont b1 then (decodeAux f rest).map (Char.ofNat ((b0 - 0xC0) * 64 + (b1 - 0x80)) :: ·) else none := by
  conv => lhs; unfold decodeAux
  rw [if_neg (by omega), if_pos h]

theorem decodeAux_three (f b0 b1 b2 : Nat) (rest : List Nat) (h : 0xE0 ≤ b0 ∧ b0 ≤ 0xEF) :
    decodeAux (f + 1) (b0 :: b1 :: b2 :: rest) =
      if isCont b1 && isCont b2 && decide (0x800 ≤ (b0 - 0xE0) * 4096 + (b1 - 0x80) * 64 + (b2 - 0x80)) &&
          validScalar ((b0 - 0xE0) * 4096 + (b1 - 0x80) * 64 + (b2 - 0x80))
      then (decodeAux f rest).map (Char.ofNat ((b0 - 0xE0) * 4096 + (b1 - 0x80) * 64 + (b2 - 0x80)) :: ·) else none := by
  conv => lhs; unfold decodeAux
  rw [if_neg (by omega), if_neg (by omega), if_pos h]

theorem decodeAux_four (f b0 b1 b2 b3 : Nat) (rest : List Nat) (h : 0xF0 ≤ b0 ∧ b0 ≤ 0xF4) :
    decodeAux (f + 1) (b0 :: b1 :: b2 :: b3 :: rest) =
      if isCont b1 && isCont b2 && isCont b3 &&
          decide (0x10000 ≤ (b0 - 0xF0) * 262144 + (b1 - 0x80) * 4096 + (b2 - 0x80) * 64 + (b3 - 0x80)) &&
          decide ((b0 - 0xF0) * 262144 + (b1 - 0x80) * 4096 + (b2 - 0x80) * 64 + (b3 - 0x80) < 0x110000)
      then (decodeAux f rest).map (Char.ofNat ((b0 - 0xF0) * 262144 + (b1 - 0x80) * 4096 + (b2 - 0x80) * 64 + (b3 - 0x80)) :: ·)
      else none := by
  conv => lhs; unfold decodeAux
  rw [if_neg (by omega), if_neg (by omega), if_neg (by omega), if_pos h]

theorem encodeNat_length (n : Nat) : 1 ≤ (encodeNat n).length := by
  unfold encodeNat; split <;> (try split) <;> (try split) <;> simp

/-! A number from its radix-64 digits: the arithmetic of `decode ∘ encode`. -/

/-- the digits of `n` below `64 * b` are one radix-64 digit above those below `b` -/
theorem low_digits (n b c : Nat) (h : b * 64 = c) : n / b % 64 * b + n % b = n % c := by
  rw [← h, Nat.mod_mul, Nat.add_comm, Nat.mul_comm]

theorem join3 (n : Nat) : n / 4096 * 4096 + n / 64 % 64 * 64 + n % 64 = n := by
  rw [Nat.add_assoc, low_digits n 64 4096 rfl, Nat.div_add_mod']
theorem join4 (n : Nat) : n / 262144 * 262144 + n / 4096 % 64 * 4096 + n / 64 % 64 * 64 + n % 64 = n := by
  rw [Nat.add_assoc, low_digits n 64 4096 rfl, Nat.add_assoc, low_digits n 4096 262144 rfl, Nat.div_add_mod']

theorem isCont_digit (n : Nat) : isCont (0x80 + n % 64) = true :=
  (isCont_iff _).mpr ⟨Nat.le_add_right .., Nat.add_le_add_left (Nat.le_of_lt_succ (Nat.mod_lt n (by decide))) 0x80⟩

theorem decodeAux_encodeNat (n : Nat) (hv : n < 0xD800 ∨ (0xE000 ≤ n ∧ n < 0x110000)) (rest : List Nat) (f : Nat) :
    decodeAux (f + 1) (encodeNat n ++ rest) = (decodeAux f rest).map (Char.ofNat n :: ·) := by
  fun_cases encodeNat n with
  | case1 h1 => exact decodeAux_one f n rest h1
  | case2 h1 h2 =>
    rw [List.cons_append, List.cons_append, List.nil_append, decodeAux_two _ _ _ _ (by omega), if_pos (isCont_digit n),
      Nat.add_sub_cancel_left, Nat.add_sub_cancel_left, Nat.div_add_mod']
  | case3 h1 h2 h3 =>
    rw [List.cons_append, List.cons_append, List.cons_append, List.nil_append, decodeAux_three _ _ _ _ _ (by omega),
      Nat.add_sub_cancel_left, Nat.add_sub_cancel_left, Nat.add_sub_cancel_left, join3, isCont_digit, isCont_digit,
      if_pos (by simp only [Bool.true_and, Bool.and_eq_true, validScalar, Bool.or_eq_true, decide_eq_true_eq]; omega)]
  | case4 h1 h2 h3 =>
    rw [List.cons_append, List.cons_append, List.cons_append, List.cons_append, List.nil_append,
      decodeAux_four _ _ _ _ _ _ (by omega), Nat.add_sub_cancel_left, Nat.add_sub_cancel_left, Nat.add_sub_cancel_left,
      Nat.add_sub_cancel_left, join4, isCont_digit, isCont_digit, isCont_digit,
      if_pos (by simp only [Bool.true_and, Bool.and_eq_true, decide_eq_true_eq]; omega)]

theorem decodeAux_encode (l : List Char) : ∀ f, l.length ≤ f → decodeAux f (utf8Encode l) = some l := by
  induction l with
  | nil => intro f _; cases f <;> rfl
  | cons c cs ih =>
    intro f hf
    obtain ⟨f', rfl⟩ : ∃ f', f = f' + 1 := ⟨f - 1, by simp only [List.length_cons] at hf; omega⟩
    rw [utf8Encode_cons, decodeAux_encodeNat c.toNat (char_valid c), Char.ofNat_toNat,
      ih f' (by simp only [List.length_cons] at hf; omega)]
    rfl

theorem length_le_encode (l : List Char) : l.length ≤ (utf8Encode l).length := by
  induction l with
  | nil => exact Nat.le_refl 0
  | cons c cs ih =>
    rw [utf8Encode_cons, List.length_append, List.length_cons]
    have := encodeNat_length c.toNat
    omega

theorem utf8Decode_encode (l : List Char) : utf8Decode (utf8Encode l) = some l :=
  decodeAux_encode l _ (length_le_encode l)

def sample : String := String.ofList ['a', 'é', '日', '😀', Char.ofNat 0x7ff, Char.ofNat 0x800, Char.ofNat 0xffff, Char.ofNat 0x10000]
#guard utf8Encode sample.toList == sample.toUTF8.toList.map (·.toNat)
#guard utf8Decode [0xC0, 0x80] == none && utf8Decode [0xED, 0xA0, 0x80] == none && utf8Decode [0xF4, 0x90, 0x80, 0x80] == none
#guard utf8Decode [0xE2, 0x82] == none && utf8Decode [0x80] == none && utf8Decode [0x41, 0xC3, 0xA9] == some ['A', 'é']

end Utf8
