import CalVerif.Model.Range
import CalVerif.Lemmas.ResReturns
import CalVerif.Lemmas.DivMod
/-! Lemmas about the `Range` model. The model works on a flat row-major vector; the properties speak of `valAt`, the
    value at an absolute position. Between the two stands `Tab l h w f`, "the flat vector `l` tabulates `f` on a grid of
    `h` rows and `w` columns": each list function of the model has one `Tab` lemma (`Tab.set`, `Tab.pad`,
    `Tab.copyRows`, `Tab.sparse`), `Tab.rng` goes from such a vector to a well-formed range showing `f`, `Inv.tab`
    back. On top of that each operation has one statement of what it returns; the file ends with the chunk and
    enumeration facts behind `rows` and `cells`. -/
namespace Range
set_option linter.unusedSectionVars false
variable {α : Type} [Inhabited α]

theorem rowmajor_inj {a b a' b' w : Nat} (hb : b < w) (hb' : b' < w) (h : a * w + b = a' * w + b') :
    a = a' ∧ b = b' := by
  have e := DivMod.divmod_mul_add (q := a) hb
  rw [h, (DivMod.divmod_mul_add hb').1, (DivMod.divmod_mul_add hb').2] at e
  exact ⟨e.1.symm, e.2.symm⟩

theorem rect_ne_zero (a b : Nat) : (a + 1) * (b + 1) ≠ 0 :=
  Nat.mul_ne_zero (Nat.succ_ne_zero a) (Nat.succ_ne_zero b)

theorem span_add {a b c : Nat} (h1 : a ≤ b) (h2 : b ≤ c) : (b - a + 1) + (c - b) = c - a + 1 := by omega

theorem sub_lt_span_of_le {b p : Nat} (a : Nat) (h : p ≤ b) : p - a < b - a + 1 :=
  Nat.lt_succ_of_le (Nat.sub_le_sub_right h a)

theorem add_in_span {a b c d i j : Nat} (h1 : a ≤ b) (h2 : c ≤ d) (hi : i < b - a + 1) (hj : j < d - c + 1) :
    a ≤ a + i ∧ a + i ≤ b ∧ c ≤ c + j ∧ c + j ≤ d :=
  ⟨Nat.le_add_right .., Nat.add_le_of_le_sub' h1 (Nat.le_of_lt_succ hi), Nat.le_add_right ..,
    Nat.add_le_of_le_sub' h2 (Nat.le_of_lt_succ hj)⟩

theorem span_sub {a b : Nat} (c : Nat) (h : a ≤ b) : c - a + 1 - (b - a + 1) = c - b := by
  rw [Nat.add_sub_add_right, Nat.sub_sub_sub_cancel_right h]

theorem nChunks_mul (k w : Nat) (hw : 0 < w) : nChunks (k * w) w = k := DivMod.ceilDiv_mul hw

theorem getD_replicate_default (n i : Nat) : (List.replicate n (default : α)).getD i default = default := by
  rw [List.getD_eq_getElem?_getD, List.getElem?_replicate]; split <;> rfl

theorem length_take_drop_succ {l : List α} {k w : Nat} (h : l.length = (k + 1) * w) :
    (l.take w).length = w ∧ (l.drop w).length = k * w := by
  rw [Nat.succ_mul] at h
  exact ⟨List.length_take_of_le (by rw [h]; exact Nat.le_add_left ..),
    by rw [List.length_drop, h, Nat.add_sub_cancel]⟩

theorem padRows_length (w extra : Nat) : ∀ (k : Nat) (l : List α), l.length = k * w →
    (padRows w extra k l).length = k * (w + extra)
  | 0, l, _ => by rw [padRows, Nat.zero_mul]; rfl
  | k+1, l, h => by
    obtain ⟨h1, h2⟩ := length_take_drop_succ h
    rw [padRows, List.length_append, List.length_append, List.length_replicate, h1,
      padRows_length w extra k _ h2, Nat.succ_mul, Nat.add_comm]

theorem padRows_get (w extra : Nat) : ∀ (k : Nat) (l : List α), l.length = k * w →
    ∀ i j, i < k → j < w + extra →
    (padRows w extra k l)[i * (w + extra) + j]? = if j < w then l[i * w + j]? else some default
  | 0, _, _, i, _, hi, _ => absurd hi (Nat.not_lt_zero i)
  | k+1, l, h, i, j, hi, hj => by
    obtain ⟨h1, h2⟩ := length_take_drop_succ h
    rw [padRows, List.append_assoc]
    cases i with
    | zero =>
      rw [Nat.zero_mul, Nat.zero_add, Nat.zero_mul, Nat.zero_add]
      by_cases hjw : j < w
      · rw [if_pos hjw, List.getElem?_append_left (by rw [h1]; exact hjw), List.getElem?_take, if_pos hjw]
      · have hj' : j - w < extra := Nat.sub_lt_left_of_lt_add (Nat.le_of_not_lt hjw) hj
        rw [if_neg hjw, List.getElem?_append_right (by rw [h1]; exact Nat.le_of_not_lt hjw), h1,
          List.getElem?_append_left (by rw [List.length_replicate]; exact hj'),
          List.getElem?_replicate, if_pos hj']
    | succ i =>
      have e : (i + 1) * (w + extra) + j = w + (extra + (i * (w + extra) + j)) := by
        rw [Nat.succ_mul, Nat.add_right_comm, Nat.add_comm _ (w + extra), Nat.add_assoc]
      rw [e, List.getElem?_append_right (by rw [h1]; exact Nat.le_add_right ..), h1, Nat.add_sub_cancel_left,
        List.getElem?_append_right (by rw [List.length_replicate]; exact Nat.le_add_right ..),
        List.length_replicate, Nat.add_sub_cancel_left,
        padRows_get w extra k (l.drop w) h2 i j (Nat.lt_of_succ_lt_succ hi) hj, List.getElem?_drop,
        Nat.succ_mul, Nat.add_comm (i * w) w, Nat.add_assoc]

theorem padRows_zero (w : Nat) : ∀ (k : Nat) (l : List α), l.length = k * w → padRows w 0 k l = l
  | 0, l, h => by rw [Nat.zero_mul] at h; rw [List.eq_nil_of_length_eq_zero h]; rfl
  | k+1, l, h => by
    rw [padRows, padRows_zero w k _ (length_take_drop_succ h).2, List.replicate_zero, List.append_nil,
      List.take_append_drop]

theorem inv_of_len (r : Rng α) (ho1 : r.sr ≤ r.er) (ho2 : r.sc ≤ r.ec)
    (hlen : r.inner.length = (r.er - r.sr + 1) * (r.ec - r.sc + 1)) : Inv r ∧ r.inner.length ≠ 0 := by
  have hpos : r.inner.length ≠ 0 := by rw [hlen]; exact rect_ne_zero _ _
  refine ⟨⟨?_, fun _ => ⟨ho1, ho2⟩⟩, hpos⟩
  simp only [Rng.height, Rng.width, hpos, if_false]; exact hlen

theorem inv_set (r : Rng α) (i : Nat) (v : α) (h : Inv r) : Inv { r with inner := r.inner.set i v } := by
  constructor
  · simp only [Rng.height, Rng.width, List.length_set]; exact h.len
  · simp only [List.length_set]; exact h.ord

theorem Inv.width_eq {r : Rng α} (_ : Inv r) (hne : r.inner.length ≠ 0) : r.width = r.ec - r.sc + 1 :=
  if_neg hne
theorem Inv.height_eq {r : Rng α} (_ : Inv r) (hne : r.inner.length ≠ 0) : r.height = r.er - r.sr + 1 :=
  if_neg hne

theorem Inv.len_eq {r : Rng α} (hi : Inv r) (hne : r.inner.length ≠ 0) :
    r.inner.length = (r.er - r.sr + 1) * (r.ec - r.sc + 1) := by
  rw [← hi.width_eq hne, ← hi.height_eq hne]; exact hi.len

theorem Inv.nChunks_eq {r : Rng α} (hi : Inv r) (hne : r.inner.length ≠ 0) :
    nChunks r.inner.length r.width = r.height := by
  rw [hi.len]; exact nChunks_mul _ _ (by rw [hi.width_eq hne]; exact Nat.succ_pos _)

theorem Inv.dims {r : Rng α} (hi : Inv r) :
    (r.height = 0 ∧ r.width = 0) ∨
    (r.sr ≤ r.er ∧ r.sc ≤ r.ec ∧ r.height = r.er - r.sr + 1 ∧ r.width = r.ec - r.sc + 1) := by
  by_cases hne : r.inner.length = 0
  · exact Or.inl ⟨if_pos hne, if_pos hne⟩
  · exact Or.inr ⟨(hi.ord hne).1, (hi.ord hne).2, if_neg hne, if_neg hne⟩

theorem ne_of_lt_height {r : Rng α} {i : Nat} (h : i < r.height) : r.inner.length ≠ 0 := by
  intro h0; unfold Rng.height at h; rw [if_pos h0] at h; omega

theorem Inv.idx_lt {r : Rng α} (hi : Inv r) {i j : Nat} (h1 : i < r.height) (h2 : j < r.width) :
    i * r.width + j < r.inner.length := by
  rw [hi.len]; exact DivMod.mul_add_lt_mul h2 h1

theorem Inv.idx_lt_abs {r : Rng α} (hi : Inv r) (hne : r.inner.length ≠ 0) {row col : Nat}
    (hin : r.sr ≤ row ∧ row ≤ r.er ∧ r.sc ≤ col ∧ col ≤ r.ec) :
    (row - r.sr) * r.width + (col - r.sc) < r.inner.length :=
  hi.idx_lt (by rw [hi.height_eq hne]; exact sub_lt_span_of_le _ hin.2.1)
    (by rw [hi.width_eq hne]; exact sub_lt_span_of_le _ hin.2.2.2)

theorem Inv.rel_in {r : Rng α} (hi : Inv r) {i j : Nat} (h1 : i < r.height) (h2 : j < r.width) :
    r.sr ≤ r.sr + i ∧ r.sr + i ≤ r.er ∧ r.sc ≤ r.sc + j ∧ r.sc + j ≤ r.ec := by
  have hne := ne_of_lt_height h1
  rw [hi.height_eq hne] at h1; rw [hi.width_eq hne] at h2
  exact add_in_span (hi.ord hne).1 (hi.ord hne).2 h1 h2

theorem valAt_of_in (r : Rng α) (p q : Nat) (hne : r.inner.length ≠ 0)
    (h : r.sr ≤ p ∧ p ≤ r.er ∧ r.sc ≤ q ∧ q ≤ r.ec) :
    r.valAt p q = r.inner.getD ((p - r.sr) * r.width + (q - r.sc)) default := by
  unfold Rng.valAt; rw [if_pos ⟨hne, h⟩]

theorem valAt_of_out (r : Rng α) (p q : Nat)
    (h : ¬ (r.inner.length ≠ 0 ∧ r.sr ≤ p ∧ p ≤ r.er ∧ r.sc ≤ q ∧ q ≤ r.ec)) :
    r.valAt p q = default := by
  unfold Rng.valAt; rw [if_neg h]

theorem valAt_empty (p q : Nat) : (empty : Rng α).valAt p q = default :=
  valAt_of_out _ p q (fun h => h.1 rfl)

/-- the flat vector `l` holds, row by row, the values `f i j` of a grid of `h` rows and `w` columns. For the vector
    of a range, `h` and `w` are the spans `er - sr + 1`, `ec - sc + 1` and `f i j = g (sr + i) (sc + j)` for a
    function `g` of absolute positions: the shape `Tab.rng` and `Inv.tab` speak, and the one callers bring their `f`
    to with `Tab.congr` -/
structure Tab (l : List α) (h w : Nat) (f : Nat → Nat → α) : Prop where
  len : l.length = h * w
  cell : ∀ i j, i < h → j < w → l.getD (i * w + j) default = f i j

theorem Tab.congr {l : List α} {h w : Nat} {f g : Nat → Nat → α} (t : Tab l h w f)
    (e : ∀ i j, i < h → j < w → f i j = g i j) : Tab l h w g :=
  ⟨t.len, fun i j hi hj => (t.cell i j hi hj).trans (e i j hi hj)⟩

theorem Tab.replicate (h w : Nat) : Tab (List.replicate (h * w) (default : α)) h w (fun _ _ => default) :=
  ⟨List.length_replicate .., fun _ _ _ _ => getD_replicate_default _ _⟩

theorem Tab.get? {l : List α} {h w : Nat} {f : Nat → Nat → α} (t : Tab l h w f) {i j : Nat} (hi : i < h)
    (hj : j < w) : l[i * w + j]? = some (f i j) := by
  have hlt : i * w + j < l.length := by rw [t.len]; exact DivMod.mul_add_lt_mul hj hi
  rw [← t.cell i j hi hj, List.getD_eq_getElem?_getD, List.getElem?_eq_getElem hlt]; rfl

theorem Tab.ext {l l' : List α} {h w : Nat} {f : Nat → Nat → α} (t : Tab l h w f) (t' : Tab l' h w f) : l = l' := by
  apply List.ext_getElem?
  intro k
  by_cases hk : k < h * w
  · have hw : 0 < w := Nat.pos_of_ne_zero (fun e => by rw [e, Nat.mul_zero] at hk; exact Nat.not_lt_zero _ hk)
    have hi : k / w < h := Nat.div_lt_of_lt_mul (by rw [Nat.mul_comm]; exact hk)
    have e : k / w * w + k % w = k := by rw [Nat.mul_comm]; exact Nat.div_add_mod k w
    rw [← e, t.get? hi (Nat.mod_lt _ hw), t'.get? hi (Nat.mod_lt _ hw)]
  · rw [List.getElem?_eq_none (by rw [t.len]; exact Nat.le_of_not_lt hk),
      List.getElem?_eq_none (by rw [t'.len]; exact Nat.le_of_not_lt hk)]

theorem Tab.set {l : List α} {h w : Nat} {f : Nat → Nat → α} (t : Tab l h w f) {i j : Nat} (hi : i < h)
    (hj : j < w) (v : α) :
    Tab (l.set (i * w + j) v) h w (fun i' j' => if i' = i ∧ j' = j then v else f i' j') := by
  have hlt : i * w + j < l.length := by rw [t.len]; exact DivMod.mul_add_lt_mul hj hi
  refine ⟨by rw [List.length_set]; exact t.len, fun i' j' hi' hj' => ?_⟩
  rw [List.getD_eq_getElem?_getD]
  by_cases e : i' = i ∧ j' = j
  · rw [if_pos e, e.1, e.2, List.getElem?_set_self hlt]; rfl
  · rw [if_neg e, List.getElem?_set_ne, ← List.getD_eq_getElem?_getD]
    · exact t.cell i' j' hi' hj'
    · intro heq
      have := rowmajor_inj hj hj' heq
      exact e ⟨this.1.symm, this.2.symm⟩

theorem Tab.cons {row l : List α} {h w : Nat} {f g : Nat → Nat → α} (hr : row.length = w) (t : Tab l h w f)
    (h0 : ∀ j, j < w → row.getD j default = g 0 j) (hs : ∀ i j, i < h → j < w → f i j = g (i + 1) j) :
    Tab (row ++ l) (h + 1) w g := by
  refine ⟨by rw [List.length_append, hr, t.len, Nat.succ_mul, Nat.add_comm], fun i j hi hj => ?_⟩
  rw [List.getD_eq_getElem?_getD]
  cases i with
  | zero =>
    rw [Nat.zero_mul, Nat.zero_add, List.getElem?_append_left (hr ▸ hj), ← List.getD_eq_getElem?_getD]
    exact h0 j hj
  | succ i =>
    rw [Nat.succ_mul, Nat.add_right_comm, List.getElem?_append_right (hr ▸ Nat.le_add_left _ _), hr,
      Nat.add_sub_cancel, ← List.getD_eq_getElem?_getD]
    exact (t.cell i j (Nat.lt_of_succ_lt_succ hi) hj).trans (hs i j (Nat.lt_of_succ_lt_succ hi) hj)

theorem rel_eq_iff {a i p : Nat} (h : a ≤ p) : i = p - a ↔ a + i = p :=
  ⟨fun e => e ▸ Nat.add_sub_of_le h, fun e => e ▸ (Nat.add_sub_cancel_left ..).symm⟩

theorem Tab.rng {sr sc er ec : Nat} {l : List α} {g : Nat → Nat → α} (h1 : sr ≤ er) (h2 : sc ≤ ec)
    (t : Tab l (er - sr + 1) (ec - sc + 1) (fun i j => g (sr + i) (sc + j)))
    (hout : ∀ p q, ¬ (sr ≤ p ∧ p ≤ er ∧ sc ≤ q ∧ q ≤ ec) → g p q = default) :
    Inv (⟨sr, sc, er, ec, l⟩ : Rng α) ∧ l.length ≠ 0 ∧ ∀ p q, (⟨sr, sc, er, ec, l⟩ : Rng α).valAt p q = g p q := by
  obtain ⟨hinv, hne⟩ := inv_of_len (⟨sr, sc, er, ec, l⟩ : Rng α) h1 h2 t.len
  refine ⟨hinv, hne, fun p q => ?_⟩
  by_cases hin : sr ≤ p ∧ p ≤ er ∧ sc ≤ q ∧ q ≤ ec
  · have := t.cell (p - sr) (q - sc) (sub_lt_span_of_le _ hin.2.1) (sub_lt_span_of_le _ hin.2.2.2)
    rw [Nat.add_sub_of_le hin.1, Nat.add_sub_of_le hin.2.2.1] at this
    rw [valAt_of_in _ p q hne hin, hinv.width_eq hne]; exact this
  · rw [valAt_of_out _ p q (fun c => hin c.2), hout p q hin]

theorem Inv.tab {r : Rng α} (hi : Inv r) (hne : r.inner.length ≠ 0) :
    Tab r.inner (r.er - r.sr + 1) (r.ec - r.sc + 1) (fun i j => r.valAt (r.sr + i) (r.sc + j)) := by
  obtain ⟨o1, o2⟩ := hi.ord hne
  refine ⟨hi.len_eq hne, fun i j h1 h2 => ?_⟩
  rw [valAt_of_in r _ _ hne (add_in_span o1 o2 h1 h2), Nat.add_sub_cancel_left, Nat.add_sub_cancel_left,
    hi.width_eq hne]

theorem Tab.pad {l : List α} {k w : Nat} {f : Nat → Nat → α} (t : Tab l k w f) (extra m : Nat) :
    Tab (padRows w extra k l ++ List.replicate ((w + extra) * m) default) (k + m) (w + extra)
      (fun i j => if i < k ∧ j < w then f i j else default) := by
  have hp := padRows_length w extra k l t.len
  refine ⟨by rw [List.length_append, hp, List.length_replicate, Nat.mul_comm (w + extra), ← Nat.add_mul],
    fun i j _ hj => ?_⟩
  rw [List.getD_eq_getElem?_getD]
  by_cases hi : i < k
  · rw [List.getElem?_append_left (by rw [hp]; exact DivMod.mul_add_lt_mul hj hi), padRows_get w extra k l t.len i j hi hj]
    by_cases hjw : j < w
    · rw [if_pos hjw, if_pos ⟨hi, hjw⟩, ← List.getD_eq_getElem?_getD]; exact t.cell i j hi hjw
    · rw [if_neg hjw, if_neg (fun h => hjw h.2)]; rfl
  · rw [if_neg (fun h => hi h.1), List.getElem?_append_right (by
        rw [hp]; exact Nat.le_trans (Nat.mul_le_mul_right _ (Nat.le_of_not_lt hi)) (Nat.le_add_right ..)),
      List.getElem?_replicate]
    split <;> rfl

theorem rng_ext (r1 r2 : Rng α) (h1 : Inv r1) (h2 : Inv r2) (hne : r1.inner.length ≠ 0)
    (hne2 : r2.inner.length ≠ 0)
    (hb : r1.sr = r2.sr ∧ r1.sc = r2.sc ∧ r1.er = r2.er ∧ r1.ec = r2.ec)
    (hv : ∀ p q, r1.valAt p q = r2.valAt p q) : r1 = r2 := by
  obtain ⟨a, b, c, d, i1⟩ := r1
  obtain ⟨a', b', c', d', i2⟩ := r2
  obtain ⟨rfl, rfl, rfl, rfl⟩ := hb
  exact congrArg _ ((h1.tab hne).ext ((h2.tab hne2).congr (fun i j _ _ => (hv _ _).symm)))

/-- the assignment that ends `set_value` -/
def Rng.setAt (g : Rng α) (row col : Nat) (v : α) : Rng α :=
  { g with inner := g.inner.set ((row - g.sr) * g.width + (col - g.sc)) v }

theorem setAt_spec (g : Rng α) (hi : Inv g) (hne : g.inner.length ≠ 0) (row col : Nat)
    (hin : g.sr ≤ row ∧ row ≤ g.er ∧ g.sc ≤ col ∧ col ≤ g.ec) (v : α) :
    Inv (g.setAt row col v) ∧ (g.setAt row col v).inner.length ≠ 0 ∧
    ∀ p q, (g.setAt row col v).valAt p q = if p = row ∧ q = col then v else g.valAt p q := by
  obtain ⟨o1, o2⟩ := hi.ord hne
  have t := ((hi.tab hne).set (sub_lt_span_of_le g.sr hin.2.1) (sub_lt_span_of_le g.sc hin.2.2.2) v).congr
    (g := fun i j => (fun p q => if p = row ∧ q = col then v else g.valAt p q) (g.sr + i) (g.sc + j))
    (fun i j _ _ => by simp only [rel_eq_iff hin.1, rel_eq_iff hin.2.2.1])
  rw [Rng.setAt, hi.width_eq hne]
  exact Tab.rng o1 o2 t (fun p q hb => by
    rw [if_neg (fun (e : p = row ∧ q = col) => hb (e.1 ▸ e.2 ▸ hin)), valAt_of_out g p q (fun c => hb c.2)])

/-- the three arms of the resizing `match` in one: rows are padded up to the new last column (by nothing if
    it is the old one), then whole rows are appended down to the new last row -/
theorem grow_eq (r : Rng α) (row col : Nat) (hi : Inv r) (hne : r.inner.length ≠ 0) :
    grow r row col = ⟨r.sr, r.sc, max r.er row, max r.ec col,
      padRows (r.ec - r.sc + 1) (max r.ec col - r.ec) (r.er - r.sr + 1) r.inner ++
        List.replicate ((max r.ec col - r.sc + 1) * (max r.er row - r.er)) default⟩ := by
  obtain ⟨o1, o2⟩ := hi.ord hne
  have hlen := hi.len_eq hne
  unfold grow
  rw [hi.nChunks_eq hne, hi.width_eq hne, hi.height_eq hne]
  by_cases hc : r.ec < col
  · rw [if_pos hc, Nat.max_eq_right (Nat.le_of_lt hc)]
    by_cases hr : r.er < row
    · simp only [if_pos hr, span_sub _ o1, span_sub _ o2, Nat.max_eq_right (Nat.le_of_lt hr)]
    · simp only [if_neg hr, span_sub _ o2, Nat.sub_self, Nat.max_eq_left (Nat.le_of_not_lt hr)]
  · rw [if_neg hc, Nat.max_eq_left (Nat.le_of_not_lt hc), Nat.sub_self, padRows_zero _ _ _ hlen]
    by_cases hr : r.er < row
    · rw [if_pos hr, Nat.max_eq_right (Nat.le_of_lt hr), Nat.mul_comm]
    · rw [if_neg hr, Nat.max_eq_left (Nat.le_of_not_lt hr), Nat.sub_self, Nat.mul_zero, List.replicate_zero,
        List.append_nil]

theorem grow_of_le (r : Rng α) (row col : Nat) (h1 : row ≤ r.er) (h2 : col ≤ r.ec) : grow r row col = r := by
  unfold grow; rw [if_neg (by omega), if_neg (by omega)]

theorem grow_spec (r : Rng α) (row col : Nat) (hi : Inv r) (hne : r.inner.length ≠ 0) :
    Inv (grow r row col) ∧ (grow r row col).inner.length ≠ 0 ∧
    ∀ p q, (grow r row col).valAt p q = r.valAt p q := by
  obtain ⟨o1, o2⟩ := hi.ord hne
  have t := ((hi.tab hne).pad (max r.ec col - r.ec) (max r.er row - r.er)).congr
    (g := fun i j => r.valAt (r.sr + i) (r.sc + j)) (fun i j _ _ => by
      split
      · rfl
      · rename_i h
        exact (valAt_of_out r _ _ (fun c => h ⟨Nat.lt_succ_of_le (Nat.le_sub_of_add_le' c.2.2.1),
          Nat.lt_succ_of_le (Nat.le_sub_of_add_le' c.2.2.2.2)⟩)).symm)
  rw [span_add o2 (Nat.le_max_left ..), span_add o1 (Nat.le_max_left ..)] at t
  rw [grow_eq r row col hi hne]
  exact Tab.rng (Nat.le_trans o1 (Nat.le_max_left ..)) (Nat.le_trans o2 (Nat.le_max_left ..)) t
    (fun p q hout => valAt_of_out r p q (fun c => hout ⟨c.2.1, Nat.le_trans c.2.2.1 (Nat.le_max_left ..), c.2.2.2.1,
      Nat.le_trans c.2.2.2.2 (Nat.le_max_left ..)⟩))

theorem grow_corners (r : Rng α) (row col : Nat) (hi : Inv r) (hne : r.inner.length ≠ 0) :
    (grow r row col).sr = r.sr ∧ (grow r row col).sc = r.sc ∧ (grow r row col).er = max r.er row ∧
    (grow r row col).ec = max r.ec col := by
  rw [grow_eq r row col hi hne]; exact ⟨rfl, rfl, rfl, rfl⟩

theorem setValue_ok (r : Rng α) (row col : Nat) (v : α) (r2 : Rng α) (h : setValue r row col v = .ok r2) :
    (r.sr ≤ row ∧ r.sc ≤ col) ∧ r.inner.length ≠ 0 ∧ r2 = (grow r row col).setAt row col v := by
  unfold setValue at h
  obtain ⟨hpre, h⟩ := Res.ok_of_panic_ite h
  obtain ⟨hne, h⟩ := Res.ok_of_panic_ite h
  obtain ⟨_, h⟩ := Res.ok_of_panic_ite h
  by_cases hidx : (row - (grow r row col).sr) * (grow r row col).width + (col - (grow r row col).sc) <
      (grow r row col).inner.length
  · rw [if_pos hidx] at h
    injection h with h
    exact ⟨Classical.not_not.mp hpre, hne, h.symm⟩
  · rw [if_neg hidx] at h; cases h

theorem copySlice_length (dst src : List α) (dOff sOff n : Nat) (hd : dOff + n ≤ dst.length)
    (hs : sOff + n ≤ src.length) : (copySlice dst src dOff sOff n).length = dst.length := by
  simp only [copySlice, List.length_append, List.length_take, List.length_drop]; omega

theorem copySlice_get (dst src : List α) (dOff sOff n : Nat) (hd : dOff + n ≤ dst.length)
    (hs : sOff + n ≤ src.length) (i : Nat) :
    (copySlice dst src dOff sOff n)[i]? =
      if dOff ≤ i ∧ i < dOff + n then src[sOff + (i - dOff)]? else dst[i]? := by
  unfold copySlice
  have h1 : (dst.take dOff).length = dOff := by rw [List.length_take]; omega
  have h2 : ((src.drop sOff).take n).length = n := by rw [List.length_take, List.length_drop]; omega
  rw [List.append_assoc]
  by_cases ha : i < dOff
  · rw [List.getElem?_append_left (by rw [h1]; exact ha), List.getElem?_take, if_pos ha,
      if_neg (fun c => Nat.not_lt_of_le c.1 ha)]
  · have ha' := Nat.le_of_not_lt ha
    rw [List.getElem?_append_right (by rw [h1]; exact ha'), h1]
    by_cases hb : i < dOff + n
    · have hb' : i - dOff < n := Nat.sub_lt_left_of_lt_add ha' hb
      rw [List.getElem?_append_left (by rw [h2]; exact hb'), List.getElem?_take, if_pos hb', List.getElem?_drop,
        if_pos ⟨ha', hb⟩]
    · have hb' : n ≤ i - dOff := Nat.le_sub_of_add_le' (Nat.le_of_not_lt hb)
      rw [List.getElem?_append_right (by rw [h2]; exact hb'), h2, List.getElem?_drop, if_neg (fun c => hb c.2)]
      congr 1; omega

theorem not_in_other_row {p r w q c n : Nat} (hq : q < w) (hc : c + n ≤ w) (hne : p ≠ r) :
    ¬ (r * w + c ≤ p * w + q ∧ p * w + q < r * w + c + n) := by
  rcases Nat.lt_or_gt_of_ne hne with h | h
  · have := DivMod.mul_add_lt_mul hq h; omega
  · have := Nat.mul_le_mul_right w (Nat.succ_le_of_lt h)
    rw [Nat.succ_mul] at this; omega

/-- one round of the row loop of `range` -/
theorem Tab.copySlice {src dst : List α} {sh sw dh dw : Nat} {f g : Nat → Nat → α} (ts : Tab src sh sw f)
    (td : Tab dst dh dw g) {R S dc sc_ nc : Nat} (hR : R < dh) (hS : S < sh) (hdc : dc + nc ≤ dw)
    (hsc : sc_ + nc ≤ sw) :
    Tab (copySlice dst src (R * dw + dc) (S * sw + sc_) nc) dh dw
      (fun p q => if p = R ∧ dc ≤ q ∧ q < dc + nc then f S (sc_ + (q - dc)) else g p q) := by
  have hD : R * dw + dc + nc ≤ dst.length := by
    rw [td.len, Nat.add_assoc]
    exact Nat.le_trans (Nat.add_le_add_left hdc _) (Nat.succ_mul R dw ▸ Nat.mul_le_mul_right _ hR)
  have hS' : S * sw + sc_ + nc ≤ src.length := by
    rw [ts.len, Nat.add_assoc]
    exact Nat.le_trans (Nat.add_le_add_left hsc _) (Nat.succ_mul S sw ▸ Nat.mul_le_mul_right _ hS)
  refine ⟨(copySlice_length dst src _ _ nc hD hS').trans td.len, fun p q hp hq => ?_⟩
  rw [List.getD_eq_getElem?_getD, copySlice_get dst src _ _ nc hD hS']
  by_cases hpR : p = R
  · rw [hpR]
    by_cases hq2 : dc ≤ q ∧ q < dc + nc
    · rw [if_pos ⟨Nat.add_le_add_left hq2.1 _, by rw [Nat.add_assoc]; exact Nat.add_lt_add_left hq2.2 _⟩,
        if_pos ⟨rfl, hq2⟩, Nat.add_sub_add_left, Nat.add_assoc, ← List.getD_eq_getElem?_getD]
      exact ts.cell S _ hS (Nat.lt_of_lt_of_le (Nat.add_lt_add_left (Nat.sub_lt_left_of_lt_add hq2.1 hq2.2) _) hsc)
    · rw [if_neg (fun c => hq2 ⟨Nat.le_of_add_le_add_left c.1,
          Nat.lt_of_add_lt_add_left (by rw [← Nat.add_assoc]; exact c.2)⟩), if_neg (fun c => hq2 c.2),
        ← List.getD_eq_getElem?_getD]
      exact td.cell R q hR hq
  · rw [if_neg (not_in_other_row hq hdc hpR), if_neg (fun c => hpR c.1), ← List.getD_eq_getElem?_getD]
    exact td.cell p q hp hq

/-- the row loop of `range`. The model runs the rows last to first, the Rust `zip` first to last; the rows written are
    disjoint, so the order does not matter and the statement does not mention it -/
theorem Tab.copyRows {src : List α} {sh sw dh dw : Nat} {f : Nat → Nat → α} (ts : Tab src sh sw f)
    {dr sr_ dc sc_ nc : Nat} (hdc : dc + nc ≤ dw) (hsc : sc_ + nc ≤ sw) :
    ∀ (k : Nat) (dst : List α) (g : Nat → Nat → α), Tab dst dh dw g → dr + k ≤ dh → sr_ + k ≤ sh →
    Tab (Range.copyRows src dw sw dr sr_ dc sc_ nc k dst) dh dw (fun p q =>
      if dr ≤ p ∧ p < dr + k ∧ dc ≤ q ∧ q < dc + nc then f (sr_ + (p - dr)) (sc_ + (q - dc)) else g p q)
  | 0, _, _, td, _, _ => td.congr (fun _ _ _ _ => (if_neg (fun c => Nat.not_lt_of_le c.1 c.2.1)).symm)
  | k+1, dst, g, td, hd, hs => by
    rw [Range.copyRows]
    refine (Tab.copyRows ts hdc hsc k _ _ (ts.copySlice td (R := dr + k) (S := sr_ + k) hd hs hdc hsc)
      (Nat.le_of_lt hd) (Nat.le_of_lt hs)).congr (fun p q _ _ => ?_)
    by_cases hpk : p = dr + k
    · rw [if_neg (fun c => Nat.ne_of_lt c.2.1 hpk), hpk]
      by_cases hq2 : dc ≤ q ∧ q < dc + nc
      · rw [if_pos ⟨rfl, hq2⟩, if_pos ⟨Nat.le_add_right .., Nat.lt_succ_self _, hq2⟩, Nat.add_sub_cancel_left]
      · rw [if_neg (fun c => hq2 c.2), if_neg (fun c => hq2 c.2.2)]
    · by_cases hin : dr ≤ p ∧ p < dr + k ∧ dc ≤ q ∧ q < dc + nc
      · rw [if_pos hin, if_pos ⟨hin.1, Nat.lt_succ_of_lt hin.2.1, hin.2.2⟩]
      · rw [if_neg hin, if_neg (fun c => hpk c.1),
          if_neg (fun c => hin ⟨c.1, Nat.lt_of_le_of_ne (Nat.le_of_lt_succ c.2.1) hpk, c.2.2⟩)]

/-- one dimension of the arguments `range` hands to `copyRows`: `M..=E` is the part common to a source that
    starts at `a` and a destination that starts at `b`. The destination's `i`-th line is among those written
    exactly when `b + i` lies in the common part, and then the source line read is the one of `b + i`. -/
theorem window_1d {a b i M E : Nat} (h1 : a ≤ M) (h2 : b ≤ M) (hov : M ≤ E) :
    ((M - b ≤ i ∧ i < M - b + (E + 1 - M)) ↔ (M ≤ b + i ∧ b + i ≤ E)) ∧
    (M ≤ b + i → M - a + (i - (M - b)) = b + i - a) := by
  omega

theorem window_le {b M E f : Nat} (h1 : b ≤ M) (h2 : M ≤ E) (h3 : E ≤ f) :
    M - b + (E + 1 - M) ≤ f - b + 1 := by omega

theorem new_ok (sr sc er ec : Nat) (r : Rng α) (h : new sr sc er ec = .ok r) :
    r = ⟨sr, sc, er, ec, List.replicate ((er - sr + 1) * (ec - sc + 1)) default⟩ ∧ sr ≤ er ∧ sc ≤ ec ∧
    er - sr + 1 < U32 ∧ ec - sc + 1 < U32 ∧ (er - sr + 1) * (ec - sc + 1) < U32 := by
  unfold new at h
  obtain ⟨h1, h⟩ := Res.ok_of_panic_ite h
  obtain ⟨h2, h⟩ := Res.ok_of_panic_ite h
  obtain ⟨h3, h⟩ := Res.ok_of_panic_ite h
  obtain ⟨h4, h⟩ := Res.ok_of_panic_ite h
  injection h with h
  exact ⟨h.symm, (Classical.not_not.mp h1).elim Nat.le_of_lt (fun c => Nat.le_of_eq c.1), Nat.le_of_not_lt h2,
    Nat.lt_of_not_le (fun c => h3 (Or.inl c)), Nat.lt_of_not_le (fun c => h3 (Or.inr c)), Nat.lt_of_not_le h4⟩

theorem new_of_pre (sr sc er ec : Nat) (h : rectPre sr sc er ec) :
    (new sr sc er ec : Res (Rng α)) = .ok ⟨sr, sc, er, ec, List.replicate ((er - sr + 1) * (ec - sc + 1)) default⟩ := by
  obtain ⟨h1, h2, h3, h4, h5⟩ := h
  unfold new
  rw [if_neg (by omega), if_neg (by omega), if_neg (by omega), if_neg (by omega)]

theorem range_pre (r : Rng α) (sr sc er ec : Nat) (r' : Rng α) (h : range r sr sc er ec = .ok r') :
    rectPre sr sc er ec := by
  unfold range at h
  cases hnew : (new sr sc er ec : Res (Rng α)) with
  | ok other => exact (new_ok sr sc er ec other hnew).2
  | err e => rw [hnew] at h; cases h
  | panic e => rw [hnew] at h; cases h
  | outOfFuel => rw [hnew] at h; cases h

theorem range_eq (r : Rng α) (sr sc er ec : Nat) (h : rectPre sr sc er ec) :
    range r sr sc er ec = .ok ⟨sr, sc, er, ec,
      if r.inner.length = 0 ∨ max r.sr sr > min r.er er ∨ max r.sc sc > min r.ec ec then
        List.replicate ((er - sr + 1) * (ec - sc + 1)) default
      else copyRows r.inner (ec - sc + 1) r.width (max r.sr sr - sr) (max r.sr sr - r.sr)
        (max r.sc sc - sc) (max r.sc sc - r.sc) (min r.ec ec + 1 - max r.sc sc) (min r.er er + 1 - max r.sr sr)
        (List.replicate ((er - sr + 1) * (ec - sc + 1)) default)⟩ := by
  have hw : (⟨sr, sc, er, ec, List.replicate ((er - sr + 1) * (ec - sc + 1)) default⟩ : Rng α).width =
      ec - sc + 1 := if_neg (by rw [List.length_replicate]; exact rect_ne_zero _ _)
  unfold range
  rw [new_of_pre sr sc er ec h]
  simp only [hw]
  by_cases h0 : r.inner.length = 0
  · rw [if_pos h0, if_pos (Or.inl h0)]
  · rw [if_neg h0]
    by_cases hd : max r.sr sr > min r.er er ∨ max r.sc sc > min r.ec ec
    · rw [if_pos hd, if_pos (Or.inr hd)]
    · rw [if_neg hd, if_neg (fun h => h.elim h0 hd)]

theorem range_of_pre (r : Rng α) (sr sc er ec : Nat) (h : rectPre sr sc er ec) :
    ∃ r', range r sr sc er ec = .ok r' := ⟨_, range_eq r sr sc er ec h⟩

theorem range_core (r : Rng α) (hi : Inv r) (sr sc er ec : Nat) (r' : Rng α)
    (h : range r sr sc er ec = .ok r') :
    (r'.sr = sr ∧ r'.sc = sc ∧ r'.er = er ∧ r'.ec = ec) ∧ Inv r' ∧ r'.inner.length ≠ 0 ∧
    ∀ p q, r'.valAt p q = if sr ≤ p ∧ p ≤ er ∧ sc ≤ q ∧ q ≤ ec then r.valAt p q else default := by
  have hpre := range_pre r sr sc er ec r' h
  rw [range_eq r sr sc er ec hpre] at h
  injection h with h; subst h
  obtain ⟨h1, h2, _⟩ := hpre
  refine ⟨⟨rfl, rfl, rfl, rfl⟩, Tab.rng
    (g := fun p q => if sr ≤ p ∧ p ≤ er ∧ sc ≤ q ∧ q ≤ ec then r.valAt p q else default) h1 h2 ?_
    (fun p q ho => if_neg ho)⟩
  by_cases hd : r.inner.length = 0 ∨ max r.sr sr > min r.er er ∨ max r.sc sc > min r.ec ec
  · rw [if_pos hd]
    refine (Tab.replicate ..).congr (fun i j hi' hj' => ?_)
    have hb := add_in_span h1 h2 hi' hj'
    rw [if_pos hb, valAt_of_out r]
    -- a position in both rectangles is in the common part
    intro c
    rcases hd with h0 | h | h
    · exact c.1 h0
    · exact Nat.not_le_of_lt h (Nat.le_trans (Nat.max_le.mpr ⟨c.2.1, hb.1⟩) (Nat.le_min.mpr ⟨c.2.2.1, hb.2.1⟩))
    · exact Nat.not_le_of_lt h (Nat.le_trans (Nat.max_le.mpr ⟨c.2.2.2.1, hb.2.2.1⟩)
        (Nat.le_min.mpr ⟨c.2.2.2.2, hb.2.2.2⟩))
  · rw [if_neg hd]
    have hne : r.inner.length ≠ 0 := fun h0 => hd (Or.inl h0)
    have hov1 : max r.sr sr ≤ min r.er er := Nat.le_of_not_lt fun h => hd (Or.inr (Or.inl h))
    have hov2 : max r.sc sc ≤ min r.ec ec := Nat.le_of_not_lt fun h => hd (Or.inr (Or.inr h))
    rw [hi.width_eq hne]
    refine ((hi.tab hne).copyRows
      (window_le (Nat.le_max_right ..) hov2 (Nat.min_le_right ..))
      (window_le (Nat.le_max_left ..) hov2 (Nat.min_le_left ..)) _ _ _ (Tab.replicate ..)
      (window_le (Nat.le_max_right ..) hov1 (Nat.min_le_right ..))
      (window_le (Nat.le_max_left ..) hov1 (Nat.min_le_left ..))).congr (fun i j hi' hj' => ?_)
    have hb := add_in_span h1 h2 hi' hj'
    obtain ⟨ri, rs⟩ := window_1d (i := i) (Nat.le_max_left r.sr sr) (Nat.le_max_right ..) hov1
    obtain ⟨ci, cs⟩ := window_1d (i := j) (Nat.le_max_left r.sc sc) (Nat.le_max_right ..) hov2
    rw [if_pos hb]
    -- inside the source the window tests hold (`ri`, `ci` from right to left) and the cell read is that of
    -- `(sr + i, sc + j)` (`rs`, `cs`); outside it a window test fails and the source shows the default
    by_cases hin : (r.sr ≤ sr + i ∧ sr + i ≤ r.er) ∧ (r.sc ≤ sc + j ∧ sc + j ≤ r.ec)
    · have hr := Nat.max_le.mpr ⟨hin.1.1, hb.1⟩
      have hc := Nat.max_le.mpr ⟨hin.2.1, hb.2.2.1⟩
      rw [if_pos ⟨(ri.mpr ⟨hr, Nat.le_min.mpr ⟨hin.1.2, hb.2.1⟩⟩).1, (ri.mpr ⟨hr, Nat.le_min.mpr ⟨hin.1.2, hb.2.1⟩⟩).2,
          ci.mpr ⟨hc, Nat.le_min.mpr ⟨hin.2.2, hb.2.2.2⟩⟩⟩, rs hr, cs hc, Nat.add_sub_of_le hin.1.1,
        Nat.add_sub_of_le hin.2.1]
    · rw [if_neg, valAt_of_out r _ _ (fun c => hin ⟨⟨c.2.1, c.2.2.1⟩, c.2.2.2⟩)]
      intro c
      have hr := ri.mp ⟨c.1, c.2.1⟩
      have hc := ci.mp c.2.2
      exact hin ⟨⟨(Nat.max_le.mp hr.1).1, (Nat.le_min.mp hr.2).1⟩, (Nat.max_le.mp hc.1).1, (Nat.le_min.mp hc.2).1⟩

theorem lastAt_eq_none (cells : List (Nat × Nat × α)) (p q : Nat) (h : ∀ c ∈ cells, ¬ (c.1 = p ∧ c.2.1 = q)) :
    lastAt cells p q = none := by
  unfold lastAt
  rw [Option.map_eq_none_iff, List.find?_eq_none]
  intro c hc
  rw [decide_eq_true_eq]
  exact h c (List.mem_reverse.mp hc)

/-- the four bound loops of `from_sparse`, for an order `le` in which `pick x m` is the lesser of `x` and `m` -/
theorem foldPick_spec {β : Type} (f : β → Nat) (pick : Nat → Nat → Nat) (le : Nat → Nat → Prop)
    (hrefl : ∀ a, le a a) (htrans : ∀ {a b c}, le a b → le b c → le a c)
    (hpick : ∀ x m, le (pick x m) m ∧ le (pick x m) x ∧ (pick x m = m ∨ pick x m = x)) :
    ∀ (l : List β) (m : Nat),
    le (l.foldl (fun m c => pick (f c) m) m) m ∧ (∀ c ∈ l, le (l.foldl (fun m c => pick (f c) m) m) (f c)) ∧
    (l.foldl (fun m c => pick (f c) m) m = m ∨ ∃ c ∈ l, f c = l.foldl (fun m c => pick (f c) m) m)
  | [], m => ⟨hrefl m, fun _ h => (by cases h), Or.inl rfl⟩
  | a :: l, m => by
    obtain ⟨h1, h2, h3⟩ := foldPick_spec f pick le hrefl htrans hpick l (pick (f a) m)
    obtain ⟨p1, p2, p3⟩ := hpick (f a) m
    rw [List.foldl_cons]
    refine ⟨htrans h1 p1, fun c hc => ?_, ?_⟩
    · rcases List.mem_cons.mp hc with rfl | hc
      · exact htrans h1 p2
      · exact h2 c hc
    · rcases h3 with h3 | ⟨c, hc, h3⟩
      · exact p3.elim (fun e => Or.inl (h3.trans e)) (fun e => Or.inr ⟨a, List.mem_cons_self .., (h3.trans e).symm⟩)
      · exact Or.inr ⟨c, List.mem_cons_of_mem _ hc, h3⟩

theorem foldMin_attained {β : Type} (f : β → Nat) (l : List β) (a : β) (ha : a ∈ l) :
    (∀ c ∈ l, l.foldl (fun m c => if f c < m then f c else m) (f a) ≤ f c) ∧
    ∃ c ∈ l, f c = l.foldl (fun m c => if f c < m then f c else m) (f a) := by
  obtain ⟨_, h2, h3⟩ := foldPick_spec f (fun x m => if x < m then x else m) (· ≤ ·) Nat.le_refl Nat.le_trans
    (fun x m => by split <;> omega) l (f a)
  exact ⟨h2, h3.elim (fun h => ⟨a, ha, h.symm⟩) id⟩

theorem foldMax_attained {β : Type} (f : β → Nat) (l : List β) (a : β) (ha : a ∈ l) :
    (∀ c ∈ l, f c ≤ l.foldl (fun m c => if f c > m then f c else m) 0) ∧
    ∃ c ∈ l, f c = l.foldl (fun m c => if f c > m then f c else m) 0 := by
  obtain ⟨_, h2, h3⟩ := foldPick_spec f (fun x m => if x > m then x else m) (· ≥ ·) Nat.le_refl
    (fun h1 h2 => Nat.le_trans h2 h1)
    (fun x m => by split <;> omega) l 0
  exact ⟨h2, h3.elim (fun h => ⟨a, ha, Nat.le_antisymm (h2 a ha) (by rw [h]; exact Nat.zero_le _)⟩) id⟩

/-- `(rs, cs)–(re, ce)` is the tight bounding box of `cells` -/
structure BBox (cells : List (Nat × Nat × α)) (rs cs re ce : Nat) : Prop where
  mem : ∀ c ∈ cells, rs ≤ c.1 ∧ c.1 ≤ re ∧ cs ≤ c.2.1 ∧ c.2.1 ≤ ce
  top : ∃ c ∈ cells, c.1 = rs
  bottom : ∃ c ∈ cells, c.1 = re
  left : ∃ c ∈ cells, c.2.1 = cs
  right : ∃ c ∈ cells, c.2.1 = ce

/-- a tight bounding box is determined by what it bounds: each side bounds the element that attains the other box's side -/
theorem box_unique {ι : Type} {M : ι → Prop} {row col : ι → Nat} {rs cs re ce rs' cs' re' ce' : Nat}
    (b : ∀ c, M c → rs ≤ row c ∧ row c ≤ re ∧ cs ≤ col c ∧ col c ≤ ce)
    (t : (∃ c, M c ∧ row c = rs) ∧ (∃ c, M c ∧ row c = re) ∧ (∃ c, M c ∧ col c = cs) ∧ (∃ c, M c ∧ col c = ce))
    (b' : ∀ c, M c → rs' ≤ row c ∧ row c ≤ re' ∧ cs' ≤ col c ∧ col c ≤ ce')
    (t' : (∃ c, M c ∧ row c = rs') ∧ (∃ c, M c ∧ row c = re') ∧ (∃ c, M c ∧ col c = cs') ∧ (∃ c, M c ∧ col c = ce')) :
    rs = rs' ∧ re = re' ∧ cs = cs' ∧ ce = ce' := by
  obtain ⟨⟨x1, m1, e1⟩, ⟨x2, m2, e2⟩, ⟨x3, m3, e3⟩, ⟨x4, m4, e4⟩⟩ := t
  obtain ⟨⟨y1, n1, f1⟩, ⟨y2, n2, f2⟩, ⟨y3, n3, f3⟩, ⟨y4, n4, f4⟩⟩ := t'
  exact ⟨Nat.le_antisymm (f1 ▸ (b y1 n1).1) (e1 ▸ (b' x1 m1).1), Nat.le_antisymm (e2 ▸ (b' x2 m2).2.1) (f2 ▸ (b y2 n2).2.1),
    Nat.le_antisymm (f3 ▸ (b y3 n3).2.2.1) (e3 ▸ (b' x3 m3).2.2.1),
    Nat.le_antisymm (e4 ▸ (b' x4 m4).2.2.2) (f4 ▸ (b y4 n4).2.2.2)⟩

theorem fromSparse_eq (c0 : Nat × Nat × α) (rest : List (Nat × Nat × α)) :
    ∃ rs cs re ce, BBox (c0 :: rest) rs cs re ce ∧
      fromSparse (c0 :: rest) =
        if ce - cs + 1 ≥ U32 then .panic "u32 add overflow"
        else if re - rs + 1 ≥ U32 then .panic "u32 add overflow"
        else .ok ⟨rs, cs, re, ce, (c0 :: rest).foldl
          (sparseStep rs cs (ce - cs + 1) ((ce - cs + 1) * (re - rs + 1)))
          (List.replicate ((ce - cs + 1) * (re - rs + 1)) default)⟩ := by
  have hm : c0 ∈ c0 :: rest := List.mem_cons_self ..
  obtain ⟨a1, a2⟩ := foldMin_attained (fun c : Nat × Nat × α => c.1) (c0 :: rest) c0 hm
  obtain ⟨b1, b2⟩ := foldMax_attained (fun c : Nat × Nat × α => c.1) (c0 :: rest) c0 hm
  obtain ⟨c1, c2⟩ := foldMin_attained (fun c : Nat × Nat × α => c.2.1) (c0 :: rest) c0 hm
  obtain ⟨d1, d2⟩ := foldMax_attained (fun c : Nat × Nat × α => c.2.1) (c0 :: rest) c0 hm
  exact ⟨_, _, _, _, ⟨fun c hc => ⟨a1 c hc, b1 c hc, c1 c hc, d1 c hc⟩, a2, b2, c2, d2⟩, rfl⟩

theorem fromSparse_ok_or_panic (cells : List (Nat × Nat × α)) :
    (∃ r, fromSparse cells = .ok r) ∨ ∃ s, fromSparse cells = .panic s := by
  cases cells with
  | nil => exact Or.inl ⟨empty, rfl⟩
  | cons c0 rest =>
    obtain ⟨rs, cs, re, ce, _, h⟩ := fromSparse_eq c0 rest
    rw [h]
    split
    · exact Or.inr ⟨_, rfl⟩
    · split
      · exact Or.inr ⟨_, rfl⟩
      · exact Or.inl ⟨_, rfl⟩

theorem fromSparse_ne_fuel (cells : List (Nat × Nat × α)) : fromSparse cells ≠ .outOfFuel := by
  rcases fromSparse_ok_or_panic cells with ⟨_, h⟩ | ⟨_, h⟩ <;> rw [h] <;> exact nofun

theorem fromSparse_ne_err (cells : List (Nat × Nat × α)) (e : String) : fromSparse cells ≠ .err e := by
  rcases fromSparse_ok_or_panic cells with ⟨_, h⟩ | ⟨_, h⟩ <;> rw [h] <;> exact nofun

theorem lastAt_cons (c : Nat × Nat × α) (l : List (Nat × Nat × α)) (p q : Nat) :
    lastAt (c :: l) p q = (lastAt l p q).or (if c.1 = p ∧ c.2.1 = q then some c.2.2 else none) := by
  unfold lastAt
  rw [List.reverse_cons, List.find?_append, List.find?_singleton]
  cases l.reverse.find? (fun c => decide (c.1 = p ∧ c.2.1 = q)) with
  | some x => rfl
  | none => by_cases h : c.1 = p ∧ c.2.1 = q <;> simp [h]

/-- the placement loop of `from_sparse`, a fold of `Tab.set` -/
theorem Tab.sparse (rs cs re ce : Nat) : ∀ (cells : List (Nat × Nat × α)) (v : List α) (f : Nat → Nat → α),
    Tab v (re - rs + 1) (ce - cs + 1) f →
    (∀ c ∈ cells, rs ≤ c.1 ∧ c.1 ≤ re ∧ cs ≤ c.2.1 ∧ c.2.1 ≤ ce) →
    Tab (cells.foldl (sparseStep rs cs (ce - cs + 1) ((ce - cs + 1) * (re - rs + 1))) v) (re - rs + 1) (ce - cs + 1)
      (fun i j => (lastAt cells (rs + i) (cs + j)).getD (f i j))
  | [], _, _, t, _ => t
  | c :: rest, v, f, t, hmem => by
    have hc := hmem c (List.mem_cons_self ..)
    have hr := sub_lt_span_of_le rs hc.2.1
    have hq := sub_lt_span_of_le cs hc.2.2.2
    have hstep : sparseStep rs cs (ce - cs + 1) ((ce - cs + 1) * (re - rs + 1)) v c =
        v.set ((c.1 - rs) * (ce - cs + 1) + (c.2.1 - cs)) c.2.2 :=
      if_pos (by rw [Nat.mul_comm (ce - cs + 1) (re - rs + 1)]; exact DivMod.mul_add_lt_mul hq hr)
    rw [List.foldl_cons, hstep]
    refine (Tab.sparse rs cs re ce rest _ _ (t.set hr hq c.2.2)
      (fun x hx => hmem x (List.mem_cons_of_mem _ hx))).congr (fun i j _ _ => ?_)
    rw [lastAt_cons]
    cases lastAt rest (rs + i) (cs + j) with
    | some x => rfl
    | none =>
      -- both tests say that `c` sits at `(rs + i, cs + j)`
      simp only [Option.none_or, rel_eq_iff hc.1, rel_eq_iff hc.2.2.1, eq_comm (a := c.1), eq_comm (a := c.2.1)]
      split <;> rfl

theorem fromSparse_core (c0 : Nat × Nat × α) (rest : List (Nat × Nat × α)) (r : Rng α)
    (h : fromSparse (c0 :: rest) = .ok r) :
    BBox (c0 :: rest) r.sr r.sc r.er r.ec ∧ Inv r ∧ r.inner.length ≠ 0 ∧
    ∀ p q, r.valAt p q = (lastAt (c0 :: rest) p q).getD default := by
  obtain ⟨rs, cs, re, ce, hb, heq⟩ := fromSparse_eq c0 rest
  rw [heq] at h
  obtain ⟨_, h⟩ := Res.ok_of_panic_ite h
  obtain ⟨_, h⟩ := Res.ok_of_panic_ite h
  injection h with h; subst h
  have hc0 := hb.mem c0 (List.mem_cons_self ..)
  exact ⟨hb, Tab.rng (g := fun p q => (lastAt (c0 :: rest) p q).getD default)
    (Nat.le_trans hc0.1 hc0.2.1) (Nat.le_trans hc0.2.2.1 hc0.2.2.2)
    (Tab.sparse rs cs re ce (c0 :: rest) _ _ (Nat.mul_comm .. ▸ Tab.replicate ..) hb.mem)
    (fun p q hout => by
      rw [lastAt_eq_none]; · rfl
      exact fun c hc hpq => hout (hpq.1 ▸ hpq.2 ▸ hb.mem c hc))⟩

theorem lastAt_of_pairwise : ∀ (cells : List (Nat × Nat × α)),
    cells.Pairwise (fun a b => ¬ (a.1 = b.1 ∧ a.2.1 = b.2.1)) → ∀ c ∈ cells, lastAt cells c.1 c.2.1 = some c.2.2
  | [], _, _, hc => nomatch hc
  | a :: l, hd, c, hc => by
    obtain ⟨ha, hl⟩ := List.pairwise_cons.mp hd
    rw [lastAt_cons]
    rcases List.mem_cons.mp hc with rfl | hc
    · rw [lastAt_eq_none l _ _ (fun b hb e => ha b hb ⟨e.1.symm, e.2.symm⟩), if_pos ⟨rfl, rfl⟩]; rfl
    · rw [lastAt_of_pairwise l hl c hc]; rfl

/-- what the sheet readers state about the range they build with `from_sparse`, for the empty list and
    non-empty ones alike -/
theorem fromSparse_spec_all (cells : List (Nat × Nat × α)) (r : Rng α) (h : fromSparse cells = .ok r) :
    Inv r ∧ (r.inner.length = 0 ↔ cells = []) ∧
    (∀ c ∈ cells, r.sr ≤ c.1 ∧ c.1 ≤ r.er ∧ r.sc ≤ c.2.1 ∧ c.2.1 ≤ r.ec) ∧
    (cells ≠ [] → (∃ c ∈ cells, c.1 = r.sr) ∧ (∃ c ∈ cells, c.1 = r.er) ∧
      (∃ c ∈ cells, c.2.1 = r.sc) ∧ (∃ c ∈ cells, c.2.1 = r.ec)) ∧
    (∀ p q, r.valAt p q = (lastAt cells p q).getD default) ∧
    (cells.Pairwise (fun a b => ¬ (a.1 = b.1 ∧ a.2.1 = b.2.1)) → ∀ c ∈ cells, r.valAt c.1 c.2.1 = c.2.2) ∧
    (∀ p q, (∀ c ∈ cells, ¬ (c.1 = p ∧ c.2.1 = q)) → r.valAt p q = default) := by
  cases cells with
  | nil =>
    cases h
    exact ⟨⟨rfl, fun h => absurd rfl h⟩, ⟨fun _ => rfl, fun _ => rfl⟩, fun _ hc => absurd hc List.not_mem_nil,
      fun hne => absurd rfl hne, fun _ _ => rfl, fun _ _ hc => absurd hc List.not_mem_nil, fun _ _ _ => rfl⟩
  | cons c0 rest =>
    obtain ⟨hb, hinv, hne, hv⟩ := fromSparse_core c0 rest r h
    exact ⟨hinv, ⟨fun h0 => absurd h0 hne, fun h0 => absurd h0 (List.cons_ne_nil c0 rest)⟩, hb.mem,
      fun _ => ⟨hb.top, hb.bottom, hb.left, hb.right⟩, hv, fun hd c hc => by rw [hv, lastAt_of_pairwise _ hd c hc]; rfl,
      fun p q hno => by rw [hv, lastAt_eq_none _ p q hno]; rfl⟩

theorem fromSparse_valAt (cells : List (Nat × Nat × α)) (r : Rng α) (h : fromSparse cells = .ok r) (p q : Nat) :
    r.valAt p q = (lastAt cells p q).getD default :=
  (fromSparse_spec_all cells r h).2.2.2.2.1 p q

/-- `sparsePreSorted`, the precondition `from_sparse` documented before it accepted cells in any order, implies the
    present one -/
theorem sparsePre_of_old (cells : List (Nat × Nat × α)) (h : sparsePreSorted cells) : sparsePre cells := by
  cases cells with
  | nil => exact ⟨fun _ hc => (by cases hc), fun _ hc => (by cases hc)⟩
  | cons c0 rest =>
    obtain ⟨h1, h2, h3⟩ := h
    refine ⟨fun c hc => ⟨(h1 c hc).2.2.1, (h1 c hc).2.2.2⟩, fun c hc c' hc' => ⟨?_, h3 c hc c' hc'⟩⟩
    have a := h1 c hc; have b := h1 c' hc'
    omega

theorem sparsePre_of_lt (R C : Nat) (hR : R < U32) (hC : C < U32) (cells : List (Nat × Nat × α))
    (h : ∀ c ∈ cells, c.1 < R ∧ c.2.1 < C) : sparsePre cells :=
  have span : ∀ {a b M : Nat}, b < M → M < U32 → b - a + 1 < U32 := fun hb hM =>
    Nat.lt_of_le_of_lt (Nat.le_trans (Nat.succ_le_succ (Nat.sub_le _ _)) hb) hM
  ⟨fun c hc => ⟨Nat.lt_trans (h c hc).1 hR, Nat.lt_trans (h c hc).2 hC⟩,
   fun _ _ c' hc' => ⟨span (h c' hc').1 hR, span (h c' hc').2 hC⟩⟩

/-- sheet coordinates (rows < 2^20, columns < 2^14: `HeaderRow.InSheet`, the second half of `Xlsb.GridSorted`) -/
theorem sparsePre_of_sheet (cells : List (Nat × Nat × α)) (h : ∀ c ∈ cells, c.1 < 1048576 ∧ c.2.1 < 16384) :
    sparsePre cells :=
  sparsePre_of_lt 1048576 16384 (by decide) (by decide) cells h

/-- the hypothesis `hs` of `fromSparse_spec` holds under `sparsePreSorted` -/
theorem rowsBetween_of_old (cells : List (Nat × Nat × α)) (hne : cells ≠ []) (h : sparsePreSorted cells) :
    ∀ c ∈ cells, (cells.head hne).1 ≤ c.1 ∧ c.1 ≤ (cells.getLast hne).1 := by
  cases cells with
  | nil => exact absurd rfl hne
  | cons c0 rest =>
    intro c hc
    have := h.1 c hc
    rw [List.getLast?_eq_some_getLast hne] at this
    exact ⟨this.1, this.2.1⟩

theorem fromSparse_of_pre (cells : List (Nat × Nat × α)) (h : sparsePre cells) :
    ∃ r, fromSparse cells = .ok r := by
  cases cells with
  | nil => exact ⟨empty, rfl⟩
  | cons c0 rest =>
    obtain ⟨rs, cs, re, ce, hb, heq⟩ := fromSparse_eq c0 rest
    obtain ⟨t, ht, e1⟩ := hb.top
    obtain ⟨b, hb', e2⟩ := hb.bottom
    obtain ⟨l, hl, e3⟩ := hb.left
    obtain ⟨r, hr, e4⟩ := hb.right
    have hrows := (h.2 t ht b hb').1
    have hcols := (h.2 l hl r hr).2
    rw [e1, e2] at hrows
    rw [e3, e4] at hcols
    rw [heq, if_neg (Nat.not_le_of_lt hcols), if_neg (Nat.not_le_of_lt hrows)]
    exact ⟨_, rfl⟩

theorem index_eq_get (r : Rng α) (i j : Nat) :
    index r i j = match get r i j with | some v => .ok v | none => .panic "index out of bounds" := by
  unfold index get
  by_cases h : j < r.width ∧ i < r.height
  · rw [if_neg (not_not_intro h), if_neg (fun c => c.elim (Nat.not_le_of_lt h.1) (Nat.not_le_of_lt h.2))]
    cases r.inner[i * r.width + j]? <;> rfl
  · rw [if_pos h, if_pos (by omega)]

theorem chunksN_length (w : Nat) : ∀ (k : Nat) (l : List α), (chunksN w k l).length = k
  | 0, _ => rfl
  | k+1, l => by simp only [chunksN, List.length_cons, chunksN_length w k]

theorem chunksN_get (w : Nat) : ∀ (k : Nat) (l : List α) (i : Nat), i < k →
    (chunksN w k l)[i]? = some ((l.drop (i * w)).take w)
  | 0, _, _, h => by omega
  | k+1, l, 0, _ => by simp [chunksN]
  | k+1, l, i+1, h => by
    simp only [chunksN, List.getElem?_cons_succ]
    rw [chunksN_get w k (l.drop w) i (by omega), List.drop_drop, Nat.succ_mul]
    congr 3; omega

theorem Inv.rows_eq {r : Rng α} (hi : Inv r) : rows r = chunksN r.width r.height r.inner := by
  unfold rows
  by_cases h0 : r.inner.length = 0
  · rw [if_pos h0, show r.height = 0 from if_pos h0]; rfl
  · rw [if_neg h0, hi.nChunks_eq h0]

theorem rows_nil_of_empty {r : Rng α} (h0 : r.inner.length = 0) : rows r = [] := if_pos h0

theorem nonempty_of_row {r : Rng α} {i : Nat} {row : List α} (hr : (rows r)[i]? = some row) :
    r.inner.length ≠ 0 := by
  intro h0; rw [rows_nil_of_empty h0] at hr; cases hr

theorem nonempty_of_rows {r : Rng α} {hd : List α} {rest : List (List α)} (hr : rows r = hd :: rest) :
    r.inner.length ≠ 0 :=
  nonempty_of_row (i := 0) (by rw [hr]; rfl)

theorem start_eq {r : Rng α} (h0 : r.inner.length ≠ 0) : r.start = some (r.sr, r.sc) := if_neg h0

theorem Inv.rows_length {r : Rng α} (hi : Inv r) : (rows r).length = r.height := by
  rw [hi.rows_eq, chunksN_length]

theorem Inv.row_eq {r : Rng α} (hi : Inv r) {i : Nat} {row : List α} (hr : (rows r)[i]? = some row) :
    i < r.height ∧ row = (r.inner.drop (i * r.width)).take r.width := by
  have hlt : i < r.height := by rw [← hi.rows_length]; exact (List.getElem?_eq_some_iff.mp hr).1
  rw [hi.rows_eq, chunksN_get _ _ _ _ hlt] at hr
  exact ⟨hlt, (Option.some.inj hr).symm⟩

theorem Inv.row_length {r : Rng α} (hi : Inv r) {i : Nat} {row : List α} (hr : (rows r)[i]? = some row) :
    row.length = r.width := by
  obtain ⟨hlt, rfl⟩ := hi.row_eq hr
  -- row `i` ends inside the vector
  rw [List.length_take, List.length_drop, hi.len]
  exact Nat.min_eq_left (Nat.le_sub_of_add_le' (Nat.succ_mul i _ ▸ Nat.mul_le_mul_right _ hlt))

theorem cellsFrom_length (w : Nat) : ∀ (l : List α) (s : Nat), (cellsFrom w s l).length = l.length
  | [], _ => rfl
  | _ :: rest, s => by simp only [cellsFrom, List.length_cons, cellsFrom_length w rest]

theorem cellsFrom_get (w : Nat) : ∀ (l : List α) (s i : Nat),
    (cellsFrom w s l)[i]? = l[i]?.map (fun v => ((s + i) / w, (s + i) % w, v))
  | [], _, _ => by simp [cellsFrom]
  | v :: rest, s, 0 => by simp [cellsFrom]
  | v :: rest, s, i+1 => by
    simp only [cellsFrom, List.getElem?_cons_succ]
    rw [cellsFrom_get w rest (s + 1) i]
    have : s + 1 + i = s + (i + 1) := by omega
    rw [this]

end Range
