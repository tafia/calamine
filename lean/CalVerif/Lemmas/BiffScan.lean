import CalVerif.Lemmas.BiffFuel
/-! C02: the workbook-wide scan counter of the sheet loop (`sheetLoopS`, fix edc415f): it agrees with the plain loop
    while the budget lasts (`sheetsFrom_eq` over all sheets), bounds the work on arbitrary bytes, and is never
    exhausted by an encoded workbook: `Reads.sheet` / `sheetRange_encoded` read one encoded substream whatever follows
    it, `SheetAt` places the substreams in a stream, `collect` gathers the per-sheet readings (`sheetsFrom_encoded`,
    `layout_sum_le`). `scanCost`, `withCount`, `SheetAt`, `collect`, defined here, occur in the statements of
    `sheetRangeS_eq` and Props/C02. -/

namespace BiffCells
open Biff

/-- what the loop of one sheet adds to the counter when it completes: the records up to and including the first
    EOF record (or all of them) -/
def scanCost : List Item → Nat
  | [] => 0
  | .fail _ :: _ => 0
  | .record r :: rest => recCost r + (if r.typ = 0x000A then 0 else scanCost rest)

/-- a `Res` with the counter attached to a success -/
def withCount {α : Type} (n : Nat) : Res α → Res (α × Nat)
  | .ok a => .ok (a, n)
  | .err e => .err e
  | .panic m => .panic m
  | .outOfFuel => .outOfFuel

theorem sheetLoopS_eq (env : Env) (limit : Nat) : ∀ (its : List Item) (st : St) (n : Nat),
    n + scanCost its ≤ limit →
    sheetLoopS env limit its st n = withCount (n + scanCost its) (sheetLoop env its st)
  | [], st, n, _ => by simp [sheetLoopS, sheetLoop, scanCost, withCount]
  | .fail e :: _, st, n, _ => by
    cases e <;> rfl
  | .record r :: rest, st, n, h => by
    simp only [scanCost] at h
    have hle : ¬ (n + recCost r > limit) := by omega
    simp only [sheetLoopS, sheetLoop, if_neg hle, scanCost]
    by_cases he : r.typ = 0x000A
    · simp [he, withCount]
    · simp only [if_neg he] at h ⊢
      cases hs : step env st r with
      | ok st' =>
        simp only
        rw [sheetLoopS_eq env limit rest st' (n + recCost r) (by omega)]
        congr 1; omega
      | _ => rfl

theorem scanCost_itemsF : ∀ (fuel : Nat) (s : Bytes), scanCost (itemsF fuel s) ≤ s.length
  | 0, s => by simp [itemsF, scanCost]
  | fuel + 1, s => by
    unfold itemsF
    cases hn : nextRecord s with
    | none => simp [scanCost]
    | some x =>
      cases x with
      | ok p =>
        obtain ⟨r, rest⟩ := p
        have hc : rest.length + recCost r ≤ s.length := (nextRecord_returnsWith s _ hn).of_ok rfl
        have ih := scanCost_itemsF fuel rest
        simp only [scanCost]
        split <;> omega
      | _ => exact Nat.zero_le _

theorem scanCost_items (s : Bytes) : scanCost (items s) ≤ s.length := scanCost_itemsF _ s

theorem sheetRangeS_eq_of_cost (env : Env) (limit : Nat) (s : Bytes) (n : Nat)
    (h : n + scanCost (items s) ≤ limit) :
    sheetRangeS env limit s n = withCount (n + scanCost (items s)) (sheetRange env s) := by
  unfold sheetRangeS
  rw [sheetRange, withFormulaRange_eq, decodeSheet, sheetLoopS_eq env limit (items s) ⟨[], (0, 0)⟩ n h]
  cases hl : sheetLoop env (items s) ⟨[], (0, 0)⟩ with
  | ok cs =>
    simp only [withCount, rangeOf, withFormulaRange_eq]
    cases Range.fromSparse cs <;> rfl
  | _ => rfl

theorem sheetRangeS_eq (env : Env) (limit : Nat) (s : Bytes) (n : Nat) (h : n + s.length ≤ limit) :
    sheetRangeS env limit s n = withCount (n + scanCost (items s)) (sheetRange env s) :=
  sheetRangeS_eq_of_cost env limit s n (Nat.le_trans (Nat.add_le_add_left (scanCost_items s) n) h)

/-- every loop body adds at least 4 to the counter: a sheet that completes has run at most (growth of the counter)/4
    bodies, one that stops early at most (what was left of the budget)/4 + 1 -/
theorem sheetLoopWork_bound (env : Env) (limit : Nat) : ∀ (its : List Item) (st : St) (n : Nat), n ≤ limit →
    4 * sheetLoopWork env limit its st n + n ≤ limit + 4 ∧
    ∀ cs n', sheetLoopS env limit its st n = .ok (cs, n') →
      4 * sheetLoopWork env limit its st n + n ≤ n' ∧ n' ≤ limit
  | [], st, n, h => by
    rw [sheetLoopWork, sheetLoopS]
    exact ⟨by omega, fun cs n' he => by cases he; omega⟩
  | .fail e :: _, st, n, h => by
    rw [sheetLoopWork, sheetLoopS]
    exact ⟨by omega, fun cs n' he => by cases e <;> cases he⟩
  | .record r :: rest, st, n, h => by
    have hc : 4 ≤ recCost r := Nat.le_add_left 4 _
    rw [sheetLoopWork, sheetLoopS]
    by_cases hgt : n + recCost r > limit
    · rw [if_pos hgt, if_pos hgt]; exact ⟨by omega, nofun⟩
    rw [if_neg hgt, if_neg hgt]
    by_cases he : r.typ = 0x000A
    · rw [if_pos he, if_pos he]
      exact ⟨by omega, fun cs n' heq => by cases heq; omega⟩
    rw [if_neg he, if_neg he]
    cases hs : step env st r with
    | ok st' =>
      obtain ⟨b1, b2⟩ := sheetLoopWork_bound env limit rest st' (n + recCost r) (by omega)
      dsimp only
      exact ⟨by omega, fun cs n' heq => by have := b2 cs n' heq; omega⟩
    | _ => dsimp only; exact ⟨by omega, nofun⟩

theorem sheetRangeS_count (env : Env) (limit : Nat) (s : Bytes) (n : Nat) (r : Range.Rng Val) (n' : Nat)
    (h : sheetRangeS env limit s n = .ok (r, n')) :
    ∃ cs, sheetLoopS env limit (items s) ⟨[], (0, 0)⟩ n = .ok (cs, n') := by
  unfold sheetRangeS at h
  cases hl : sheetLoopS env limit (items s) ⟨[], (0, 0)⟩ n with
  | ok p =>
    obtain ⟨cs, m⟩ := p
    rw [hl] at h
    simp only [withFormulaRange_eq] at h
    cases hw : Range.fromSparse cs with
    | ok r' => rw [hw] at h; simp only [Res.ok.injEq, Prod.mk.injEq] at h; exact ⟨cs, by rw [h.2]⟩
    | _ => rw [hw] at h; cases h
  | _ => rw [hl] at h; cases h

theorem sheetsWork_bound (env : Env) (stream : Bytes) : ∀ (offs : List Nat) (n : Nat), n ≤ scanLimit stream.length →
    4 * sheetsWork env stream offs n + n ≤ scanLimit stream.length + 4
  | [], n, h => by simp [sheetsWork]; omega
  | pos :: ps, n, h => by
    unfold sheetsWork
    by_cases hp : stream.length < pos
    · simp [hp]; omega
    · simp only [if_neg hp]
      obtain ⟨b1, b2⟩ := sheetLoopWork_bound env (scanLimit stream.length) (items (stream.drop pos)) ⟨[], (0, 0)⟩ n h
      cases hr : sheetRangeS env (scanLimit stream.length) (stream.drop pos) n with
      | ok p =>
        obtain ⟨r, n'⟩ := p
        obtain ⟨cs, hcs⟩ := sheetRangeS_count env _ _ n r n' hr
        obtain ⟨c1, c2⟩ := b2 cs n' hcs
        have ih := sheetsWork_bound env stream ps n' c2
        simp only; omega
      | _ => simp only; omega

theorem scanCost_records : ∀ (rs : List Rec) (more : List Item), (∀ r ∈ rs, r.typ ≠ 0x000A) →
    scanCost (rs.map .record ++ .record eofRec :: more) = (rs.map recCost).sum + recCost eofRec
  | [], _, _ => by simp [scanCost, eofRec]
  | r :: rs, more, h => by
    have ih := scanCost_records rs more (fun x hx => h x (List.mem_cons_of_mem _ hx))
    rw [List.map_cons, List.cons_append, scanCost, if_neg (h r List.mem_cons_self), ih, List.map_cons,
      List.sum_cons, Nat.add_assoc]

/-- one sheet of an encoded workbook: where its substream starts, its logical cells, its layout -/
structure SheetAt where
  pos : Nat
  S : List LCell
  lays : List Lay

def SheetAt.bytes (env : Env) (sh : SheetAt) : Bytes := substream env sh.S sh.lays

/-- first failure, or all the successes -/
def collect {α : Type} : List (Res α) → Res (List α)
  | [] => .ok []
  | x :: xs =>
    match x with
    | .ok a =>
      (match collect xs with
       | .ok as => .ok (a :: as)
       | .err e => .err e
       | .panic m => .panic m
       | .outOfFuel => .outOfFuel)
    | .err e => .err e
    | .panic m => .panic m
    | .outOfFuel => .outOfFuel

theorem sheetsFrom_eq (env : Env) (stream : Bytes) : ∀ (offs : List Nat) (n : Nat),
    (∀ pos ∈ offs, pos ≤ stream.length) →
    n + (offs.map fun pos => scanCost (items (stream.drop pos))).sum ≤ scanLimit stream.length →
    sheetsFrom env stream offs n = collect (offs.map fun pos => sheetRange env (stream.drop pos))
  | [], _, _, _ => rfl
  | pos :: ps, n, hp, hsum => by
    simp only [List.map_cons, List.sum_cons] at hsum
    simp only [List.map_cons, sheetsFrom, if_neg (Nat.not_lt.mpr (hp pos List.mem_cons_self)), collect]
    rw [sheetRangeS_eq_of_cost env _ _ n (by omega)]
    cases hr : sheetRange env (stream.drop pos) with
    | ok r =>
      simp only [withCount]
      rw [sheetsFrom_eq env stream ps _ (fun x hx => hp x (List.mem_cons_of_mem _ hx)) (by omega)]
      cases collect (ps.map fun pos => sheetRange env (stream.drop pos)) <;> rfl
    | _ => rfl

namespace Reads
variable {env : Env}

theorem sheet {rs : List Rec} {cs : List Cell} (h : Reads env rs cs) (tail : Bytes) (ht : noCont tail) :
    decodeSheet env (items (frame (bofRec :: rs ++ [eofRec]) ++ tail)) = .ok cs ∧
    scanCost (items (frame (bofRec :: rs ++ [eofRec]) ++ tail)) = (frame (bofRec :: rs ++ [eofRec])).length := by
  have hb : Reads env (bofRec :: rs) cs :=
    (skip (rs := [bofRec]) fun r hr => by cases List.mem_singleton.mp hr; exact bofRec_ignorable).append h
  have hne := fun r hr => (hb.good r hr).2
  have hplain : ∀ r ∈ bofRec :: rs ++ [eofRec], plainRec r := fun r hr =>
    (List.mem_append.mp hr).elim (fun hr => (hb.good r hr).1)
      fun hr => by cases List.mem_singleton.mp hr; exact ⟨by decide, by decide, by decide, rfl⟩
  obtain ⟨fuel, hf⟩ := items_frame_tail _ tail hplain ht
  obtain ⟨f, hrun⟩ := hb.run ⟨[], (0, 0)⟩
  rw [hf, List.map_append, List.append_assoc]
  show _ = Res.ok cs ∧ scanCost (_ ++ .record eofRec :: _) = _
  refine ⟨?_, ?_⟩
  · rw [decodeSheet, sheetLoop_records env _ _ _ _ hne hrun]; rfl
  · rw [scanCost_records _ _ hne, frame_length_plain _ hplain, List.map_append, List.sum_append]; rfl

end Reads

theorem sheetRange_encoded (env : Env) (S : List LCell) (lays : List Lay) (hS : ∀ c ∈ S, cellOk c)
    (tail : Bytes) (ht : noCont tail) :
    sheetRange env (substream env S lays ++ tail) = Range.fromSparse ((plan env S lays).map (pcCell env)) := by
  rw [sheetRange, withFormulaRange_eq, substream, encodeSheet,
    ((Reads.encode _ (plan_ok env S lays hS)).sheet tail ht).1]
  rfl

theorem sheetRange_with_tail (env : Env) (sh : SheetAt) (hS : ∀ c ∈ sh.S, cellOk c) (tail : Bytes) (ht : noCont tail) :
    sheetRange env (sh.bytes env ++ tail) = sheetRange env (sh.bytes env) ∧
    scanCost (items (sh.bytes env ++ tail)) = (sh.bytes env).length := by
  have e := sheetRange_encoded env sh.S sh.lays hS [] noCont_nil
  rw [List.append_nil] at e
  exact ⟨(sheetRange_encoded env sh.S sh.lays hS tail ht).trans e.symm,
    ((Reads.encode _ (plan_ok env sh.S sh.lays hS)).sheet tail ht).2⟩

theorem bytes_length_pos (env : Env) (sh : SheetAt) : 0 < (sh.bytes env).length := by
  show 0 < (frameRec bofRec ++ _).length
  rw [List.length_append]
  exact Nat.lt_of_lt_of_le (by decide : 0 < (frameRec bofRec).length) (Nat.le_add_right _ _)

theorem sheetsFrom_encoded (env : Env) (stream : Bytes) (sheets : List SheetAt) (n : Nat)
    (hS : ∀ sh ∈ sheets, ∀ c ∈ sh.S, cellOk c)
    (hp : ∀ sh ∈ sheets, ∃ tail, stream.drop sh.pos = sh.bytes env ++ tail ∧ noCont tail)
    (hsum : n + (sheets.map (fun sh => (sh.bytes env).length)).sum ≤ stream.length) :
    sheetsFrom env stream (sheets.map (·.pos)) n = collect (sheets.map (fun sh => sheetRange env (sh.bytes env))) := by
  have hsh : ∀ sh ∈ sheets, sh.pos ≤ stream.length ∧
      sheetRange env (stream.drop sh.pos) = sheetRange env (sh.bytes env) ∧
      scanCost (items (stream.drop sh.pos)) = (sh.bytes env).length := by
    intro sh hm
    obtain ⟨tail, hd, ht⟩ := hp sh hm
    obtain ⟨e1, e2⟩ := sheetRange_with_tail env sh (hS sh hm) tail ht
    refine ⟨?_, hd ▸ e1, hd ▸ e2⟩
    have hl := congrArg List.length hd
    rw [List.length_drop, List.length_append] at hl
    have := bytes_length_pos env sh; omega
  have hcost : sheets.map ((fun pos => scanCost (items (stream.drop pos))) ∘ (·.pos)) =
      sheets.map (fun sh => (sh.bytes env).length) := List.map_congr_left fun sh hm => (hsh sh hm).2.2
  rw [sheetsFrom_eq env stream _ n (fun pos hm => by
      obtain ⟨sh, hm', rfl⟩ := List.mem_map.mp hm; exact (hsh sh hm').1)
    (by rw [List.map_map, hcost, scanLimit]; omega), List.map_map]
  exact congrArg collect (List.map_congr_left fun sh hm => (hsh sh hm).2.1)

theorem layout_sum_le (env : Env) (stream pre trail : Bytes) (sheets phys : List SheetAt) (hperm : sheets.Perm phys)
    (hlay : stream = pre ++ ((phys.map (fun sh => sh.bytes env)).flatten ++ trail)) :
    (sheets.map (fun sh => (sh.bytes env).length)).sum ≤ stream.length := by
  have h1 : (sheets.map (fun sh => (sh.bytes env).length)).sum = (phys.map (fun sh => (sh.bytes env).length)).sum :=
    (hperm.map _).sum_nat
  rw [h1, hlay]
  simp only [List.length_append, List.length_flatten, List.map_map]
  have : (phys.map (List.length ∘ fun sh => sh.bytes env)) = phys.map (fun sh => (sh.bytes env).length) := rfl
  rw [this]; omega

end BiffCells
