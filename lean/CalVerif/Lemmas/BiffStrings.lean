import CalVerif.Lemmas.BiffFraming
import CalVerif.Lemmas.Utf16
import CalVerif.Lemmas.DivMod
/-! The BIFF8 string readers of `Model/BiffStrings.lean` on what the encoder of `Spec/SstEnc.lean` writes: one packed
    segment, `read_dbcs` and `Record::skip` across CONTINUE breaks, one table entry and the whole table under a layout,
    the framed table; and, on any bytes, that every reader returns. Fields and framing are in `Lemmas/BiffFraming.lean`.
    `lastOk` is defined here and occurs in the statement of `dbcs_split_invariant` (Props/C12). -/
namespace Biff

theorem flagHigh_flagByte (w : Bool) : flagHigh (flagByte w) = w := by cases w <;> decide

theorem encUnits_wide_cons (u : Nat) (us : List Nat) :
    encUnits true (u :: us) = byte u :: byte (u / 256) :: encUnits true us := rfl

theorem encUnits_length (w : Bool) (us : List Nat) :
    (encUnits w us).length = (if w then 2 else 1) * us.length := by
  cases w
  · exact (List.length_map _).trans (Nat.one_mul _).symm
  · exact LittleEndian.le_flatMap_length 2 us

theorem units16_wide (us : List Nat) (h : ∀ u ∈ us, u < 65536) : units16 (encUnits true us) = us := by
  induction us with
  | nil => rfl
  | cons u us ih =>
    rw [encUnits_wide_cons, units16, ih fun v hv => h v (List.mem_cons_of_mem _ hv)]
    exact congrArg (· :: us) (u16_le16 u (h u List.mem_cons_self) [])

theorem narrow_units (us : List Nat) (h : ∀ u ∈ us, u < 256) : (encUnits false us).map (·.toNat) = us := by
  induction us with
  | nil => rfl
  | cons u us ih =>
    show (byte u).toNat :: (encUnits false us).map (·.toNat) = u :: us
    rw [byte_toNat, Nat.mod_eq_of_lt (h u List.mem_cons_self), ih fun v hv => h v (List.mem_cons_of_mem _ hv)]

/-- both packings in one formula (`k` = 2 resp. 1 bytes per character), so that `decodeTo_segment` is proved once -/
theorem decodeTo_eq (s : Bytes) (n : Nat) (w : Bool) :
    decodeTo s n w =
      ((if w then units16 else List.map (·.toNat)) (s.take ((if w then 2 else 1) * min (s.length / (if w then 2 else 1)) n)),
        min (s.length / (if w then 2 else 1)) n, (if w then 2 else 1) * min (s.length / (if w then 2 else 1)) n) := by
  cases w
  · simp only [decodeTo, Bool.false_eq_true, if_false, Nat.div_one, Nat.one_mul]
  · rfl

/-- `a` characters of `k` bytes followed by `t` more bytes, `n` characters owed -/
theorem min_seg (k a t n : Nat) (hk : 0 < k) (hn : a ≤ n) (ht : t = 0 ∨ a = n) : min ((k * a + t) / k) n = a := by
  rw [Nat.mul_comm]; exact DivMod.capDiv_eq hk hn (ht.imp_left fun (e : t = 0) => e ▸ hk)

/-- the segment `us` is read exactly when it is the last one owed (`us.length = n`) or the fragment ends with it -/
theorem decodeTo_segment (w : Bool) (us : List Nat) (tail : Bytes) (n : Nat)
    (hlt : ∀ u ∈ us, u < 65536) (hp : packOk (us, w)) (hn : us.length ≤ n)
    (ht : tail = [] ∨ us.length = n) :
    decodeTo (encUnits w us ++ tail) n w = (us, us.length, (encUnits w us).length) := by
  have hl := encUnits_length w us
  have hm : min ((encUnits w us ++ tail).length / (if w then 2 else 1)) n = us.length := by
    rw [List.length_append, hl]
    exact min_seg _ _ _ _ (by cases w <;> decide) hn (ht.imp (congrArg List.length) id)
  have hu : (if w then units16 else List.map (·.toNat)) (encUnits w us) = us := by
    cases w
    · exact narrow_units us (hp rfl)
    · exact units16_wide us hlt
  rw [decodeTo_eq, hm, ← hl, List.take_left' rfl, hu]

theorem decodeTo_encUnits (w : Bool) (us : List Nat) (n : Nat) (hlt : ∀ u ∈ us, u < 65536) (hp : packOk (us, w))
    (hn : us.length ≤ n) : decodeTo (encUnits w us) n w = (us, us.length, (encUnits w us).length) := by
  simpa only [List.append_nil] using decodeTo_segment w us [] n hlt hp hn (Or.inl rfl)

theorem readDbcs_zero (w : Bool) (data : Bytes) (cont : List Bytes) :
    readDbcs 0 w data cont = .ok ([], ⟨data, cont⟩) := by
  rw [readDbcs, if_pos rfl]

theorem readDbcs_last (w : Bool) (us : List Nat) (tail : Bytes) (cont : List Bytes)
    (hlt : ∀ u ∈ us, u < 65536) (hp : packOk (us, w)) :
    readDbcs us.length w (encUnits w us ++ tail) cont = .ok (us, ⟨tail, cont⟩) := by
  cases us with
  | nil => cases w <;> exact readDbcs_zero _ _ _
  | cons u us =>
    have hd := decodeTo_segment w (u :: us) tail _ hlt hp (Nat.le_refl _) (Or.inr rfl)
    have h0 : (u :: us).length ≠ 0 := Nat.succ_ne_zero _
    rw [readDbcs, if_neg h0]
    simp only [hd, Nat.sub_self, if_true, List.drop_left']

theorem readDbcs_step (w w' : Bool) (us : List Nat) (m : Nat) (d : Bytes) (fs : List Bytes)
    (hlt : ∀ u ∈ us, u < 65536) (hp : packOk (us, w)) (hm : 0 < m)
    (t : List Nat) (r : Rd) (hrec : readDbcs m w' d fs = .ok (t, r)) :
    readDbcs (us.length + m) w (encUnits w us) ((flagByte w' :: d) :: fs) = .ok (us ++ t, r) := by
  have hd := decodeTo_encUnits w us (us.length + m) hlt hp (Nat.le_add_right _ _)
  rw [readDbcs, if_neg (Nat.ne_of_gt (Nat.add_pos_right _ hm))]
  simp only [hd, Nat.add_sub_cancel_left, Nat.ne_of_gt hm, if_false, flagHigh_flagByte, hrec]
  rfl

@[simp] theorem lay_nil : lay [] = ([], []) := rfl

@[simp] theorem lay_b (x : Bytes) (ts : List Tok) : lay (.b x :: ts) = (x ++ (lay ts).1, (lay ts).2) := rfl

@[simp] theorem lay_cut (ts : List Tok) : lay (.cut :: ts) = ([], (lay ts).1 :: (lay ts).2) := rfl

theorem skip_zero (data : Bytes) (cont : List Bytes) : skip 0 data cont = .ok ⟨data, cont⟩ := by
  unfold skip; rw [if_pos rfl]

theorem skip_prefix (x tail : Bytes) (cont : List Bytes) :
    skip x.length (x ++ tail) cont = .ok ⟨tail, cont⟩ := by
  cases x with
  | nil => exact skip_zero tail cont
  | cons a x =>
    have h0 : (a :: x).length ≠ 0 := Nat.succ_ne_zero _
    unfold skip
    rw [if_neg h0, if_pos (by rw [List.length_append]; omega), List.drop_left' rfl]

theorem skip_next (m : Nat) (x f : Bytes) (fs : List Bytes) (h : 0 < m) :
    skip (x.length + m) x (f :: fs) = skip m f fs := by
  rw [skip, if_neg (Nat.ne_of_gt (Nat.add_pos_right _ h)), if_neg (Nat.not_le_of_gt (Nat.lt_add_of_pos_right h)),
    Nat.add_sub_cancel_left]

theorem skip_chunks (cs : List Bytes) : ∀ (c0 : Bytes) (rest : List Tok), (∀ c ∈ cs, c ≠ []) →
    skip (c0.length + (cs.map List.length).sum) (lay (.b c0 :: (chunkToks cs ++ rest))).1
      (lay (.b c0 :: (chunkToks cs ++ rest))).2 = .ok ⟨(lay rest).1, (lay rest).2⟩ := by
  induction cs with
  | nil => intro c0 rest _; exact skip_prefix c0 _ _
  | cons c1 cs ih =>
    intro c0 rest hne
    have hpos : 0 < c1.length := List.length_pos_iff.mpr (hne c1 List.mem_cons_self)
    rw [List.map_cons, List.sum_cons]
    show skip _ (c0 ++ []) (_ :: _) = _
    rw [List.append_nil, skip_next _ _ _ _ (Nat.add_pos_left hpos _)]
    exact ih c1 rest fun c hc => hne c (List.mem_cons_of_mem _ hc)

theorem splitSizes_ne_nil {α : Type} (l : List α) (ns : List Nat) : splitSizes l ns ≠ [] := by
  cases ns <;> exact List.cons_ne_nil _ _

theorem splitSizes_flatten {α : Type} (ns : List Nat) : ∀ (l : List α), (splitSizes l ns).flatten = l := by
  induction ns with
  | nil => intro l; exact List.append_nil l
  | cons n ns ih => intro l; rw [splitSizes, List.flatten_cons, ih, List.take_append_drop]

theorem splitSizes_length {α : Type} (ns : List Nat) : ∀ (l : List α), (splitSizes l ns).length = ns.length + 1 := by
  induction ns with
  | nil => intro l; rfl
  | cons n ns ih => intro l; rw [splitSizes, List.length_cons, ih, List.length_cons]

theorem cons_headD_tail {α : Type} (l : List (List α)) (h : l ≠ []) : l.headD [] :: l.tail = l := by
  cases l with
  | nil => exact absurd rfl h
  | cons a l => rfl

theorem splitSizes_total {α : Type} (l : List α) (ns : List Nat) :
    ((splitSizes l ns).headD []).length + ((splitSizes l ns).tail.map List.length).sum = l.length := by
  have h := congrArg List.length (splitSizes_flatten ns l)
  rwa [← cons_headD_tail _ (splitSizes_ne_nil l ns), List.flatten_cons, List.length_append, List.length_flatten] at h

theorem skip_block (bs : Bytes) (cuts : List Nat) (rest : List Tok) (h : blockOk (some bs) cuts) :
    skip bs.length (lay (blockToks (some bs) cuts ++ rest)).1 (lay (blockToks (some bs) cuts ++ rest)).2
      = .ok ⟨(lay rest).1, (lay rest).2⟩ := by
  have := skip_chunks (splitSizes bs cuts).tail ((splitSizes bs cuts).headD []) rest h
  rwa [splitSizes_total] at this

theorem skip_blockOpt (block : Option Bytes) (cuts : List Nat) (rest : List Tok) (h : blockOk block cuts) :
    skip (block.getD []).length (lay (blockToks block cuts ++ rest)).1 (lay (blockToks block cuts ++ rest)).2
      = .ok ⟨(lay rest).1, (lay rest).2⟩ := by
  cases block with
  | none => exact skip_zero _ _
  | some bs => exact skip_block bs cuts rest h

theorem isHigh_iff (c : Nat) : isHigh c = true ↔ 55296 ≤ c ∧ c < 56320 := by simp [isHigh]

theorem isLow_iff (c : Nat) : isLow c = true ↔ 56320 ≤ c ∧ c < 57344 := by simp [isLow]

theorem decodeUtf16_cons2 (u v : Nat) (rest : List Nat) :
    decodeUtf16 (u :: v :: rest) =
      if isHigh u then
        if isLow v then (0x10000 + (u - 0xD800) * 0x400 + (v - 0xDC00)) :: decodeUtf16 rest
        else 0xFFFD :: decodeUtf16 (v :: rest)
      else if isLow u then 0xFFFD :: decodeUtf16 (v :: rest)
      else u :: decodeUtf16 (v :: rest) := by
  rw [decodeUtf16]

theorem isSurrogate_iff (u : Nat) : (isHigh u || isLow u) = true ↔ 0xD800 ≤ u ∧ u < 0xE000 := by
  rw [Bool.or_eq_true, isHigh_iff, isLow_iff]; omega

theorem decodeUtf16_eq (us : List Nat) : decodeUtf16 us = Utf16.decode us := by
  fun_induction decodeUtf16 us <;>
    simp only [Utf16.decode, ← isSurrogate_iff, ← isHigh_iff, ← isLow_iff, if_true, if_false, Bool.false_eq_true, *]

theorem utf16_eq (cs : List Nat) : utf16 cs = Utf16.units cs := by
  induction cs with
  | nil => rfl
  | cons c cs ih => rw [utf16, ih]; rfl

theorem noPairSplit_tail (u : Nat) (a b : List Nat) (ha : a ≠ []) (h : noPairSplit (u :: a) b) : noPairSplit a b := by
  unfold noPairSplit at *
  rwa [List.getLast?_cons_of_ne_nil ha] at h

theorem decodeUtf16_append : ∀ (a b : List Nat), noPairSplit a b →
    decodeUtf16 (a ++ b) = decodeUtf16 a ++ decodeUtf16 b
  | [], b, _ => rfl
  | [u], [], _ => (List.append_nil _).symm
  | [u], v :: rest, h => by
    -- the one place where the hypothesis is used: `u` high and `v` low is excluded
    have h : ¬ (isHigh u = true ∧ isLow v = true) := by simpa [noPairSplit] using h
    rw [List.singleton_append, decodeUtf16_cons2, decodeUtf16]
    cases hu : isHigh u
    · cases isLow u <;> rfl
    · have hv : isLow v = false := Bool.eq_false_iff.mpr fun hv => h ⟨hu, hv⟩
      rw [hv]; rfl
  | u :: v :: rest, b, h => by
    have h1 : noPairSplit (v :: rest) b := noPairSplit_tail u (v :: rest) b (List.cons_ne_nil _ _) h
    have h2 : noPairSplit rest b := by
      cases rest with
      | nil => exact fun h => nomatch h.1
      | cons x rest => exact noPairSplit_tail v _ b (List.cons_ne_nil _ _) h1
    have ih1 := decodeUtf16_append (v :: rest) b h1
    rw [List.cons_append, List.cons_append, decodeUtf16_cons2, decodeUtf16_cons2, ← List.cons_append, ih1,
      decodeUtf16_append rest b h2]
    cases isHigh u <;> cases isLow v <;> cases isLow u <;> rfl

theorem noPairSplit_append_right (a b c : List Nat) (hb : b ≠ []) (h : noPairSplit a b) : noPairSplit a (b ++ c) := by
  cases b with
  | nil => exact absurd rfl hb
  | cons x b => exact h

/-- the last continuation segment (if any) is not empty -/
def lastOk (segs : List (List Nat × Bool)) : Prop := ∀ p, segs.getLast? = some p → p.1 ≠ []

theorem lastOk_tail (p : List Nat × Bool) (ss : List (List Nat × Bool)) (h : lastOk (p :: ss)) : lastOk ss := by
  intro q hq
  cases ss with
  | nil => cases hq
  | cons a as => exact h q (List.getLast?_cons_cons.trans hq)

theorem lastOk_sum_pos : ∀ (segs : List (List Nat × Bool)), segs ≠ [] → lastOk segs →
    0 < (segs.map (·.1.length)).sum
  | [], h, _ => absurd rfl h
  | [p], _, hl => Nat.add_pos_left (List.length_pos_iff.mpr (hl p rfl)) _
  | p :: q :: ss, _, hl =>
    Nat.add_pos_right _ (lastOk_sum_pos (q :: ss) (List.cons_ne_nil _ _) (lastOk_tail p (q :: ss) hl))

/-- Invariant of the split read: `data` = unread rest of the current fragment, `cont` = the fragments still
    queued, `n` = characters still owed. Any CONTINUE segment but the last may hold the flag byte alone. -/
theorem readDbcs_segs (segs : List (List Nat × Bool)) : ∀ (s0 : List Nat) (w0 : Bool) (n : Nat) (rest : List Tok),
    n = s0.length + (segs.map (·.1.length)).sum →
    (∀ u ∈ s0, u < 65536) → packOk (s0, w0) →
    (∀ p ∈ segs, (∀ u ∈ p.1, u < 65536) ∧ packOk p) → lastOk segs →
    readDbcs n w0 (lay (.b (encUnits w0 s0) :: (contToks segs ++ rest))).1
        (lay (.b (encUnits w0 s0) :: (contToks segs ++ rest))).2
      = .ok (s0 ++ (segs.map (·.1)).flatten, ⟨(lay rest).1, (lay rest).2⟩) := by
  induction segs with
  | nil =>
    intro s0 w0 n rest hn hlt hp _ _
    rw [hn, List.map_nil, List.sum_nil, Nat.add_zero, List.map_nil, List.flatten_nil, List.append_nil]
    exact readDbcs_last w0 s0 _ _ hlt hp
  | cons p ss ih =>
    intro s0 w0 n rest hn hlt hp hall hlast
    have hpos := lastOk_sum_pos (p :: ss) (List.cons_ne_nil _ _) hlast
    obtain ⟨s1, w1⟩ := p
    obtain ⟨hlt1, hp1⟩ := hall (s1, w1) List.mem_cons_self
    have hrec := ih s1 w1 _ rest rfl hlt1 hp1 (fun q hq => hall q (List.mem_cons_of_mem _ hq))
      (lastOk_tail (s1, w1) ss hlast)
    -- both sides are brought to `lay` normal form (`lay_b`, `lay_cut` pushed through the tokens): the goal is then the
    -- conclusion of `readDbcs_step` on the fragment `flagByte w1 :: encUnits w1 s1 ++ …`, `hrec` its premise
    simp only [lay_b] at hrec
    simp only [hn, contToks, List.cons_append, lay_b, lay_cut, List.append_nil, List.map_cons, List.flatten_cons,
      List.sum_cons]
    exact readDbcs_step w0 w1 s0 _ _ _ hlt hp hpos _ _ hrec

/-- the optional header fields: `cRun` (number of 4-byte FormatRuns) and `cbExtRst` -/
def cRunField : Option Bytes → Bytes | some r => le16 (r.length / 4) | none => []

def cbExtField : Option Bytes → Bytes | some x => le32 x.length | none => []

theorem header_eq (e : Entry) (w0 : Bool) (X : Bytes) :
    header e w0 ++ X = le16 e.units.length ++
      (byte (headerFlags w0 e.runs.isSome e.ext.isSome) :: (cRunField e.runs ++ (cbExtField e.ext ++ X))) := by
  simp only [header, List.append_assoc, List.cons_append, List.nil_append]
  rfl

theorem header_ne_nil (e : Entry) (w : Bool) : header e w ≠ [] := by
  have h := header_eq e w []
  rw [List.append_nil] at h
  rw [h]; exact List.cons_ne_nil _ _

/-- the three flag bits the reader tests: fHighByte, fRichSt, fExtSt -/
theorem flags_bits (w r x : Bool) :
    (headerFlags w r x % 2 == 1) = w ∧ (headerFlags w r x / 8 % 2 == 1) = r ∧ (headerFlags w r x / 4 % 2 == 1) = x := by
  cases w <;> cases r <;> cases x <;> exact ⟨rfl, rfl, rfl⟩

/-- The three conjuncts (here and in `cbExt_read`) are, letter for letter, the subterms `readRichAt` unfolds to —
    `rich && data.length < 2`, `if rich then u16 data else 0` times 4, `if rich then data.drop 2 else data` —: the
    `simp only` of `readRichAt_header` rewrites with them and closes only while they keep that shape. -/
theorem cRun_read (o : Option Bytes) (h : runsLenOk o) (Y : Bytes) :
    (o.isSome && decide ((cRunField o ++ Y).length < 2)) = false
    ∧ (if o.isSome = true then u16 (cRunField o ++ Y) else 0) * 4 = (o.getD []).length
    ∧ (if o.isSome = true then (cRunField o ++ Y).drop 2 else cRunField o ++ Y) = Y := by
  cases o with
  | none => exact ⟨rfl, rfl, rfl⟩
  | some r =>
    have e : u16 (cRunField (some r) ++ Y) = r.length / 4 := u16_le16 _ h.2 Y
    refine ⟨decide_eq_false (Nat.not_lt.mpr (Nat.le_add_left 2 Y.length)), ?_, rfl⟩
    rw [if_pos Option.isSome_some, e]; exact Nat.div_mul_cancel (Nat.dvd_of_mod_eq_zero h.1)

theorem cbExt_read (o : Option Bytes) (h : extLenOk o) (Y : Bytes) :
    (o.isSome && decide ((cbExtField o ++ Y).length < 4)) = false
    ∧ (if o.isSome = true then i32AsUsize (u32 (cbExtField o ++ Y)) else 0) = (o.getD []).length
    ∧ (if o.isSome = true then (cbExtField o ++ Y).drop 4 else cbExtField o ++ Y) = Y := by
  cases o with
  | none => exact ⟨rfl, rfl, rfl⟩
  | some x =>
    have h : x.length < 2147483648 := h
    have e : u32 (cbExtField (some x) ++ Y) = x.length := u32_le32 _ (Nat.lt_trans h (by decide)) Y
    refine ⟨decide_eq_false (Nat.not_lt.mpr (Nat.le_add_left 4 Y.length)), ?_, rfl⟩
    rw [if_pos Option.isSome_some, e]; exact if_pos h

theorem readRichAt_header (e : Entry) (w0 : Bool) (X : Bytes) (cont : List Bytes)
    (hc : e.units.length < 65536) (hr : runsLenOk e.runs) (hx : extLenOk e.ext) :
    readRichAt ⟨header e w0 ++ X, cont⟩ = (do
      let (us, r) ← readDbcs e.units.length w0 X cont
      let r ← skip (e.runs.getD []).length r.data r.cont
      let r ← skip (e.ext.getD []).length r.data r.cont
      pure (decodeUtf16 us, r)) := by
  obtain ⟨r1, r2, r3⟩ := cRun_read e.runs hr (cbExtField e.ext ++ X)
  obtain ⟨x1, x2, x3⟩ := cbExt_read e.ext hx X
  obtain ⟨fw, fr, fx⟩ := flags_bits w0 e.runs.isSome e.ext.isSome
  have hlen : ¬ (header e w0 ++ X).length < 3 := by
    rw [header_eq]; exact Nat.not_lt.mpr (Nat.le_add_left 3 _)
  have hcch : u16 (header e w0 ++ X) = e.units.length := by rw [header_eq]; exact u16_le16 _ hc _
  have hflags : ((header e w0 ++ X).getD 2 0).toNat = headerFlags w0 e.runs.isSome e.ext.isSome := by
    rw [header_eq]
    show (byte _).toNat = _
    rw [byte_toNat]
    cases w0 <;> cases e.runs.isSome <;> cases e.ext.isSome <;> rfl
  have hdrop : (header e w0 ++ X).drop 3 = cRunField e.runs ++ (cbExtField e.ext ++ X) := by
    rw [header_eq]; rfl
  unfold readRichAt
  simp only [hlen, if_false, hcch, hflags, hdrop, fw, fr, fx, r1, r2, r3, x1, x2, x3,
    Bool.false_eq_true]

/-- `readDbcs_segs` with the segments and their packings given as two lists (the shape `charToks` has) -/
theorem readDbcs_zip (s0 : List Nat) (w0 : Bool) (segs : List (List Nat)) (packs : List Bool) (rest : List Tok)
    (hlen : segs.length ≤ packs.length) (hlt : ∀ u ∈ s0 ++ segs.flatten, u < 65536) (hp0 : packOk (s0, w0))
    (hp : ∀ p ∈ segs.zip packs, packOk p) (hlast : ∀ s, segs.getLast? = some s → s ≠ []) :
    readDbcs (s0 ++ segs.flatten).length w0 (lay (.b (encUnits w0 s0) :: (contToks (segs.zip packs) ++ rest))).1
        (lay (.b (encUnits w0 s0) :: (contToks (segs.zip packs) ++ rest))).2
      = .ok (s0 ++ segs.flatten, ⟨(lay rest).1, (lay rest).2⟩) := by
  have hz : (segs.zip packs).map (·.1) = segs := List.map_fst_zip hlen
  have h := readDbcs_segs (segs.zip packs) s0 w0 (s0 ++ segs.flatten).length rest
    (by rw [List.length_append, List.length_flatten, ← hz, List.map_map, hz]; rfl)
    (fun u hu => hlt u (List.mem_append_left _ hu)) hp0
    (fun p hp' => ⟨fun u hu => hlt u (List.mem_append_right _ (List.mem_flatten.mpr
      ⟨p.1, hz ▸ List.mem_map_of_mem (f := (·.1)) hp', hu⟩)), hp p hp'⟩)
    (fun p hp' => hlast p.1 (by rw [← hz, List.getLast?_map, hp']; rfl))
  rwa [hz] at h

theorem readDbcs_chars (e : Entry) (ly : EntryLayout) (hok : EntryOk e ly) (rest : List Tok) :
    readDbcs e.units.length ly.wide0 (lay (charToks e ly ++ rest)).1 (lay (charToks e ly ++ rest)).2
      = .ok (e.units, ⟨(lay rest).1, (lay rest).2⟩) := by
  have hflat : (segments e ly).headD [] ++ (segments e ly).tail.flatten = e.units := by
    rw [← List.flatten_cons, cons_headD_tail (segments e ly) (splitSizes_ne_nil _ _)]
    exact splitSizes_flatten _ _
  have h := readDbcs_zip ((segments e ly).headD []) ly.wide0 (segments e ly).tail (ly.cuts.map (·.2)) rest
    (by rw [List.length_tail, segments, splitSizes_length, List.length_map, List.length_map]; exact Nat.le_refl _)
    (by rw [hflat]; exact hok.unitsLt) hok.pack0 hok.packs hok.segsLast
  rwa [hflat] at h

theorem readRichAt_entry (e : Entry) (ly : EntryLayout) (hok : EntryOk e ly) (rest : List Tok) :
    readRichAt ⟨(lay (entryBody e ly ++ rest)).1, (lay (entryBody e ly ++ rest)).2⟩
      = .ok (decodeUtf16 e.units, ⟨(lay rest).1, (lay rest).2⟩) := by
  unfold entryBody
  rw [List.cons_append, lay_b, readRichAt_header e ly.wide0 _ _ hok.cch hok.runsLen hok.extLen,
    List.append_assoc, readDbcs_chars e ly hok, List.append_assoc]
  simp only [Res.bind_ok, skip_blockOpt e.runs ly.runCuts _ hok.runsOk, skip_blockOpt e.ext ly.extCuts rest hok.extOk]
  rfl

theorem readRich_entry (e : Entry) (ly : EntryLayout) (hok : EntryOk e ly) (rest : List Tok) :
    readRich ⟨(lay (entryToks e ly ++ rest)).1, (lay (entryToks e ly ++ rest)).2⟩
      = .ok (decodeUtf16 e.units, ⟨(lay rest).1, (lay rest).2⟩) := by
  have h := readRichAt_entry e ly hok rest
  unfold readRich entryToks
  cases ly.cutBefore
  · have hne : (lay (entryBody e ly ++ rest)).1.isEmpty = false := by
      rw [List.isEmpty_eq_false_iff]
      show header e ly.wide0 ++ _ ≠ []
      exact fun hnil => header_ne_nil e _ (List.append_eq_nil_iff.mp hnil).1
    simp only [Bool.false_eq_true, if_false, hne]
    exact h
  · exact h

theorem readStrings_table : ∀ (table : List Entry) (lys : List EntryLayout) (rest : List Tok),
    TableOk table lys →
    readStrings table.length ⟨(lay (tableToks table lys ++ rest)).1, (lay (tableToks table lys ++ rest)).2⟩
      = .ok (table.map fun e => decodeUtf16 e.units)
  | [], [], _, _ => rfl
  | [], _ :: _, _, h => h.elim
  | _ :: _, [], _, h => h.elim
  | e :: es, ly :: lys, rest, h => by
    rw [tableToks, List.length_cons, readStrings, List.append_assoc, readRich_entry e ly h.1]
    simp only [Res.bind_ok, readStrings_table es lys rest h.2]
    rfl

theorem parseSst_encode (cstTotal : Nat) (table : List Entry) (lys : List EntryLayout)
    (hok : TableOk table lys) (hcount : table.length < 2147483648) (typ : Nat) :
    parseSst ⟨typ, (encodeSst cstTotal table lys).headD [], (encodeSst cstTotal table lys).tail⟩
      = .ok (table.map fun e => decodeUtf16 e.units) := by
  have h := readStrings_table table lys [] hok
  rw [List.append_nil] at h
  show parseSst ⟨typ, (le32 cstTotal ++ le32 table.length) ++ (lay (tableToks table lys)).1, _⟩ = _
  rw [List.append_assoc]
  unfold parseSst
  have h8 : ¬ (le32 cstTotal ++ (le32 table.length ++ (lay (tableToks table lys)).1)).length < 8 :=
    Nat.not_lt.mpr (Nat.le_add_left 8 _)
  simp only [h8, if_false, drop_le32, u32_le32 table.length (Nat.lt_trans hcount (by decide)), Nat.not_le.mpr hcount]
  exact h

/-- every `cut` is directly followed by a non-empty payload (`c`: the token before the list was a `cut`) -/
def goodToks : Bool → List Tok → Prop
  | c, [] => c = false
  | c, .b x :: ts => (c = true → x ≠ []) ∧ goodToks false ts
  | c, .cut :: ts => c = false ∧ goodToks true ts

theorem goodToks_append (a b : List Tok) (hb : goodToks false b) : ∀ c, goodToks c a → goodToks c (a ++ b) := by
  induction a with
  | nil => intro c h; rw [show c = false from h]; exact hb
  | cons t ts ih =>
    intro c h
    cases t with
    | b x => exact ⟨h.1, ih false h.2⟩
    | cut => exact ⟨h.1, ih true h.2⟩

theorem lay_good (ts : List Tok) : ∀ c, goodToks c ts →
    (c = true → (lay ts).1 ≠ []) ∧ ∀ f ∈ (lay ts).2, f ≠ [] := by
  induction ts with
  | nil => intro c h; exact ⟨fun hc => absurd (hc ▸ h) Bool.noConfusion, fun f hf => nomatch hf⟩
  | cons t ts ih =>
    intro c h
    cases t with
    | b x => exact ⟨fun hc hnil => h.1 hc (List.append_eq_nil_iff.mp hnil).1, (ih false h.2).2⟩
    | cut =>
      have := ih true h.2
      exact ⟨fun hc => absurd (hc ▸ h.1) Bool.noConfusion, fun f hf => by
        rcases List.mem_cons.mp hf with rfl | hf
        · exact this.1 rfl
        · exact this.2 f hf⟩

theorem goodToks_contToks : ∀ (segs : List (List Nat × Bool)), goodToks false (contToks segs)
  | [] => rfl
  | (_, _) :: rest => ⟨rfl, fun _ => List.cons_ne_nil _ _, goodToks_contToks rest⟩

theorem goodToks_chunkToks : ∀ (cs : List Bytes), (∀ c ∈ cs, c ≠ []) → goodToks false (chunkToks cs)
  | [], _ => rfl
  | c :: cs, h =>
    ⟨rfl, fun _ => h c List.mem_cons_self, goodToks_chunkToks cs fun x hx => h x (List.mem_cons_of_mem _ hx)⟩

theorem goodToks_blockToks (block : Option Bytes) (cuts : List Nat) (h : blockOk block cuts) :
    goodToks false (blockToks block cuts) := by
  cases block with
  | none => rfl
  | some bs => exact ⟨Bool.false_ne_true.elim, goodToks_chunkToks _ h⟩

theorem goodToks_entryToks (e : Entry) (ly : EntryLayout) (hok : EntryOk e ly) : goodToks false (entryToks e ly) := by
  have hb : ∀ c, goodToks c (entryBody e ly) := fun c =>
    ⟨fun _ => header_ne_nil e _, Bool.false_ne_true.elim, goodToks_append _ _
      (goodToks_append _ _ (goodToks_blockToks _ _ hok.extOk) _ (goodToks_blockToks _ _ hok.runsOk)) _
      (goodToks_contToks _)⟩
  rw [entryToks]
  split
  · exact ⟨rfl, hb true⟩
  · exact hb false

theorem goodToks_tableToks : ∀ (table : List Entry) (lys : List EntryLayout), TableOk table lys →
    goodToks false (tableToks table lys)
  | [], [], _ => rfl
  | [], _ :: _, h => h.elim
  | _ :: _, [], h => h.elim
  | e :: es, ly :: lys, h => goodToks_append _ _ (goodToks_tableToks es lys h.2) _ (goodToks_entryToks e ly h.1)

theorem encodeSst_tail_ne (cstTotal : Nat) (table : List Entry) (lys : List EntryLayout) (hok : TableOk table lys) :
    ∀ f ∈ (encodeSst cstTotal table lys).tail, f ≠ [] :=
  (lay_good (.b (le32 cstTotal ++ le32 table.length) :: tableToks table lys) false
    ⟨Bool.false_ne_true.elim, goodToks_tableToks table lys hok⟩).2

theorem nextRecord_encodeSst (cstTotal : Nat) (table : List Entry) (lys : List EntryLayout)
    (hok : TableOk table lys) (hsizes : ∀ f ∈ encodeSst cstTotal table lys, f.length < 65536)
    (rest : Bytes) (hrest : notCont rest) :
    nextRecord (frameSst (encodeSst cstTotal table lys) ++ rest)
      = some (.ok (⟨0xFC, (encodeSst cstTotal table lys).headD [], (encodeSst cstTotal table lys).tail⟩, rest)) :=
  nextRecord_frameRec 0xFC _ _ rest (by decide) (hsizes _ List.mem_cons_self)
    (fun f hf => ⟨encodeSst_tail_ne cstTotal table lys hok f hf, hsizes f (List.mem_cons_of_mem _ hf)⟩) hrest

theorem sstFromStream_encode (cstTotal : Nat) (table : List Entry) (lys : List EntryLayout)
    (hok : TableOk table lys) (hcount : table.length < 2147483648)
    (hsizes : ∀ f ∈ encodeSst cstTotal table lys, f.length < 65536) (fuel : Nat)
    (rest : Bytes) (hrest : notCont rest) :
    sstFromStream (fuel + 1) (frameSst (encodeSst cstTotal table lys) ++ rest)
      = .ok (table.map fun e => decodeUtf16 e.units) := by
  rw [sstFromStream, nextRecord_encodeSst cstTotal table lys hok hsizes rest hrest]
  simp only [Res.bind_ok, if_true]
  exact parseSst_encode cstTotal table lys hok hcount 0xFC

theorem parseString_roundtrip (wide : Bool) (us : List Nat) (trail : Bytes)
    (hlt : ∀ u ∈ us, u < 65536) (hcch : us.length < 65536) (hpack : wide = false → ∀ u ∈ us, u < 256) :
    parseString (xlUnicodeString wide us ++ trail) true = .ok (decodeUtf16 us) := by
  have hl : ¬ (xlUnicodeString wide us ++ trail).length < 3 := by
    rw [xlUnicodeString, List.append_assoc]; exact Nat.not_lt.mpr (Nat.le_add_left 3 _)
  show parseStringWith 3 _ true = _
  rw [parseStringWith, if_neg hl]
  show Res.ok (decodeUtf16 (decodeTo (encUnits wide us ++ trail) (u16 (le16 us.length ++ _))
    (flagHigh (flagByte wide))).1) = _
  rw [u16_le16 _ hcch, flagHigh_flagByte, decodeTo_segment wide us trail _ hlt hpack (Nat.le_refl _) (Or.inr rfl)]

theorem parseShortString_roundtrip (wide : Bool) (us : List Nat) (trail : Bytes)
    (hlt : ∀ u ∈ us, u < 65536) (hcch : us.length < 256) (hpack : wide = false → ∀ u ∈ us, u < 256) :
    parseShortString (shortXlUnicodeString wide us ++ trail) true = .ok (decodeUtf16 us) := by
  have hl : ¬ (shortXlUnicodeString wide us ++ trail).length < 2 := Nat.not_lt.mpr (Nat.le_add_left 2 _)
  rw [parseShortString, if_neg hl]
  show Res.ok (decodeUtf16 (decodeTo (encUnits wide us ++ trail) (byte us.length).toNat (flagHigh (flagByte wide))).1) = _
  rw [byte_toNat, Nat.mod_eq_of_lt hcch, flagHigh_flagByte,
    decodeTo_segment wide us trail _ hlt hpack (Nat.le_refl _) (Or.inr rfl)]

theorem skip_returns : ∀ (cont : List Bytes) (n : Nat) (data : Bytes), (skip n data cont).Returns
  | [], n, data => by
    rw [skip]; exact .ite (.ok _) (.ite (.ok _) (.err _))
  | f :: fs, n, data => by
    rw [skip]; exact .ite (.ok _) (.ite (.ok _) (skip_returns fs _ f))

theorem readDbcs_returns : ∀ (cont : List Bytes) (n : Nat) (w : Bool) (data : Bytes), (readDbcs n w data cont).Returns
  | [], n, w, data | [] :: _, n, w, data => by
    rw [readDbcs]; exact .ite (.ok _) (.ite (.ok _) (.err _))
  | (b :: rest) :: fs, n, w, data => by
    rw [readDbcs]
    exact .ite (.ok _) (.ite (.ok _) ((readDbcs_returns fs _ _ rest).bind fun _ _ => .ok _))

theorem readRichAt_returns (r : Rd) : (readRichAt r).Returns := by
  unfold readRichAt
  exact .ite (.err _) (.ite (.err _) (.ite (.err _)
    ((readDbcs_returns _ _ _ _).bind fun _ _ => (skip_returns _ _ _).bind fun _ _ =>
      (skip_returns _ _ _).bind fun _ _ => .ok _)))

theorem readRich_returns (r : Rd) : (readRich r).Returns := by
  unfold readRich
  split
  · exact .err _
  · exact readRichAt_returns _

theorem readStrings_returns : ∀ (n : Nat) (r : Rd), (readStrings n r).Returns
  | 0, _ => .ok _
  | n + 1, r => by
    rw [readStrings]
    exact (readRich_returns r).bind fun _ _ => (readStrings_returns n _).bind fun _ _ => .ok _

theorem parseSst_returns (r : Rec) : (parseSst r).Returns := by
  unfold parseSst
  exact .ite (.err _) (.ite (.err _) (readStrings_returns _ _))

theorem sstFromStream_returns : ∀ (fuel : Nat) (s : Bytes), s.length < fuel → (sstFromStream fuel s).Returns
  | 0, _, h => absurd h (Nat.not_lt_zero _)
  | fuel + 1, s, h => by
    rw [sstFromStream]
    cases hx : nextRecord s with
    | none => exact .err _
    | some x =>
      exact (nextRecord_returnsWith s x hx).bind_returns fun _ hle =>
        .ite (parseSst_returns _) (sstFromStream_returns fuel _ (by omega))

end Biff
