import CalVerif.Spec.SharedSheet
import CalVerif.Lemmas.XlsxFormula
import CalVerif.Lemmas.SharedFormula
/-! C15 at the level of XML events: `XlsxFormula.readFormulas` (the event model of `next_formula`, with the
    shared-formula arms) run on the events of a rendered sheet with shared groups computes, cell by cell, what
    the abstract model `SharedFormula.cellFormula` computes on the corresponding `CellIn`. -/
namespace SharedSheet
open XlsxCells XlsxSheet XlsxFormula SharedFormula Utf8

/-- `cellFormula` as a total function (it cannot fail on a cell that carries its `si`) -/
def stepCell (t : Table) (c : CellIn) : Table × List Char :=
  match cellFormula t c with
  | .ok x => x
  | _ => (t, [])

/-- every `<c>` of the sheet with the text `next_formula` reports for it (UTF-8), in document order -/
def texts : Table → List CellIn → List (Nat × Nat × Bytes)
  | _, [] => []
  | t, c :: cs => (c.pos.1, c.pos.2, utf8Encode (stepCell t c).2) :: texts (stepCell t c).1 cs

/-- one more cell read: its text in front of what `next_formula` has returned so far (latest first), and the table
    of shared groups it leaves -/
def emit (x : List (Nat × Nat × Bytes) × Table) (c : CellIn) : List (Nat × Nat × Bytes) × Table :=
  ((c.pos.1, c.pos.2, utf8Encode (stepCell x.2 c).2) :: x.1, (stepCell x.2 c).1)

theorem foldl_emit (l : List CellIn) (out : List (Nat × Nat × Bytes)) (tb : Table) :
    (l.foldl emit (out, tb)).1 = (texts tb l).reverse ++ out := by
  induction l generalizing out tb with
  | nil => rfl
  | cons c cs ih => rw [List.foldl_cons, emit, ih, texts, List.reverse_cons, List.append_assoc, List.singleton_append]

theorem toCellIn_pos (r c : Nat) (cell : SCell) : (toCellIn r c cell).pos = (r, c) := by
  obtain ⟨f, v⟩ := cell
  cases f <;> rfl

/-- the outer loop of `next_formula` with the cursor at `(r, cur)`; `x`: the cells returned so far (latest first) and
    the table of shared groups -/
def rowsSt (r cur : Nat) (x : List (Nat × Nat × Bytes) × Table) : XlsxFormula.St := ⟨.rows, r, cur, x.1, x.2⟩

/-- `XlsxFormula.rowsLoop` with the table in the state's rest: here it changes from cell to cell -/
theorem rowsLoop : RowsLoop XlsxFormula.step rowsSt (fun pos _ r x => ⟨.cell pos none, r, pos.2, x.1, x.2⟩)
    (fun r c x => ⟨.done, r, c, x.1, x.2⟩) where
  text r c x s := (XlsxFormula.rowsLoop x.2).text r c x.1 s
  other r c x := (XlsxFormula.rowsLoop x.2).other r c x.1
  rowStart r c x p attrs := (XlsxFormula.rowsLoop x.2).rowStart r c x.1 p attrs
  rowStop r c x p := (XlsxFormula.rowsLoop x.2).rowStop r c x.1 p
  cellStart r c x p attrs := (XlsxFormula.rowsLoop x.2).cellStart r c x.1 p attrs
  dataStop r c x p := (XlsxFormula.rowsLoop x.2).dataStop r c x.1 p
  done r c x ev := (XlsxFormula.rowsLoop x.2).done r c x.1 ev

theorem steps_open (p : Bool) (r c cur : Nat) (hr : r < 1048576) (hc : c < 16384)
    (x : List (Nat × Nat × Bytes) × Table) :
    Res.foldl XlsxFormula.step (rowsSt r cur x) [.start (q p nC) [(nR, refName false r c)]] =
      .ok ⟨.cell (r, c) none, r, c, x.1, x.2⟩ := by
  have e : refOr [(nR, refName false r c)] getRowColumn (r, cur) = .ok (r, c) :=
    getRowColumn_refName _ r c (grid_row hr) (grid_col hc)
  rw [Res.foldl_cons, rowsLoop.cellStart, e]
  rfl

theorem steps_close (p : Bool) (r c : Nat) (hc : c < 16384) (v : Option Bytes)
    (out : List (Nat × Nat × Bytes)) (tb : Table) :
    Res.foldl XlsxFormula.step ⟨.cell (r, c) v, r, c, out, tb⟩ [.stop (q p nC)] =
      .ok ⟨.rows, r, c + 1, (r, c, v.getD []) :: out, tb⟩ := by
  simp only [Res.foldl, XlsxFormula.step.eq_def, ln_c, if_true, satAdd_one (Nat.lt_trans hc (by decide))]

theorem steps_value (p : Bool) (pos : Nat × Nat) (v : Option Bytes) (b : Bool) (row col : Nat)
    (out : List (Nat × Nat × Bytes)) (tb : Table) :
    Res.foldl XlsxFormula.step ⟨.cell pos v, row, col, out, tb⟩ (if b then vEventsPlain p [49] else []) =
      .ok ⟨.cell pos v, row, col, out, tb⟩ := by
  cases b with
  | false => rfl
  | true =>
    simp only [vEventsPlain, if_true, List.cons_append, List.nil_append, Res.foldl, XlsxFormula.step.eq_def,
      ln_v, no_shared_attr, nV_ne_nF, if_false, true_or, or_true, not_true_eq_false,
      reduceCtorEq]

/-- a `<f t="shared" …>` element with its text: the reader arrives at the shared branch of `next_formula` with the
    text collected (a follower is the case `t = []`) -/
theorem steps_shared (p : Bool) (pos : Nat × Nat) (attrs : Attrs) (g0 : getAttr attrs nT = some tShared) (t : List Char)
    (row col : Nat) (out : List (Nat × Nat × Bytes)) (tb : Table) :
    Res.foldl XlsxFormula.step ⟨.cell pos none, row, col, out, tb⟩
        ([.start (q p nF) attrs] ++ textEvents t ++ [.stop (q p nF)]) =
      finishShared ⟨.inShared pos none (q p nF) attrs (utf8Encode t), row, col, out, tb⟩ pos attrs (utf8Encode t) := by
  have h1 : XlsxFormula.step ⟨.cell pos none, row, col, out, tb⟩ (.start (q p nF) attrs) =
      .ok ⟨.inShared pos none (q p nF) attrs [], row, col, out, tb⟩ := by
    simp only [XlsxFormula.step.eq_def, ln_f, g0, or_true, not_true_eq_false, if_false, if_true]
  have ht : Res.foldl XlsxFormula.step ⟨.inShared pos none (q p nF) attrs [], row, col, out, tb⟩ (textEvents t) =
      .ok ⟨.inShared pos none (q p nF) attrs (utf8Encode t), row, col, out, tb⟩ := by
    unfold textEvents
    by_cases h : utf8Encode t = []
    · rw [if_pos h, h]; rfl
    · rw [if_neg h]; rfl
  have h3 : XlsxFormula.step ⟨.inShared pos none (q p nF) attrs (utf8Encode t), row, col, out, tb⟩ (.stop (q p nF)) =
      finishShared ⟨.inShared pos none (q p nF) attrs (utf8Encode t), row, col, out, tb⟩ pos attrs (utf8Encode t) :=
    if_pos rfl
  rw [List.append_assoc, List.singleton_append, Res.foldl_cons, h1, Res.bind_ok, Res.foldl_append_ok ht, Res.foldl_cons, h3]
  cases finishShared _ _ _ _ <;> rfl

theorem finishShared_master (st : XlsxFormula.St) (pos : Nat × Nat) (attrs : Attrs) (si : Nat) (ref : Rect) (t : List Char)
    (hsi : si < 10 ^ 19) (g1 : getAttr attrs nSiAttr = some (dec si)) (g2 : getAttr attrs nRef = some (dimRef (rectDims ref)))
    (hdim : XlsxCells.getDimension (dimRef (rectDims ref)) = .ok (rectDims ref)) :
    finishShared st pos attrs (utf8Encode t) =
      .ok { st with mode := .cell pos (some (utf8Encode t)), formulas := st.formulas.store si ⟨t, ref, pos⟩ } := by
  have e : (⟨(rectDims ref).sr, (rectDims ref).sc, (rectDims ref).er, (rectDims ref).ec⟩ : Rect) = ref := by cases ref; rfl
  simp only [finishShared, utf8Decode_encode, g1, atoiUsize_dec si hsi, g2, hdim, e]

theorem finishShared_follower (st : XlsxFormula.St) (pos : Nat × Nat) (attrs : Attrs) (si : Nat) (hsi : si < 10 ^ 19)
    (g1 : getAttr attrs nSiAttr = some (dec si)) (g2 : getAttr attrs nRef = none) :
    finishShared st pos attrs [] =
      .ok { st with mode := .cell pos (some (utf8Encode (followerText st.formulas si pos []))) } := by
  have gd : utf8Decode [] = some [] := rfl
  simp only [finishShared, gd, g1, atoiUsize_dec si hsi, g2, followerText, replaceCellNames_eq]
  cases st.formulas.lookup si with
  | none => rfl
  | some g => dsimp only; cases g.offsetOf pos <;> rfl

theorem stepCell_follower (tb : Table) (r c si : Nat) (value : Bool) :
    stepCell tb (toCellIn r c ⟨.follower si, value⟩) = (tb, followerText tb si (r, c) []) := by
  rw [stepCell, toCellIn, cellFormula_follower]

theorem steps_f (p : Bool) (r c : Nat) (cell : SCell) (hok : cell.Ok) (out : List (Nat × Nat × Bytes)) (tb : Table) :
    ∃ v, Res.foldl XlsxFormula.step ⟨.cell (r, c) none, r, c, out, tb⟩ (fEvents p cell.f) =
        .ok ⟨.cell (r, c) v, r, c, out, (stepCell tb (toCellIn r c cell)).1⟩
      ∧ v.getD [] = utf8Encode (stepCell tb (toCellIn r c cell)).2 := by
  obtain ⟨f, value⟩ := cell
  cases f with
  | none => exact ⟨none, rfl, rfl⟩
  | plain t =>
    refine ⟨some (utf8Encode t), ?_, rfl⟩
    have e : fEvents p (.plain t) = formulaEvents p (some (utf8Encode t)) := by
      simp only [fEvents, formulaEvents, textEvents]
    rw [e]
    exact XlsxFormula.steps_formula p (r, c) r c out tb (some (utf8Encode t))
  | master si ref t =>
    refine ⟨some (utf8Encode t), ?_, rfl⟩
    obtain ⟨hsi, h2, h3, h4, h5⟩ := hok
    have hdim := getDimension_dimRef_grid (rectDims ref) ⟨h2, h4, h3, h5⟩
    -- the closing `rfl`: on a master `stepCell tb (toCellIn r c _)` computes to `(tb.store si ⟨t, ref, (r, c)⟩, t)`
    exact (steps_shared p (r, c) _ rfl t r c out tb).trans
      ((finishShared_master _ (r, c) _ si ref t hsi rfl rfl hdim).trans rfl)
  | follower si =>
    rw [stepCell_follower]
    exact ⟨some (utf8Encode (followerText tb si (r, c) [])),
      (steps_shared p (r, c) _ rfl [] r c out tb).trans (finishShared_follower _ (r, c) _ si hok rfl rfl), rfl⟩

theorem steps_scell (p : Bool) (r c cur : Nat) (cell : SCell) (hr : r < 1048576) (hc : c < 16384) (hok : cell.Ok)
    (x : List (Nat × Nat × Bytes) × Table) :
    Res.foldl XlsxFormula.step (rowsSt r cur x) (renderCell p r c cell) =
      .ok (rowsSt r (c + 1) (emit x (toCellIn r c cell))) := by
  obtain ⟨v, hf, hv⟩ := steps_f p r c cell hok x.1 x.2
  rw [renderCell, List.append_assoc, List.append_assoc, Res.foldl_append_ok (steps_open p r c cur hr hc x),
    Res.foldl_append_ok hf, Res.foldl_append_ok (steps_value p _ _ _ _ _ _ _),
    steps_close p r c hc, hv, rowsSt, emit, toCellIn_pos]

theorem steps_scells (p : Bool) (r : Nat) (hr : r < 1048576) (cells : List (Nat × SCell))
    (hok : ∀ c ∈ cells, c.1 < 16384 ∧ c.2.Ok) (cur : Nat) (x : List (Nat × Nat × Bytes) × Table) :
    ∃ col, Res.foldl XlsxFormula.step (rowsSt r cur x) (renderCells p r cells) =
      .ok (rowsSt r col ((rowCells r cells).foldl emit x)) := by
  rw [rowCells, List.foldl_map]
  exact Res.foldl_segments XlsxFormula.step (S := rowsSt r) (render := fun _ => renderCells p r)
    (seg := fun _ c => renderCell p r c.1 c.2) (next := (·.1 + 1)) (eff := _) (P := _) (hnil := fun _ => rfl)
    (hcons := fun _ _ _ => rfl) (hseg := fun cur c x h => steps_scell p r c.1 cur c.2 hr h.1 h.2 x) cells hok cur x

theorem steps_srow (p : Bool) (r cur : Nat) (cells : List (Nat × SCell)) (hr : r < 1048576)
    (hok : ∀ c ∈ cells, c.1 < 16384 ∧ c.2.Ok) (x : List (Nat × Nat × Bytes) × Table) :
    Res.foldl XlsxFormula.step (rowsSt cur 0 x)
        ([.start (q p nRow) [(nR, dec (r + 1))]] ++ renderCells p r cells ++ [.stop (q p nRow)]) =
      .ok (rowsSt (r + 1) 0 ((rowCells r cells).foldl emit x)) := by
  have e : refOr [(nR, dec (r + 1))] getRow cur = .ok r := getRow_dec r (grid_row hr)
  obtain ⟨col, h⟩ := steps_scells p r hr cells hok 0 x
  rw [List.append_assoc, List.cons_append, List.nil_append, Res.foldl_cons, rowsLoop.rowStart, e, Res.bind_ok, Res.bind_ok,
    Res.foldl_append_ok h, Res.foldl_cons, rowsLoop.rowStop, Res.bind_ok, satAdd_one hr]
  rfl

theorem steps_srows (p : Bool) (s : SSheet) (hok : ∀ row ∈ s, row.1 < 1048576 ∧ ∀ c ∈ row.2, c.1 < 16384 ∧ c.2.Ok)
    (cur : Nat) (x : List (Nat × Nat × Bytes) × Table) :
    ∃ row, Res.foldl XlsxFormula.step (rowsSt cur 0 x) (renderRows p s) = .ok (rowsSt row 0 ((toCells s).foldl emit x)) := by
  rw [toCells, List.foldl_flatMap]
  exact Res.foldl_segments XlsxFormula.step (S := fun cur => rowsSt cur 0) (render := fun _ => renderRows p) (seg := _)
    (next := (·.1 + 1)) (eff := _) (P := _) (hnil := fun _ => rfl) (hcons := fun _ _ _ => rfl)
    (hseg := fun cur row x h => steps_srow p row.1 cur row.2 h.1 h.2 x) s hok cur x

theorem readFormulas_render (s : SSheet) (p : Bool) (hwf : s.WF) :
    readFormulas (render s p) = .ok (texts [] (toCells s)) := by
  unfold readFormulas render
  have hnew : readerNew ([Ev.start (q p nWorksheet) [], Ev.start (q p nSheetData) []] ++ renderRows p s ++
        [Ev.stop (q p nSheetData), Ev.stop (q p nWorksheet)]) default false =
      .ok (default, renderRows p s ++ [Ev.stop (q p nSheetData), Ev.stop (q p nWorksheet)]) := by
    simp [readerNew]
  rw [hnew]
  obtain ⟨row, h1⟩ := steps_srows p s
    (fun row hrow => ⟨(Increasing_mem hwf.1 row hrow).2, fun c hc =>
      ⟨(Increasing_mem (hwf.2.1 row hrow) c hc).2, hwf.2.2 row hrow c hc⟩⟩) 0 ([], [])
  have h2 := Res.foldl_append_ok h1 [Ev.stop (q p nSheetData), .stop (q p nWorksheet)]
  rw [Res.foldl_cons, rowsLoop.dataStop, Res.bind_ok, Res.foldl_fixed (rowsLoop.done _ _ _)] at h2
  exact (XlsxFormula.run_of_foldl _ XlsxFormula.initSt _ h2 rfl).trans
    (by rw [foldl_emit, List.append_nil, List.reverse_reverse])

end SharedSheet
