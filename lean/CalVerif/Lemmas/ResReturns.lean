import CalVerif.Prim.Res
/-! "Comes back" as a predicate on outcomes: neither a panic nor an exhausted loop budget (`Returns`, and `ReturnsWith`
    for a postcondition on the value), with the rules that let it be proved along the structure of a model function
    instead of by splitting the function's whole body into cases: `.ite`, `.bind` where the model sequences with `>>=`,
    and `.elim` where it writes the four-armed `match` out. The `ReturnsWith` rules hand the branch condition and the
    postcondition on (`c → …`, `P a → …`), which its proofs need; the `Returns` rules hand `x = .ok a` only. -/
namespace Res
variable {α β : Type}

/-- the call comes back with a value or an `Err`: it neither panics nor runs out of fuel -/
def Returns (r : Res α) : Prop := (∃ v, r = .ok v) ∨ ∃ e, r = .err e

theorem Returns.ok (a : α) : (Res.ok a).Returns := Or.inl ⟨a, rfl⟩

theorem Returns.err (e : String) : (Res.err e : Res α).Returns := Or.inr ⟨e, rfl⟩

theorem Returns.ite {c : Prop} [Decidable c] {a b : Res α} (ha : a.Returns) (hb : b.Returns) :
    (if c then a else b).Returns := by
  split
  · exact ha
  · exact hb

theorem Returns.bind {x : Res α} {f : α → Res β} (hx : x.Returns) (hf : ∀ a, x = .ok a → (f a).Returns) :
    (x >>= f).Returns := by
  rcases hx with ⟨a, rfl⟩ | ⟨e, rfl⟩
  · exact hf a rfl
  · exact .err e

/-- Through any context of `x`, the model's own `match x with | .ok a => … | .err e => … | .panic m => … | .outOfFuel => …`
    included: as an eliminator the motive is found by abstracting `x` in the goal, so the model's matcher need not
    unify with `>>=` (it does not). Inside a `match` that is not yet reduced the next scrutinee is an alternative's
    bound variable: `dsimp only` first. -/
@[elab_as_elim] theorem Returns.elim {motive : Res α → Prop} {x : Res α} (h : x.Returns)
    (ok : ∀ a, motive (.ok a)) (err : ∀ e, motive (.err e)) : motive x := by
  rcases h with ⟨a, rfl⟩ | ⟨e, rfl⟩
  · exact ok a
  · exact err e

theorem Returns.ne_panic {x : Res α} (h : x.Returns) (m : String) : x ≠ .panic m := by
  rcases h with ⟨_, rfl⟩ | ⟨_, rfl⟩ <;> exact fun h => nomatch h

theorem Returns.ne_fuel {x : Res α} (h : x.Returns) : x ≠ .outOfFuel := by
  rcases h with ⟨_, rfl⟩ | ⟨_, rfl⟩ <;> exact fun h => nomatch h

/-- the two ways the property theorems spell totality -/
theorem returns_iff {x : Res α} : x.Returns ↔ (∀ m, x ≠ .panic m) ∧ x ≠ .outOfFuel := by
  refine ⟨fun h => ⟨h.ne_panic, h.ne_fuel⟩, fun ⟨hp, hf⟩ => ?_⟩
  cases x with
  | ok a => exact .ok a
  | err e => exact .err e
  | panic m => exact absurd rfl (hp m)
  | outOfFuel => exact absurd rfl hf

/-- `Returns` with a postcondition: an `Err`, or a value that satisfies `P` -/
def ReturnsWith (r : Res α) (P : α → Prop) : Prop := (∃ a, r = .ok a ∧ P a) ∨ ∃ e, r = .err e

theorem ReturnsWith.ok {a : α} {P : α → Prop} (h : P a) : (Res.ok a).ReturnsWith P := .inl ⟨a, rfl, h⟩

theorem ReturnsWith.err {e : String} {P : α → Prop} : (Res.err e : Res α).ReturnsWith P := .inr ⟨e, rfl⟩

theorem ReturnsWith.of_ok {r : Res α} {P : α → Prop} (h : r.ReturnsWith P) {a : α} (ha : r = .ok a) : P a := by
  rcases h with ⟨a', rfl, h⟩ | ⟨e, rfl⟩
  · exact Res.ok.inj ha ▸ h
  · cases ha

theorem ReturnsWith.returns {r : Res α} {P : α → Prop} (h : r.ReturnsWith P) : r.Returns :=
  h.imp (fun ⟨a, h, _⟩ => ⟨a, h⟩) id

theorem ReturnsWith.mono {r : Res α} {P Q : α → Prop} (h : r.ReturnsWith P) (hpq : ∀ a, P a → Q a) :
    r.ReturnsWith Q :=
  h.imp (fun ⟨a, h, p⟩ => ⟨a, h, hpq a p⟩) id

theorem ReturnsWith.ite {c : Prop} [Decidable c] {a b : Res α} {P : α → Prop}
    (ha : c → a.ReturnsWith P) (hb : ¬c → b.ReturnsWith P) : (if c then a else b).ReturnsWith P := by
  split
  · exact ha ‹c›
  · exact hb ‹¬c›

theorem Returns.with {r : Res α} (h : r.Returns) : r.ReturnsWith fun _ => True :=
  h.imp (fun ⟨a, h⟩ => ⟨a, h, trivial⟩) id

@[elab_as_elim] theorem ReturnsWith.elim {motive : Res α → Prop} {x : Res α} {P : α → Prop} (h : x.ReturnsWith P)
    (ok : ∀ a, P a → motive (.ok a)) (err : ∀ e, motive (.err e)) : motive x := by
  rcases h with ⟨a, rfl, p⟩ | ⟨e, rfl⟩
  · exact ok a p
  · exact err e

theorem ReturnsWith.bind {x : Res α} {f : α → Res β} {P : α → Prop} {Q : β → Prop} (hx : x.ReturnsWith P)
    (hf : ∀ a, P a → (f a).ReturnsWith Q) : (x >>= f).ReturnsWith Q :=
  hx.elim hf fun _ => .err

theorem ReturnsWith.bind_returns {x : Res α} {f : α → Res β} {P : α → Prop} (hx : x.ReturnsWith P)
    (hf : ∀ a, P a → (f a).Returns) : (x >>= f).Returns :=
  hx.elim hf .err

theorem bind_eq_ok {x : Res α} {f : α → Res β} {b : β} : (x >>= f) = .ok b ↔ ∃ a, x = .ok a ∧ f a = .ok b := by
  cases x with
  | ok a => exact ⟨fun h => ⟨a, rfl, h⟩, fun ⟨_, ha, h⟩ => by cases ha; exact h⟩
  | _ => exact ⟨fun h => (nomatch h), fun ⟨_, ha, _⟩ => (nomatch ha)⟩

theorem ite_bind {c : Prop} [Decidable c] (a b : Res α) (k : α → Res β) :
    (if c then a else b) >>= k = if c then a >>= k else b >>= k := by
  split <;> rfl

theorem ok_of_panic_ite {c : Prop} [Decidable c] {s : String} {x : Res α} {v : α}
    (h : (if c then .panic s else x) = .ok v) : ¬ c ∧ x = .ok v := by
  by_cases hc : c
  · rw [if_pos hc] at h; cases h
  · rw [if_neg hc] at h; exact ⟨hc, h⟩

end Res
