import CalVerif.Spec.OdsSheet
import CalVerif.Lemmas.OdsCell
/-! On `CellOk` events `typeCell`, `typeRow`, `typeRows` succeed and yield `typedRuns`. -/
namespace OdsSheet
open OdsRange OdsCell

theorem typeCell_eq (ev : CellEv) (h : CellOk ev) :
    typeCell ev = .ok (cellValue ev.attrs (cellContent ev), cellFormula ev.attrs) := by
  rw [typeCell, getDatatype_eq ev.attrs h.1]
  cases hf : ev.attrs.find? Attr.isValue with
  | some a => simp [cellValue, hf]
  | none =>
    cases hs : stringAfter false ev.attrs with
    | false => simp [cellValue, hf, hs]
    | true =>
      -- the only case that reads the children
      obtain ⟨t, r, ht⟩ := h.2 hf hs
      simp [cellValue, cellContent, hf, hs, ht]

theorem typeRow_eq (evs : List CellEv) (h : ∀ ev ∈ evs, CellOk ev) :
    typeRow evs =
      .ok (evs.map fun ev => (ev.kind, (cellValue ev.attrs (cellContent ev), cellFormula ev.attrs), ev.count)) := by
  induction evs with
  | nil => rfl
  | cons ev rest ih =>
    rw [typeRow, typeCell_eq ev (h ev List.mem_cons_self), ih (fun e he => h e (List.mem_cons_of_mem _ he))]
    rfl

theorem typeRows_eq (rows : List (Nat × List CellEv)) (h : ∀ row ∈ rows, ∀ ev ∈ row.2, CellOk ev) :
    typeRows rows = .ok (typedRuns rows) := by
  induction rows with
  | nil => rfl
  | cons x rest ih =>
    obtain ⟨k, evs⟩ := x
    rw [typeRows, typeRow_eq evs (h (k, evs) List.mem_cons_self), ih (fun r hr => h r (List.mem_cons_of_mem _ hr))]
    rfl

end OdsSheet
