import CalVerif.Lemmas.Cfb
import CalVerif.Lemmas.Password
/-! C13's compound-file theorems (`Lemmas/Cfb.lean`: `new_layout_good`, `hasDirectory_layout`, `hasDirectory_names`,
    `getStream_layout`) as proofs of the two propositions `CfbNewOnLayouts`, `CfbReadsLayouts` of
    `Spec/PasswordSpec.lean`, which the proofs of C20's container theorems apply (the theorems themselves are
    unconditional); beside them: `Cfb::new` rejects what lacks the signature. -/

namespace Password
open Cfb

theorem new_err_of_not_signature (file : Bytes) (len : Nat) (h : file.take 8 ≠ Cfb.signature) :
    ∃ e, Cfb.new file len = .err e := by
  unfold Cfb.new
  exact (fromReader_returnsWith file).elim (fun _ k => absurd k.1 h) fun e => ⟨e, rfl⟩

/-- names are `String.toList` of literals: told apart as strings, without decoding them -/
theorem toList_ne {a b : String} (h : a ≠ b) : a.toList ≠ b.toList := fun e => h (String.toList_inj.mp e)

theorem cfbNewOnLayouts : CfbNewOnLayouts := by
  intro streams L hv
  have hp := valid_unpack streams L hv
  obtain ⟨c, rd, hnew, hg⟩ := new_layout_good streams L hp
  exact ⟨c, rd, hnew, fun s hs => hasDirectory_layout streams L hp c rd hg s hs⟩

theorem cfbReadsLayouts : CfbReadsLayouts := by
  intro streams L hv
  have hp := valid_unpack streams L hv
  obtain ⟨c, rd, hnew, hg⟩ := new_layout_good streams L hp
  refine ⟨c, rd, hnew, ?_, ?_⟩
  · exact hasDirectory_names streams L hp c rd hg
  · intro s hs
    obtain ⟨s0, hs0, rfl⟩ := List.getElem_of_mem hs
    obtain ⟨c', rd', hget, _⟩ := getStream_layout streams L hp c rd hg s0 streams[s0] (by simp [hs0])
    exact ⟨c', rd', hget⟩

end Password
