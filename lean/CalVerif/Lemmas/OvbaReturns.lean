import CalVerif.Lemmas.OvbaFuel
import CalVerif.Lemmas.OvbaDir
/-! Properties C18 / C06: the walk over the `dir` stream and `VbaProject::from_cfb` come back on every input, with a
    value or an `Err`: no panic, and the fuel the model hands `Reference::from_stream` and the module-tail loop is
    enough. Every reader of `src/vba.rs` only drops a prefix of the stream: stated as "at most `n` bytes are left, given
    at most `n` to start with" (`X_returnsWith : s.length ≤ n → ReturnsWith (X s) fun p => p.2.length ≤ n`), the fact
    is handed from step to step along the `do` block of each function, and in the two fuelled loops "`read_u16`
    consumes" is the progress that bounds the iterations. -/
namespace Ovba
open Res (ReturnsWith)

variable {n k : Nat} {s : Bytes}

theorem skip_returnsWith (h : s.length ≤ n) : ReturnsWith (skip k s) fun s' => s'.length ≤ n :=
  .ite (fun _ => .err) fun _ => .ok (Nat.le_trans (List.length_drop ▸ Nat.sub_le _ _) h)

/-- strictly fewer: the two bytes read are what each iteration of `readReferences` and `moduleTail` consumes, so
    these loops are within the fuel `s.length + 1` the model gives them -/
theorem readU16_returnsWith (h : s.length ≤ n) : ReturnsWith (readU16 s) fun p => p.2.length < n := by
  unfold readU16
  split
  · exact .ok (Nat.lt_of_lt_of_le (Nat.lt_succ_of_lt (Nat.lt_succ_self _)) h)
  · exact .err

theorem readU32_returnsWith (h : s.length ≤ n) : ReturnsWith (readU32 s) fun p => p.2.length ≤ n := by
  unfold readU32
  split
  · exact .ok (Nat.le_trans (by simp only [List.length_cons]; omega) h)
  · exact .err

theorem readVar_returnsWith (h : s.length ≤ n) : ReturnsWith (readVar s) fun p => p.2.length ≤ n :=
  (readU32_returnsWith h).bind fun _ h => .ite (fun _ => .err) fun _ =>
    .ok (Nat.le_trans (List.length_drop ▸ Nat.sub_le _ _) h)

theorem checkRecord_returnsWith {id : Nat} (h : s.length ≤ n) :
    ReturnsWith (checkRecord id s) fun s' => s'.length ≤ n :=
  (readU16_returnsWith h).bind fun _ h => .ite (fun _ => .err) fun _ => .ok (Nat.le_of_lt h)

theorem checkVar_returnsWith {id : Nat} (h : s.length ≤ n) : ReturnsWith (checkVar id s) fun p => p.2.length ≤ n :=
  (checkRecord_returnsWith h).bind fun _ h => readVar_returnsWith h

theorem skipCompat_returnsWith (h : s.length ≤ n) : ReturnsWith (skipCompat s) fun s' => s'.length ≤ n := by
  unfold skipCompat
  split
  · exact .ite (fun _ => skip_returnsWith h) fun _ => .ok h
  · exact .err

theorem readCodepage_returns : (readCodepage s).Returns := by
  unfold readCodepage
  split
  · exact .ite (.ok _) (.err _)
  · exact .err _

theorem readDirInformation_returnsWith (h : s.length ≤ n) :
    ReturnsWith (readDirInformation s) fun p => p.2.length ≤ n :=
  (skip_returnsWith h).bind fun _ h => (skipCompat_returnsWith h).bind fun _ h => (skip_returnsWith h).bind fun _ h =>
  readCodepage_returns.with.bind fun _ _ => (skip_returnsWith h).bind fun _ h =>
  (checkVar_returnsWith h).bind fun _ h => (checkVar_returnsWith h).bind fun _ h =>
  (checkVar_returnsWith h).bind fun _ h => (checkVar_returnsWith h).bind fun _ h =>
  (checkVar_returnsWith h).bind fun _ h => (skip_returnsWith h).bind fun _ h =>
  (checkVar_returnsWith h).bind fun _ h => (checkVar_returnsWith h).bind fun _ h => .ok h

theorem setLibid_returnsWith {r : Ref} (h : s.length ≤ n) : ReturnsWith (setLibid r s) fun p => p.2.length ≤ n :=
  (readVar_returnsWith h).bind fun _ h => .ite (fun _ => .ok h) fun _ => by
    split
    · exact .ok h
    · exact .err

theorem refName_returnsWith (h : s.length ≤ n) : ReturnsWith (refName s) fun p => p.2.length ≤ n :=
  (readVar_returnsWith h).bind fun _ h => (checkVar_returnsWith h).bind fun _ h => .ok h

theorem refControlExt_returnsWith {t : Nat} (h : s.length ≤ n) :
    ReturnsWith (refControlExt t s) fun s' => s'.length ≤ n :=
  .ite
    (fun _ => (readVar_returnsWith h).bind fun _ h => (checkVar_returnsWith h).bind fun _ h =>
      checkRecord_returnsWith h)
    fun _ => .ite (fun _ => .ok h) fun _ => .err

theorem refControl_returnsWith {r : Ref} (h : s.length ≤ n) :
    ReturnsWith (refControl r s) fun p => p.2.length ≤ n :=
  (skip_returnsWith h).bind fun _ h => (setLibid_returnsWith h).bind fun _ h => (skip_returnsWith h).bind fun _ h =>
  (readU16_returnsWith h).bind fun _ h => (refControlExt_returnsWith (Nat.le_of_lt h)).bind fun _ h =>
  (skip_returnsWith h).bind fun _ h => (setLibid_returnsWith h).bind fun _ h => (skip_returnsWith h).bind fun _ h =>
  .ok h

theorem refRegistered_returnsWith {r : Ref} (h : s.length ≤ n) :
    ReturnsWith (refRegistered r s) fun p => p.2.length ≤ n :=
  (skip_returnsWith h).bind fun _ h => (setLibid_returnsWith h).bind fun _ h => (skip_returnsWith h).bind fun _ h =>
  .ok h

theorem refProject_returnsWith {r : Ref} (h : s.length ≤ n) :
    ReturnsWith (refProject r s) fun p => p.2.length ≤ n :=
  (skip_returnsWith h).bind fun _ h => (readVar_returnsWith h).bind fun _ h => (readVar_returnsWith h).bind fun _ h =>
  (skip_returnsWith h).bind fun _ h => .ok h

theorem refArm_returnsWith {id : Nat} {r : Ref} (h : s.length ≤ n) :
    ReturnsWith (refArm id r s) fun p => p.2.length ≤ n :=
  .ite (fun _ => setLibid_returnsWith h) fun _ => .ite (fun _ => refControl_returnsWith h) fun _ =>
  .ite (fun _ => refRegistered_returnsWith h) fun _ => .ite (fun _ => refProject_returnsWith h) fun _ => .err

/-- every iteration consumes the two bytes of the record id: the fuel `from_stream` is modelled with suffices -/
theorem readReferences_returnsWith : ∀ (fuel : Nat) (s : Bytes) (refs : List Ref) (cur : Ref),
    s.length < fuel → s.length ≤ n →
    ReturnsWith (readReferences fuel s refs cur) fun p => p.2.length ≤ n
  | 0, _, _, _, hf, _ => absurd hf (Nat.not_lt_zero _)
  | fuel + 1, s, refs, cur, hf, h => by
    rw [readReferences_succ]
    refine (readU16_returnsWith (Nat.le_refl _)).bind fun p h1 => ?_
    have hf1 : p.2.length < fuel := Nat.lt_of_lt_of_le h1 (Nat.le_of_lt_succ hf)
    have hn : p.2.length ≤ n := Nat.le_trans (Nat.le_of_lt h1) h
    exact .ite (fun _ => .ok hn) fun _ => .ite
      (fun _ => (refName_returnsWith (Nat.le_refl _)).bind fun _ h2 =>
        readReferences_returnsWith fuel _ _ _ (Nat.lt_of_le_of_lt h2 hf1) (Nat.le_trans h2 hn))
      fun _ => (refArm_returnsWith (Nat.le_refl _)).bind fun _ h2 =>
        readReferences_returnsWith fuel _ _ _ (Nat.lt_of_le_of_lt h2 hf1) (Nat.le_trans h2 hn)

theorem moduleTail_returnsWith : ∀ (fuel : Nat) (s : Bytes), s.length < fuel → s.length ≤ n →
    ReturnsWith (moduleTail fuel s) fun s' => s'.length ≤ n
  | 0, _, hf, _ => absurd hf (Nat.not_lt_zero _)
  | fuel + 1, s, hf, h => by
    rw [moduleTail]
    exact (skip_returnsWith (Nat.le_refl _)).bind fun _ h1 => (readU16_returnsWith h1).bind fun p h2 =>
      have hn : p.2.length ≤ n := Nat.le_trans (Nat.le_of_lt h2) h
      .ite (fun _ => moduleTail_returnsWith fuel _ (Nat.lt_of_lt_of_le h2 (Nat.le_of_lt_succ hf)) hn)
        fun _ => .ite (fun _ => .ok hn) fun _ => .err

theorem readModule_returnsWith (h : s.length ≤ n) : ReturnsWith (readModule s) fun p => p.2.length ≤ n :=
  (checkVar_returnsWith h).bind fun _ h => (checkVar_returnsWith h).bind fun _ h =>
  (checkVar_returnsWith h).bind fun _ h => (checkVar_returnsWith h).bind fun _ h =>
  (checkVar_returnsWith h).bind fun _ h => (checkVar_returnsWith h).bind fun _ h =>
  (checkRecord_returnsWith h).bind fun _ h => (skip_returnsWith h).bind fun _ h =>
  (readU32_returnsWith h).bind fun _ h => (checkRecord_returnsWith h).bind fun _ h =>
  (skip_returnsWith h).bind fun _ h => (checkRecord_returnsWith h).bind fun _ h =>
  (skip_returnsWith h).bind fun _ h => (readU16_returnsWith h).bind fun _ h =>
  .ite (fun _ => .err) fun _ => (moduleTail_returnsWith _ _ (Nat.lt_succ_self _) (Nat.le_of_lt h)).bind fun _ h =>
    (skip_returnsWith h).bind fun _ h => .ok h

theorem readModuleList_returns : ∀ (c : Nat) (s : Bytes) (acc : List Module), (readModuleList c s acc).Returns
  | 0, _, _ => .ok _
  | c + 1, s, acc => by
    rw [readModuleList]
    exact (readModule_returnsWith (Nat.le_refl _)).bind_returns fun _ _ => readModuleList_returns c _ _

theorem readModules_returns : (readModules s).Returns :=
  (skip_returnsWith (Nat.le_refl _)).bind_returns fun _ _ =>
  (readU16_returnsWith (Nat.le_refl _)).bind_returns fun _ _ =>
    (skip_returnsWith (Nat.le_refl _)).bind_returns fun _ _ => readModuleList_returns _ _ _

theorem dirWalk_returns (s : Bytes) : (dirWalk s).Returns :=
  (readDirInformation_returnsWith (Nat.le_refl _)).bind_returns fun _ _ =>
    (readReferences_returnsWith _ _ _ _ (Nat.lt_succ_self _) (Nat.le_refl _)).bind_returns fun _ _ =>
    readModules_returns.bind fun _ _ => .ok _

theorem readModuleStreams_returns (lookup : Bytes → Option Bytes) : ∀ (ms : List Module),
    (readModuleStreams lookup ms).Returns
  | [] => .ok _
  | m :: ms => by
    rw [readModuleStreams]
    split
    · exact .err _
    · exact .ite (.err _) ((decompress_returns _).returns.bind fun _ _ =>
        (readModuleStreams_returns lookup ms).bind fun _ _ => .ok _)

theorem project_returns (d : Option Bytes) (lookup : Bytes → Option Bytes) : (project d lookup).Returns := by
  unfold project
  split
  · exact .err _
  · exact (decompress_returns _).returns.bind fun _ _ => (dirWalk_returns _).bind fun _ _ =>
      (readModuleStreams_returns _ _).bind fun _ _ => .ok _

end Ovba
