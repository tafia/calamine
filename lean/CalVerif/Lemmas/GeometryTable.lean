import CalVerif.Lemmas.Geometry
import CalVerif.Model.DataConv
import CalVerif.Lemmas.Range
/-! Lemmas for the table accessors of `Props/C17.lean`: `Range::range` commutes with a cell-wise conversion that
    keeps the default value (so the owned and the borrowed table agree cell by cell); the data window exists
    whenever its cell count fits `u32`. -/
namespace Geometry
open Range (Rng)
set_option linter.unusedSectionVars false

variable {α β : Type} [Inhabited α] [Inhabited β]

/-- cell-wise conversion of a range; `mapRng DataConv.toData` is `DataConv.toOwnedRange` (`toOwnedRange_eq`) -/
def mapRng (f : α → β) (r : Rng α) : Rng β := ⟨r.sr, r.sc, r.er, r.ec, r.inner.map f⟩

/-- `g <$> ·` on `Res`, written out -/
def mapRes {γ δ : Type} (g : γ → δ) : Res γ → Res δ
  | .ok a => .ok (g a)
  | .err e => .err e
  | .panic s => .panic s
  | .outOfFuel => .outOfFuel

theorem toOwnedRange_eq (r : Rng DataConv.DataRef) : DataConv.toOwnedRange r = mapRng DataConv.toData r := rfl

theorem new_map (f : α → β) (hf : f default = default) (sr sc er ec : Nat) :
    (Range.new sr sc er ec : Res (Rng β)) = mapRes (mapRng f) (Range.new sr sc er ec : Res (Rng α)) := by
  simp only [Range.new, apply_ite (mapRes (mapRng f))]
  simp only [mapRes, mapRng, List.map_replicate, hf]

theorem copyRows_map (f : α → β) (src : List α) (dw sw dr sr_ dc sc_ nc : Nat) :
    ∀ (k : Nat) (dst : List α),
      (Range.copyRows src dw sw dr sr_ dc sc_ nc k dst).map f =
        Range.copyRows (src.map f) dw sw dr sr_ dc sc_ nc k (dst.map f)
  | 0, _ => rfl
  | k + 1, dst => by
    simp only [Range.copyRows, copyRows_map f src dw sw dr sr_ dc sc_ nc k, Range.copySlice, List.map_append,
      List.map_take, List.map_drop]

theorem range_map (f : α → β) (hf : f default = default) (r : Rng α) (sr sc er ec : Nat) :
    Range.range (mapRng f r) sr sc er ec = mapRes (mapRng f) (Range.range r sr sc er ec) := by
  unfold Range.range
  rw [new_map f hf sr sc er ec]
  cases (Range.new sr sc er ec : Res (Rng α)) with
  | ok other =>
    show _ = mapRes (mapRng f) (if _ then _ else _)
    simp only [apply_ite (mapRes (mapRng f))]
    simp only [mapRes, mapRng, List.length_map, copyRows_map, Range.Rng.width]
  | _ => rfl

theorem tableData_map (f : α → β) (hf : f default = default) (r : Rng α) (d : Rect) :
    tableData (mapRng f r) d = mapRes (mapRng f) (tableData r d) := by
  unfold tableData
  split
  · simp [mapRes, mapRng, Range.empty]
  · exact range_map f hf r d.sr d.sc d.er d.ec

/-- the two span bounds of `Range.rectPre` follow from the bound on the cell count -/
theorem tableData_ok (r : Rng α) (d : Rect) (hord : d.sr ≤ d.er ∧ d.sc ≤ d.ec)
    (ha : (d.er - d.sr + 1) * (d.ec - d.sc + 1) < Range.U32) : ∃ t, tableData r d = .ok t := by
  rw [tableData_range r d hord]
  exact Range.range_of_pre r _ _ _ _ ⟨hord.1, hord.2, Nat.lt_of_le_of_lt (Nat.le_mul_of_pos_right _ (Nat.succ_pos _)) ha,
    Nat.lt_of_le_of_lt (Nat.le_mul_of_pos_left _ (Nat.succ_pos _)) ha, ha⟩

end Geometry
