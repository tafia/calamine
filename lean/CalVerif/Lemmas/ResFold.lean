import CalVerif.Lemmas.ResReturns
/-! A `Res`-valued step folded over a list (`Res.foldl`): the run of an event-driven reader (`XlsxCells.step`,
    `XlsxFormula.step`) over a stretch of events. `foldl_append_ok` lets a run be cut where a stretch ends,
    `foldl_segments` reads a list that was rendered element by element, `run_of_foldl` ties the fold to a reader's own
    loop, which stops at its first `done` state. -/
namespace Res
variable {σ ε : Type}

/-- `f` folded over the list; stops at the first outcome that is not `ok`. The arms are written out (not `>>=`) so that
    a run over concrete events unfolds the way the model's own four-armed matches do. -/
def foldl (f : σ → ε → Res σ) : σ → List ε → Res σ
  | s, [] => .ok s
  | s, e :: es =>
    match f s e with
    | .ok s' => foldl f s' es
    | .err e => .err e
    | .panic m => .panic m
    | .outOfFuel => .outOfFuel

theorem foldl_cons (f : σ → ε → Res σ) (s : σ) (e : ε) (es : List ε) :
    foldl f s (e :: es) = f s e >>= fun s' => foldl f s' es := by
  rw [foldl]; cases f s e <;> rfl

theorem foldl_append_ok {f : σ → ε → Res σ} {s s' : σ} {a : List ε} (h : foldl f s a = .ok s') (b : List ε) :
    foldl f s (a ++ b) = foldl f s' b := by
  induction a generalizing s with
  | nil => cases h; rfl
  | cons e es ih =>
    rw [foldl_cons] at h
    obtain ⟨s1, h1, h2⟩ := bind_eq_ok.mp h
    rw [List.cons_append, foldl_cons, h1]
    exact ih h2

theorem foldl_fixed {f : σ → ε → Res σ} {s : σ} (h : ∀ e, f s e = .ok s) (es : List ε) : foldl f s es = .ok s := by
  induction es with
  | nil => rfl
  | cons e es ih => rw [foldl_cons, h]; exact ih

/-- A loop `run` that steps with `f` and returns `fin s'` at the first state `s'` that is `done` (the readers' `run`: they
    stop at `Ok(None)`), against the fold, which goes on: where `f` leaves a `done` state alone and the fold ends in a
    `done` state `s'`, the loop has returned `fin s'`. -/
theorem run_of_foldl {ρ : Type} {f : σ → ε → Res σ} {run : List ε → σ → ρ} {done : σ → Prop} [DecidablePred done]
    {fin : σ → ρ} (hnil : ∀ s, done s → run [] s = fin s)
    (hcons : ∀ e es s s', f s e = .ok s' → run (e :: es) s = if done s' then fin s' else run es s')
    (hfix : ∀ s e, done s → f s e = .ok s) {es : List ε} {s s' : σ} (h : foldl f s es = .ok s') (hd : done s') :
    run es s = fin s' := by
  induction es generalizing s with
  | nil => cases h; exact hnil _ hd
  | cons e es ih =>
    rw [foldl_cons] at h
    obtain ⟨s1, hs, h⟩ := bind_eq_ok.mp h
    rw [hcons e es s s1 hs]
    by_cases hm : done s1
    · rw [foldl_fixed (fun e => hfix s1 e hm)] at h
      cases h
      exact if_pos hm
    · rw [if_neg hm]
      exact ih h

/-- A list rendered element by element, each element against the cursor `k` the previous one left
    (`render k (e :: l) = seg k e ++ render (next e) l`), read by a machine whose state is a cursor and a rest `x`
    (`S k x`): if the segment of `e` takes `S k x` to `S (next e) (eff x e)`, the whole list folds `eff` over `x`. -/
theorem foldl_segments {γ χ κ : Type} (f : σ → ε → Res σ) (S : κ → χ → σ) (render : κ → List γ → List ε)
    (seg : κ → γ → List ε) (next : γ → κ) (eff : χ → γ → χ) (P : γ → Prop)
    (hnil : ∀ k, render k [] = []) (hcons : ∀ k e l, render k (e :: l) = seg k e ++ render (next e) l)
    (hseg : ∀ k e x, P e → foldl f (S k x) (seg k e) = .ok (S (next e) (eff x e)))
    (l : List γ) (hP : ∀ e ∈ l, P e) (k : κ) (x : χ) :
    ∃ k', foldl f (S k x) (render k l) = .ok (S k' (l.foldl eff x)) := by
  induction l generalizing k x with
  | nil => exact ⟨k, by rw [hnil]; rfl⟩
  | cons e l ih =>
    obtain ⟨k', h⟩ := ih (fun e' he' => hP e' (List.mem_cons_of_mem _ he')) (next e) (eff x e)
    exact ⟨k', by rw [hcons, foldl_append_ok (hseg k e x (hP e List.mem_cons_self)), h]; rfl⟩

end Res

