import CalVerif.Spec.OdsRange
import CalVerif.Lemmas.Range
/-! `get_range` (C04). First and last index of a predicate (`IsSpan`, `Span`): a row's non-default columns
    (`position` / `rposition`), the columns the first pass finds, a bounding box as a span of rows and a span of columns.
    Then the two passes on rows split as `Trim` and the result against the grid of the rows (`RangeOf`, the range of a
    grid; `getRangeRows_result`); the run logic of `read_row`; the computable `bbox` of `Spec/OdsRange.lean`; element
    kinds (a covered cell reads like an ordinary one). -/

namespace OdsRange
open Range (Rng Inv)
set_option linter.unusedSectionVars false
variable {α : Type} [Inhabited α] [DecidableEq α]

/-- how an index meets a run of `k` equal rows or cells -/
theorem lt_or_add (q k : Nat) : q < k ∨ ∃ d, q = k + d :=
  (Nat.lt_or_ge q k).imp_right Nat.exists_eq_add_of_le

theorem isEmptyRow_iff (row : List α) : isEmptyRow row = true ↔ ∀ x ∈ row, x = default := by
  simp [isEmptyRow, List.all_eq_true]

theorem isEmptyRow_cons (x : α) (xs : List α) :
    isEmptyRow (x :: xs) = true ↔ x = default ∧ isEmptyRow xs = true := by
  simp [isEmptyRow]

theorem getD_of_isEmptyRow (row : List α) (h : isEmptyRow row = true) (c : Nat) :
    row.getD c default = default := by
  rw [List.getD_eq_getElem?_getD]
  cases hc : row[c]? with
  | none => rfl
  | some v => exact (isEmptyRow_iff row).1 h v (List.mem_of_getElem? hc)

theorem lt_length_of_getD_ne (row : List α) (c : Nat) (h : row.getD c default ≠ default) : c < row.length :=
  Nat.lt_of_not_le fun hle => h (by rw [List.getD_eq_getElem?_getD, List.getElem?_eq_none hle]; rfl)

theorem isEmptyRow_of_getD (row : List α) (h : ∀ c, row.getD c default = default) : isEmptyRow row = true := by
  rw [isEmptyRow_iff]
  intro x hx
  obtain ⟨i, hi, rfl⟩ := List.getElem_of_mem hx
  have := h i
  rwa [List.getD_eq_getElem?_getD, List.getElem?_eq_getElem hi] at this

/-- `a` and `b` are the first and the last index at which `P` holds -/
def IsSpan (P : Nat → Prop) (a b : Nat) : Prop := P a ∧ P b ∧ ∀ q, P q → a ≤ q ∧ q ≤ b

theorem IsSpan.unique {P : Nat → Prop} {a b a' b' : Nat} (h : IsSpan P a b) (h' : IsSpan P a' b') :
    a = a' ∧ b = b' :=
  ⟨Nat.le_antisymm (h.2.2 a' h'.1).1 (h'.2.2 a h.1).1, Nat.le_antisymm (h'.2.2 b h.2.1).2 (h.2.2 b' h'.2.1).2⟩

theorem IsSpan.shift {P P' : Nat → Prop} {k a b : Nat} (hlo : ∀ q, q < k → ¬ P q) (hhi : ∀ q, P (k + q) ↔ P' q)
    (h : IsSpan P' a b) : IsSpan P (k + a) (k + b) := by
  refine ⟨(hhi a).2 h.1, (hhi b).2 h.2.1, fun q hq => ?_⟩
  rcases lt_or_add q k with hk | ⟨d, rfl⟩
  · exact absurd hq (hlo q hk)
  · have := h.2.2 d ((hhi d).1 hq)
    exact ⟨Nat.add_le_add_left this.1 k, Nat.add_le_add_left this.2 k⟩

theorem IsSpan.run_none {P : Nat → Prop} {k : Nat} (hk : 0 < k) (hlo : ∀ q, q < k → P q)
    (hhi : ∀ q, ¬ P (k + q)) : IsSpan P 0 (k - 1) := by
  refine ⟨hlo 0 hk, hlo (k - 1) (Nat.sub_one_lt_of_lt hk), fun q hq => ⟨Nat.zero_le q, ?_⟩⟩
  rcases lt_or_add q k with h | ⟨d, rfl⟩
  · exact Nat.le_sub_one_of_lt h
  · exact absurd hq (hhi d)

theorem IsSpan.run_some {P P' : Nat → Prop} {k a b : Nat} (hk : 0 < k) (hlo : ∀ q, q < k → P q)
    (hhi : ∀ q, P (k + q) ↔ P' q) (h : IsSpan P' a b) : IsSpan P 0 (k + b) := by
  refine ⟨hlo 0 hk, (hhi b).2 h.2.1, fun q hq => ⟨Nat.zero_le q, ?_⟩⟩
  rcases lt_or_add q k with hq' | ⟨d, rfl⟩
  · exact Nat.le_trans (Nat.le_of_lt hq') (Nat.le_add_right k b)
  · exact Nat.add_le_add_left (h.2.2 d ((hhi d).1 hq)).2 k

theorem IsSpan.congr {P P' : Nat → Prop} {a b : Nat} (hP : ∀ q, P q ↔ P' q) (h : IsSpan P' a b) : IsSpan P a b :=
  ⟨(hP a).2 h.1, (hP b).2 h.2.1, fun q hq => h.2.2 q ((hP q).1 hq)⟩

theorem IsSpan.union {P P₁ P₂ : Nat → Prop} {a b a' b' : Nat} (hP : ∀ q, P q ↔ P₁ q ∨ P₂ q)
    (h₁ : IsSpan P₁ a b) (h₂ : IsSpan P₂ a' b') : IsSpan P (min a a') (max b b') := by
  refine ⟨?_, ?_, fun q hq => ?_⟩
  · by_cases h : a ≤ a'
    · rw [Nat.min_eq_left h]; exact (hP a).2 (Or.inl h₁.1)
    · rw [Nat.min_eq_right (Nat.le_of_not_le h)]; exact (hP a').2 (Or.inr h₂.1)
  · by_cases h : b ≤ b'
    · rw [Nat.max_eq_right h]; exact (hP b').2 (Or.inr h₂.2.1)
    · rw [Nat.max_eq_left (Nat.le_of_not_le h)]; exact (hP b).2 (Or.inl h₁.2.1)
  · rcases (hP q).1 hq with h | h
    · exact ⟨Nat.le_trans (Nat.min_le_left a a') (h₁.2.2 q h).1, Nat.le_trans (h₁.2.2 q h).2 (Nat.le_max_left b b')⟩
    · exact ⟨Nat.le_trans (Nat.min_le_right a a') (h₂.2.2 q h).1, Nat.le_trans (h₂.2.2 q h).2 (Nat.le_max_right b b')⟩

theorem IsBBox.rows {g : Nat → Nat → α} {r0 c0 r1 c1 : Nat} (h : IsBBox g r0 c0 r1 c1) :
    IsSpan (fun p => ∃ q, g p q ≠ default) r0 r1 :=
  ⟨h.top, h.bottom, fun p ⟨q, hq⟩ => ⟨(h.bound p q hq).1, (h.bound p q hq).2.1⟩⟩

theorem IsBBox.cols {g : Nat → Nat → α} {r0 c0 r1 c1 : Nat} (h : IsBBox g r0 c0 r1 c1) :
    IsSpan (fun q => ∃ p, g p q ≠ default) c0 c1 :=
  ⟨h.left, h.right, fun q ⟨p, hp⟩ => (h.bound p q hp).2.2⟩

theorem IsBBox.of_spans {g : Nat → Nat → α} {r0 c0 r1 c1 : Nat} (hr : IsSpan (fun p => ∃ q, g p q ≠ default) r0 r1)
    (hc : IsSpan (fun q => ∃ p, g p q ≠ default) c0 c1) : IsBBox g r0 c0 r1 c1 :=
  ⟨fun p q h => ⟨(hr.2.2 p ⟨q, h⟩).1, (hr.2.2 p ⟨q, h⟩).2, hc.2.2 q ⟨p, h⟩⟩, hr.1, hr.2.1, hc.1, hc.2.1⟩

theorem IsBBox.unique {g : Nat → Nat → α} {a b c d a' b' c' d' : Nat}
    (h : IsBBox g a b c d) (h' : IsBBox g a' b' c' d') : a = a' ∧ b = b' ∧ c = c' ∧ d = d' :=
  ⟨(h.rows.unique h'.rows).1, (h.cols.unique h'.cols).1, (h.rows.unique h'.rows).2, (h.cols.unique h'.cols).2⟩

/-- the first and last index at which `P` holds, `none` if it holds nowhere: what `position` / `rposition` and `rowSpan`
    return -/
def Span (P : Nat → Prop) : Option (Nat × Nat) → Prop
  | none => ∀ q, ¬ P q
  | some ab => IsSpan P ab.1 ab.2

/-- the span after a run of `k` places has been put in front: the run counts (`b`) or not -/
def Span.push (b : Prop) [Decidable b] (k : Nat) (o : Option (Nat × Nat)) : Option (Nat × Nat) :=
  if b ∧ 0 < k then some (0, match o with | none => k - 1 | some ab => k + ab.2)
  else o.map fun ab => (k + ab.1, k + ab.2)

theorem Span.cons {P P' : Nat → Prop} {k : Nat} {b : Prop} [Decidable b] (hlo : ∀ q, q < k → (P q ↔ b))
    (hhi : ∀ d, P (k + d) ↔ P' d) {o : Option (Nat × Nat)} (h : Span P' o) : Span P (Span.push b k o) := by
  unfold Span.push
  by_cases hb : b ∧ 0 < k
  · rw [if_pos hb]
    have hrun : ∀ q, q < k → P q := fun q hq => (hlo q hq).2 hb.1
    cases o with
    | none => exact IsSpan.run_none hb.2 hrun (fun d hd => h d ((hhi d).1 hd))
    | some ab => exact IsSpan.run_some hb.2 hrun hhi h
  · rw [if_neg hb]
    have hno : ∀ q, q < k → ¬ P q :=
      fun q hq hp => hb ⟨(hlo q hq).1 hp, Nat.lt_of_le_of_lt (Nat.zero_le q) hq⟩
    cases o with
    | none =>
      intro q hq
      rcases lt_or_add q k with h1 | ⟨d, rfl⟩
      · exact hno q h1 hq
      · exact h d ((hhi d).1 hq)
    | some ab => exact IsSpan.shift hno hhi h

/-- a row of cells is a list of runs of length 1 -/
theorem row_span (row : List α) :
    ∃ o, position row = o.map (·.1) ∧ rposition row = o.map (·.2) ∧ Span (fun c => row.getD c default ≠ default) o := by
  induction row with
  | nil => exact ⟨none, rfl, rfl, fun _ h => h rfl⟩
  | cons x xs ih =>
    obtain ⟨o, hp, hq, hs⟩ := ih
    refine ⟨Span.push (x ≠ default) 1 o, ?_, ?_, Span.cons (fun q hq => ?_) (fun d => ?_) hs⟩
    · rw [position, hp]
      by_cases hx : x = default <;> cases o <;> simp [Span.push, hx, Nat.add_comm]
    · rw [rposition, hq]
      by_cases hx : x = default <;> cases o <;> simp [Span.push, hx, Nat.add_comm]
    · rw [Nat.lt_one_iff.1 hq]; rfl
    · rw [Nat.add_comm, List.getD_cons_succ]

theorem row_empty (row : List α) (h : isEmptyRow row = true) : position row = none ∧ rposition row = none := by
  obtain ⟨o, hp, hq, hs⟩ := row_span row
  cases o with
  | none => exact ⟨hp, hq⟩
  | some ab => exact absurd (getD_of_isEmptyRow row h _) hs.1

theorem row_ne (row : List α) (h : ¬ isEmptyRow row = true) :
    ∃ p q, position row = some p ∧ rposition row = some q ∧ row.getD p default ≠ default ∧
      row.getD q default ≠ default ∧ ∀ c, row.getD c default ≠ default → p ≤ c ∧ c ≤ q := by
  obtain ⟨o, hp, hq, hs⟩ := row_span row
  cases o with
  | none => exact absurd (isEmptyRow_of_getD row fun c => Classical.not_not.1 (hs c)) h
  | some ab => exact ⟨ab.1, ab.2, hp, hq, hs⟩

theorem p1Step_empty (reps : List Nat) (s : P1) (i : Nat) (row : List α) (h : isEmptyRow row = true) :
    p1Step reps s i row = s := by
  unfold p1Step; rw [(row_empty row h).1]

theorem p1Step_ne (reps : List Nat) (s : P1) (i : Nat) (row : List α) (p q : Nat)
    (hp : position row = some p) (hq : rposition row = some q) :
    p1Step reps s i row =
      { rmin := if s.rmin.isNone then some i else s.rmin,
        rmax := i,
        cmin := if p < s.cmin then p else s.cmin,
        cmax := if q > s.cmax then q else s.cmax,
        fe := if s.rmin.isNone then (reps.take i).sum - i else s.fe } := by
  unfold p1Step; rw [hp, hq]
  obtain ⟨rmin, rmax, cmin, cmax, fe⟩ := s
  cases rmin <;> by_cases h : q > cmax <;> simp only [Option.isNone, Bool.false_eq_true, if_true, if_false, h]

theorem pass1Loop_append (reps : List Nat) (L1 L2 : List (List α)) (i : Nat) (s : P1) :
    pass1Loop reps (L1 ++ L2) i s = pass1Loop reps L2 (i + L1.length) (pass1Loop reps L1 i s) := by
  induction L1 generalizing i s with
  | nil => rfl
  | cons row L1 ih => rw [List.cons_append, pass1Loop, pass1Loop, ih, List.length_cons, Nat.add_assoc, Nat.add_comm 1]

theorem pass1Loop_empty (reps : List Nat) (rows : List (List α)) (i : Nat) (s : P1)
    (h : ∀ row ∈ rows, isEmptyRow row = true) : pass1Loop reps rows i s = s := by
  induction rows generalizing i with
  | nil => rfl
  | cons row rest ih =>
    rw [pass1Loop, p1Step_empty reps s i row (h row List.mem_cons_self)]
    exact ih (i + 1) (fun r hr => h r (List.mem_cons_of_mem _ hr))

theorem exists_mem_cons {β : Type} {p : β → Prop} {a : β} {l : List β} :
    (∃ x ∈ a :: l, p x) ↔ p a ∨ ∃ x ∈ l, p x := by simp

theorem ite_lt_min (p m : Nat) : (if p < m then p else m) = min m p := by
  split
  · rename_i h; exact (Nat.min_eq_right (Nat.le_of_lt h)).symm
  · rename_i h; exact (Nat.min_eq_left (Nat.le_of_not_lt h)).symm

theorem ite_gt_max (q m : Nat) : (if q > m then q else m) = max m q := by
  split
  · rename_i h; exact (Nat.max_eq_right (Nat.le_of_lt h)).symm
  · rename_i h; exact (Nat.max_eq_left (Nat.le_of_not_lt h)).symm

theorem pass1Loop_cols (reps : List Nat) (rows : List (List α)) (i : Nat) (s : P1) :
    (∀ row ∈ rows, isEmptyRow row = true) ∨
    ∃ a b, IsSpan (fun c => ∃ row ∈ rows, row.getD c default ≠ default) a b ∧
      (pass1Loop reps rows i s).cmin = min s.cmin a ∧ (pass1Loop reps rows i s).cmax = max s.cmax b := by
  induction rows generalizing i s with
  | nil => exact Or.inl fun _ h => absurd h List.not_mem_nil
  | cons row rest ih =>
    rw [pass1Loop]
    by_cases he : isEmptyRow row = true
    · rw [p1Step_empty reps s i row he]
      rcases ih (i + 1) s with h | ⟨a, b, hs, e⟩
      · exact Or.inl (List.forall_mem_cons.2 ⟨he, h⟩)
      · refine Or.inr ⟨a, b, IsSpan.congr (fun c => exists_mem_cons.trans ⟨fun h => h.elim ?_ id, Or.inr⟩) hs, e⟩
        exact fun h => absurd (getD_of_isEmptyRow row he c) h
    · obtain ⟨p, q, hp, hq, hrow⟩ := row_ne row he
      have e := p1Step_ne reps s i row p q hp hq
      rcases ih (i + 1) (p1Step reps s i row) with h | ⟨a, b, hs, e1, e2⟩
      · rw [pass1Loop_empty _ _ _ _ h, e]
        refine Or.inr ⟨p, q, IsSpan.congr (fun c => exists_mem_cons.trans ⟨fun h' => h'.elim id ?_, Or.inl⟩) hrow,
          ite_lt_min p s.cmin, ite_gt_max q s.cmax⟩
        exact fun ⟨r, hr, hc⟩ => absurd (getD_of_isEmptyRow r (h r hr) c) hc
      · refine Or.inr ⟨min p a, max q b, IsSpan.union (fun c => exists_mem_cons) hrow hs, ?_, ?_⟩
        · rw [e1, e, ← Nat.min_assoc]; exact congrArg (min · a) (ite_lt_min p s.cmin)
        · rw [e2, e, ← Nat.max_assoc]; exact congrArg (max · b) (ite_gt_max q s.cmax)

theorem pass1Loop_rmin_some (reps : List Nat) (rows : List (List α)) (i : Nat) (s : P1) (k : Nat)
    (h : s.rmin = some k) : (pass1Loop reps rows i s).rmin = some k ∧ (pass1Loop reps rows i s).fe = s.fe := by
  induction rows generalizing i s with
  | nil => exact ⟨h, rfl⟩
  | cons row rest ih =>
    rw [pass1Loop]
    have hs : (p1Step reps s i row).rmin = some k ∧ (p1Step reps s i row).fe = s.fe := by
      by_cases he : isEmptyRow row = true
      · rw [p1Step_empty reps s i row he]; exact ⟨h, rfl⟩
      · obtain ⟨p, q, hp, hq, _⟩ := row_ne row he
        rw [p1Step_ne reps s i row p q hp hq, h]; exact ⟨rfl, rfl⟩
    rw [← hs.2]
    exact ih (i + 1) _ hs.1

/-- `row_min` is the index of the first non-empty row; `first_empty_rows_repeated` is taken there -/
theorem pass1_rmin (reps : List Nat) (A : List (List α)) (x : List α) (R : List (List α))
    (hA : ∀ a ∈ A, isEmptyRow a = true) (hx : ¬ isEmptyRow x = true) :
    (pass1 reps (A ++ x :: R)).rmin = some A.length ∧
    (pass1 reps (A ++ x :: R)).fe = (reps.take A.length).sum - A.length := by
  obtain ⟨p, q, hp, hq, _⟩ := row_ne x hx
  unfold pass1
  rw [pass1Loop_append, pass1Loop_empty reps A _ _ hA, pass1Loop, Nat.zero_add]
  have := pass1Loop_rmin_some reps R (A.length + 1) (p1Step reps ⟨none, 0, USIZE_MAX, 0, 0⟩ A.length x) A.length
    (by rw [p1Step_ne reps _ _ x p q hp hq]; rfl)
  rw [this.1, this.2, p1Step_ne reps _ _ x p q hp hq]
  exact ⟨rfl, rfl⟩

theorem pass1_rmax (reps : List Nat) (M : List (List α)) (y : List α) (B : List (List α))
    (hy : ¬ isEmptyRow y = true) (hB : ∀ b ∈ B, isEmptyRow b = true) :
    (pass1 reps (M ++ y :: B)).rmax = M.length := by
  obtain ⟨p, q, hp, hq, _⟩ := row_ne y hy
  unfold pass1
  rw [pass1Loop_append, pass1Loop, pass1Loop_empty reps B _ _ hB, p1Step_ne reps _ _ y p q hp hq, Nat.zero_add]

theorem pass1_cols (rows : List (Nat × List α)) (y : Nat × List α) (hy : y ∈ rows)
    (hye : ¬ isEmptyRow y.2 = true) (hcol : ∀ c, y.2.getD c default ≠ default → c < USIZE_MAX) :
    IsSpan (fun c => ∃ z ∈ rows, z.2.getD c default ≠ default)
      (pass1 (rows.map (·.1)) (rows.map (·.2))).cmin (pass1 (rows.map (·.1)) (rows.map (·.2))).cmax := by
  rcases pass1Loop_cols (rows.map (·.1)) (rows.map (·.2)) 0 ⟨none, 0, USIZE_MAX, 0, 0⟩ with h | ⟨a, b, hs, e1, e2⟩
  · exact absurd (h y.2 (List.mem_map_of_mem hy)) hye
  · obtain ⟨p, _, _, _, hyp, _⟩ := row_ne y.2 hye
    have ha : a ≤ USIZE_MAX :=
      Nat.le_trans (hs.2.2 p ⟨y.2, List.mem_map_of_mem hy, hyp⟩).1 (Nat.le_of_lt (hcol p hyp))
    unfold pass1
    rw [e1, e2, Nat.min_eq_right ha, Nat.max_eq_right (Nat.zero_le b)]
    exact IsSpan.congr (fun c => ⟨fun ⟨z, hz, h⟩ => ⟨z.2, List.mem_map_of_mem hz, h⟩, fun ⟨_, hm, h⟩ => by
      obtain ⟨z, hz, rfl⟩ := List.mem_map.1 hm; exact ⟨z, hz, h⟩⟩) hs

/-- `rows = A ++ M ++ B` where `A` and `B` are empty rows and `M` starts and ends with a non-empty row:
    what `get_range` trims (`A` by `row_min`, `B` by `row_max`) -/
structure Trim (rows A M B : List (Nat × List α)) : Prop where
  eq : rows = A ++ (M ++ B)
  above : ∀ a ∈ A, isEmptyRow a.2 = true
  below : ∀ b ∈ B, isEmptyRow b.2 = true
  first : ∃ x M', M = x :: M' ∧ ¬ isEmptyRow x.2 = true
  last : ∃ M1 y, M = M1 ++ [y] ∧ ¬ isEmptyRow y.2 = true

theorem exists_trim (rows : List (Nat × List α)) :
    (∀ x ∈ rows, isEmptyRow x.2 = true) ∨ ∃ A M B, Trim rows A M B := by
  induction rows with
  | nil => exact Or.inl fun _ h => absurd h List.not_mem_nil
  | cons x rows ih =>
    by_cases hx : isEmptyRow x.2 = true
    · rcases ih with h | ⟨A, M, B, e, hA, hB, hf, hl⟩
      · exact Or.inl (List.forall_mem_cons.2 ⟨hx, h⟩)
      · exact Or.inr ⟨x :: A, M, B, by rw [e]; rfl, List.forall_mem_cons.2 ⟨hx, hA⟩, hB, hf, hl⟩
    · -- a non-empty row in front: it starts the block, which then swallows the empty rows `A`
      rcases ih with h | ⟨A, M, B, e, hA, hB, hf, M1, y, eM, hy⟩
      · exact Or.inr ⟨[], [x], rows, rfl, fun _ h => absurd h List.not_mem_nil, h, ⟨x, [], rfl, hx⟩, ⟨[], x, rfl, hx⟩⟩
      · exact Or.inr ⟨[], x :: (A ++ M), B, by simp [e], fun _ h => absurd h List.not_mem_nil, hB,
          ⟨x, A ++ M, rfl, hx⟩, ⟨x :: (A ++ M1), y, by simp [eM], hy⟩⟩

theorem slices_offsets (rows : List (List α)) (pre : List α) :
    (windows2 (pre.length :: offsets rows pre.length)).mapM (slice (pre ++ rows.flatten)) = some rows := by
  induction rows generalizing pre with
  | nil => simp [offsets, windows2]
  | cons row rest ih =>
    have ih := ih (pre ++ row)
    simp only [List.length_append, List.append_assoc] at ih
    simp only [offsets, windows2, List.mapM_cons, List.flatten_cons]
    rw [ih]
    have hs : slice (pre ++ (row ++ rest.flatten)) (pre.length, pre.length + row.length) = some row := by
      unfold slice
      rw [if_pos (by simp)]
      simp
    rw [hs]; rfl

theorem slices_flatten (rows : List (Nat × List α)) :
    slices (flatten rows).cells (flatten rows).cols = some (rows.map (·.2)) := by
  have := slices_offsets (rows.map (·.2)) ([] : List α)
  simpa [slices, flatten] using this

/-- columns `cmin ..= cmax` of a row, default beyond its end -/
def rowSlice (cmin cmax : Nat) (row : List α) : List α :=
  (List.range (cmax + 1 - cmin)).map fun j => row.getD (cmin + j) default

theorem rowSlice_length (cmin cmax : Nat) (row : List α) : (rowSlice cmin cmax row).length = cmax + 1 - cmin := by
  simp [rowSlice]

theorem rowSlice_getD (cmin cmax : Nat) (row : List α) (j : Nat) (hj : j < cmax + 1 - cmin) :
    (rowSlice cmin cmax row).getD j default = row.getD (cmin + j) default := by
  simp [rowSlice, List.getD_eq_getElem?_getD, List.getElem?_map, List.getElem?_range hj]

theorem rowSlice_empty (cmin cmax : Nat) (row : List α) (h : isEmptyRow row = true) :
    rowSlice cmin cmax row = List.replicate (cmax + 1 - cmin) default := by
  apply List.ext_getElem
  · simp [rowSlice]
  · intro j h1 h2
    simp only [rowSlice, List.getElem_map, List.getElem_range, List.getElem_replicate]
    exact getD_of_isEmptyRow row h _

theorem fitRow_length (cmin cmax : Nat) (row : List α) (h1 : cmin ≤ row.length) :
    (fitRow cmin cmax row).length = cmax + 1 - cmin := by
  unfold fitRow
  split
  · rename_i hlt
    rw [List.length_append, List.length_drop, List.length_drop, List.length_replicate, Nat.add_comm]
    exact Nat.sub_add_sub_cancel (Nat.le_of_lt hlt) h1
  · rename_i hlt
    split
    · rename_i heq
      rw [List.length_drop, heq]
    · rw [List.length_take, List.length_drop]
      exact Nat.min_eq_left (Nat.sub_le_sub_right (Nat.le_of_not_lt hlt) cmin)

theorem fitRow_getElem? (cmin cmax : Nat) (row : List α) (h1 : cmin ≤ row.length) (j : Nat)
    (hj : j < cmax + 1 - cmin) : (fitRow cmin cmax row)[j]? = some (row.getD (cmin + j) default) := by
  have hj' : cmin + j < cmax + 1 := Nat.lt_sub_iff_add_lt'.1 hj
  unfold fitRow
  rw [List.getD_eq_getElem?_getD]
  split
  · by_cases hjr : cmin + j < row.length
    · rw [List.getElem?_append_left (by rw [List.length_drop]; exact Nat.lt_sub_iff_add_lt'.2 hjr),
        List.getElem?_drop, List.getElem?_eq_getElem hjr]
      rfl
    · rw [List.getElem?_append_right
          (by rw [List.length_drop]; exact Nat.sub_le_iff_le_add'.2 (Nat.le_of_not_lt hjr)),
        List.drop_replicate, List.getElem?_replicate, List.length_drop, if_pos (by omega),
        List.getElem?_eq_none (Nat.le_of_not_lt hjr)]
      rfl
  · rename_i hlt
    split
    · rename_i heq
      rw [List.getElem?_drop, List.getElem?_eq_getElem (by rw [heq]; exact hj')]
      rfl
    · rw [List.getElem?_take_of_lt hj, List.getElem?_drop,
        List.getElem?_eq_getElem (Nat.lt_of_lt_of_le hj' (Nat.le_of_not_lt hlt))]
      rfl

/-- `rowSlice` is `fitRow` in closed form. The side condition holds for every non-empty row of a sheet: it has a
    non-default column, which is at or after `col_min` (`hfitM` in `getRangeRows_result`). -/
theorem fitRow_eq (cmin cmax : Nat) (row : List α) (h1 : cmin ≤ row.length) :
    fitRow cmin cmax row = rowSlice cmin cmax row := by
  apply List.ext_getElem?
  intro j
  by_cases hj : j < cmax + 1 - cmin
  · rw [fitRow_getElem? cmin cmax row h1 j hj, rowSlice, List.getElem?_map, List.getElem?_range hj]
    rfl
  · rw [List.getElem?_eq_none (by rw [fitRow_length cmin cmax row h1]; exact Nat.le_of_not_lt hj),
      List.getElem?_eq_none (by rw [rowSlice_length]; exact Nat.le_of_not_lt hj)]

theorem repeatSlice_succ (n : Nat) (s : List α) : repeatSlice (n + 1) s = s ++ repeatSlice n s := by
  simp [repeatSlice, List.replicate_succ]

theorem repeatSlice_replicate (n w : Nat) (x : α) :
    repeatSlice n (List.replicate w x) = List.replicate (n * w) x := by
  induction n with
  | zero => simp [repeatSlice]
  | succ n ih =>
    rw [repeatSlice_succ, ih, List.replicate_append_replicate, Nat.succ_mul, Nat.add_comm]

/-- the rows a list of `(row, repeat)` pairs stands for (the proofs use `expR` below, on `(repeat, row)` runs) -/
def expRows (L : List (List α × Nat)) : List (List α) := L.flatMap fun x => List.replicate x.2 x.1

/-- the dense row-major vector of columns `cmin ..= cmax` of the given rows -/
def dense (cmin cmax : Nat) (R : List (List α)) : List α := (R.map (rowSlice cmin cmax)).flatten

theorem expRows_cons (x : List α × Nat) (L : List (List α × Nat)) :
    expRows (x :: L) = List.replicate x.2 x.1 ++ expRows L := by simp [expRows]

theorem expRows_append (L1 L2 : List (List α × Nat)) : expRows (L1 ++ L2) = expRows L1 ++ expRows L2 := by
  simp [expRows]

theorem dense_append (cmin cmax : Nat) (R1 R2 : List (List α)) :
    dense cmin cmax (R1 ++ R2) = dense cmin cmax R1 ++ dense cmin cmax R2 := by simp [dense]

theorem dense_replicate (cmin cmax n : Nat) (row : List α) :
    dense cmin cmax (List.replicate n row) = repeatSlice n (rowSlice cmin cmax row) := by
  simp [dense, repeatSlice]

theorem dense_nil (cmin cmax : Nat) : dense cmin cmax ([] : List (List α)) = [] := rfl

/-- all the rows a list of `(repeat, row)` runs stands for -/
def expR {β : Type} (rows : List (Nat × β)) : List β := rows.flatMap fun x => List.replicate x.1 x.2

/-- number of rows the runs stand for -/
def total {β : Type} (rows : List (Nat × β)) : Nat := (rows.map (·.1)).sum

theorem expR_cons {β : Type} (x : Nat × β) (rest : List (Nat × β)) :
    expR (x :: rest) = List.replicate x.1 x.2 ++ expR rest := rfl

theorem total_cons {β : Type} (x : Nat × β) (rest : List (Nat × β)) : total (x :: rest) = x.1 + total rest := rfl

theorem getElem?_replicate_append {β : Type} (n : Nat) (x : β) (l : List β) (i : Nat) :
    (List.replicate n x ++ l)[i]? = if i < n then some x else l[i - n]? := by
  by_cases h : i < n
  · rw [if_pos h, List.getElem?_append_left (by rw [List.length_replicate]; exact h), List.getElem?_replicate,
      if_pos h]
  · rw [if_neg h, List.getElem?_append_right (by rw [List.length_replicate]; exact Nat.le_of_not_lt h),
      List.length_replicate]

theorem runAt_eq {β : Type} : ∀ (L : List (Nat × β)) (i : Nat), runAt L i = (expR L)[i]?
  | [], _ => rfl
  | (k, x) :: rest, i => by rw [runAt, expR_cons, getElem?_replicate_append, runAt_eq rest]

theorem expR_length {β : Type} : ∀ (rows : List (Nat × β)), (expR rows).length = total rows := by
  intro rows
  induction rows with
  | nil => rfl
  | cons x rest ih => rw [expR_cons, List.length_append, List.length_replicate, ih, total_cons]

theorem expR_append {β : Type} (a b : List (Nat × β)) : expR (a ++ b) = expR a ++ expR b := by
  simp [expR]

theorem total_append {β : Type} (a b : List (Nat × β)) : total (a ++ b) = total a + total b := by
  simp [total]

theorem total_ge_length {β : Type} (rows : List (Nat × β)) (h : ∀ x ∈ rows, 1 ≤ x.1) :
    rows.length ≤ total rows := by
  induction rows with
  | nil => exact Nat.le_refl _
  | cons x rest ih =>
    rw [total_cons, List.length_cons, Nat.add_comm]
    exact Nat.add_le_add (h x List.mem_cons_self) (ih fun y hy => h y (List.mem_cons_of_mem _ hy))

theorem mem_expR {β : Type} (rows : List (Nat × β)) (cs : β) (h : cs ∈ expR rows) : ∃ x ∈ rows, x.2 = cs := by
  simp only [expR, List.mem_flatMap, List.mem_replicate] at h
  obtain ⟨x, hx, _, rfl⟩ := h
  exact ⟨x, hx, rfl⟩

theorem dense_cons (cmin cmax : Nat) (r : List α) (R : List (List α)) :
    dense cmin cmax (r :: R) = rowSlice cmin cmax r ++ dense cmin cmax R := rfl

theorem pass2_empty (cmin cmax : Nat) (pad : List α) (L : List (List α × Nat)) (er ce rm : Nat)
    (h : ∀ x ∈ L, isEmptyRow x.1 = true) : pass2 cmin cmax pad L er ce rm = ([], rm) := by
  induction L generalizing er ce with
  | nil => rfl
  | cons x rest ih =>
    obtain ⟨row, rr⟩ := x
    rw [pass2, if_pos (h (row, rr) List.mem_cons_self)]
    exact ih _ _ (fun x hx => h x (List.mem_cons_of_mem _ hx))

/-- a non-empty row flushes the pending empty rows. `consecutive_empty_rows ≤ empty_row_repeats` holds throughout
    (a pending row adds 1 to the first and its repeat count ≥ 1 to the second), so both counters restart at 0.
    `rm'` is the `row_max` that `pass2` hands on (its nested `if`s, copied); the equation says what it is worth. -/
theorem pass2_cons_ne (cmin cmax : Nat) (pad : List α) (row : List α) (rr : Nat) (rest : List (List α × Nat))
    (er ce rm : Nat) (he : ¬ isEmptyRow row = true) (hrr : 1 ≤ rr) (hce : ce ≤ er) :
    ∃ rm', rm' + ce + 1 = rm + er + rr ∧
      pass2 cmin cmax pad ((row, rr) :: rest) er ce rm =
        (repeatSlice er pad ++ (repeatSlice rr (fitRow cmin cmax row) ++ (pass2 cmin cmax pad rest 0 0 rm').1),
          (pass2 cmin cmax pad rest 0 0 rm').2) := by
  have e2 : (if er > 0 then 0 else ce) = 0 := by
    split
    · rfl
    · rename_i h; exact Nat.le_zero.1 (Nat.le_trans hce (Nat.le_of_not_lt h))
  have h1 : (if er > 0 then rm + er - ce else rm) + ce = rm + er := by
    split
    · exact Nat.sub_add_cancel (Nat.le_trans hce (Nat.le_add_left _ _))
    · rename_i h
      have her : er = 0 := Nat.le_zero.1 (Nat.le_of_not_lt h)
      rw [her] at hce ⊢
      rw [Nat.le_zero.1 hce]
  have h2 : ∀ m, (if rr > 1 then m + rr - 1 else m) + 1 = m + rr := by
    intro m
    split
    · exact Nat.sub_add_cancel (Nat.le_trans hrr (Nat.le_add_left _ _))
    · rename_i h; rw [Nat.le_antisymm (Nat.le_of_not_lt h) hrr]
  refine ⟨if rr > 1 then (if er > 0 then rm + er - ce else rm) + rr - 1 else if er > 0 then rm + er - ce else rm,
    ?_, by rw [pass2, if_neg he]; simp only [e2]⟩
  rw [Nat.add_right_comm, h2, Nat.add_right_comm, h1]

/-- The second pass on `M1 ++ [y]` followed by empty rows `B`, as `(row, repeat)` pairs (the `zipped` of `getRangeRows`):
    the cells are the pending empty rows, then the dense rows up to `y`; `row_max` moves from row indices to repeat counts.
    `B` is there because `.skip(row_min).take(row_max + 1)` takes `row_min` rows more than `row_min ..= row_max`: trailing
    empty rows, still pending when the loop ends and never flushed. -/
theorem pass2_spec (cmin cmax : Nat) (y : Nat × List α) (B : List (Nat × List α))
    (hy : ¬ isEmptyRow y.2 = true) (hB : ∀ b ∈ B, isEmptyRow b.2 = true) (M1 : List (Nat × List α))
    (er ce rm : Nat) (hrep : ∀ x ∈ M1 ++ [y], 1 ≤ x.1)
    (hfit : ∀ x ∈ M1 ++ [y], ¬ isEmptyRow x.2 = true → cmin ≤ x.2.length) (hce : ce ≤ er) :
    (pass2 cmin cmax (List.replicate (cmax + 1 - cmin) default) ((M1 ++ y :: B).map fun z => (z.2, z.1))
        er ce rm).1 =
      List.replicate (er * (cmax + 1 - cmin)) default ++ dense cmin cmax (expR (M1 ++ [y])) ∧
    (pass2 cmin cmax (List.replicate (cmax + 1 - cmin) default) ((M1 ++ y :: B).map fun z => (z.2, z.1))
        er ce rm).2 + ce + (M1.length + 1) = rm + er + total (M1 ++ [y]) := by
  induction M1 generalizing er ce rm with
  | nil =>
    obtain ⟨rm', hrm, e⟩ := pass2_cons_ne cmin cmax (List.replicate (cmax + 1 - cmin) default) y.2 y.1
      (B.map fun z => (z.2, z.1)) er ce rm hy (hrep y List.mem_cons_self) hce
    rw [List.nil_append, List.map_cons, e, pass2_empty cmin cmax _ _ _ _ _ (List.forall_mem_map.2 hB)]
    constructor
    · rw [repeatSlice_replicate, fitRow_eq cmin cmax y.2 (hfit y List.mem_cons_self hy), List.append_nil, List.nil_append, expR_cons,
        dense_append, dense_replicate, show expR ([] : List (Nat × List α)) = [] from rfl, dense_nil,
        List.append_nil]
    · exact hrm
  | cons x M1 ih =>
    have hrep' : ∀ z ∈ M1 ++ [y], 1 ≤ z.1 := fun z hz => hrep z (List.mem_cons_of_mem _ hz)
    have hfit' : ∀ z ∈ M1 ++ [y], ¬ isEmptyRow z.2 = true → cmin ≤ z.2.length :=
      fun z hz => hfit z (List.mem_cons_of_mem _ hz)
    have hx1 : 1 ≤ x.1 := hrep x List.mem_cons_self
    rw [List.cons_append, List.cons_append, List.map_cons, expR_cons, dense_append, dense_replicate, total_cons,
      List.length_cons]
    by_cases he : isEmptyRow x.2 = true
    · obtain ⟨ih1, ih2⟩ := ih (er + x.1) (ce + 1) rm hrep' hfit' (Nat.add_le_add hce hx1)
      rw [pass2, if_pos he, ih1, rowSlice_empty cmin cmax x.2 he, repeatSlice_replicate, ← List.append_assoc,
        List.replicate_append_replicate, Nat.add_mul]
      exact ⟨rfl, by omega⟩
    · obtain ⟨rm', hrm, e⟩ := pass2_cons_ne cmin cmax (List.replicate (cmax + 1 - cmin) default) x.2 x.1
        ((M1 ++ y :: B).map fun z => (z.2, z.1)) er ce rm he hx1 hce
      obtain ⟨ih1, ih2⟩ := ih 0 0 rm' hrep' hfit' (Nat.le_refl _)
      rw [e, ih1, repeatSlice_replicate, fitRow_eq cmin cmax x.2 (hfit x List.mem_cons_self he),
        Nat.zero_mul, List.replicate_zero, List.nil_append]
      exact ⟨rfl, by omega⟩

/-- the last step of `getRangeRows_trim`: `h` is the second part of `pass2_spec` at `er = ce = 0` (the two `+ 0`), `p` the
    final `row_max`, `a`, `m` the numbers of rows of `A`, `M1` and `tA`, `tM` the rows they stand for; the conclusion is the
    end row `row_max + first_empty_rows_repeated` -/
theorem row_end {p a m tA tM : Nat} (h : p + 0 + (m + 1) = a + m + 0 + tM) (hge : a ≤ tA) :
    p + (tA - a) = tA + tM - 1 := by omega

theorem getRangeRows_trim {rows A M B : List (Nat × List α)} (ht : Trim rows A M B) (hrep : ∀ z ∈ rows, 1 ≤ z.1)
    (S : P1) (hS : pass1 (rows.map (·.1)) (rows.map (·.2)) = S)
    (hfit : ∀ z ∈ M, ¬ isEmptyRow z.2 = true → S.cmin ≤ z.2.length) :
    getRangeRows true (rows.map (·.2)) (rows.map (·.1)) =
      ⟨total A % U32, S.cmin % U32, (total A + total M - 1) % U32, S.cmax % U32, dense S.cmin S.cmax (expR M)⟩ := by
  obtain ⟨e, hA, hB, ⟨x, M', hM, hx⟩, ⟨M1, y, eM, hy⟩⟩ := ht
  subst e eM
  have e' : (M1 ++ [y]) ++ B = M1 ++ y :: B := by rw [List.append_assoc]; rfl
  rw [e'] at hrep hS ⊢
  have eM : M1 ++ y :: B = x :: (M' ++ B) := by
    rw [← List.cons_append, ← hM, List.append_assoc]; rfl
  have hrows1 : (A ++ (M1 ++ y :: B)).map (·.2) = A.map (·.2) ++ x.2 :: (M' ++ B).map (·.2) := by
    rw [eM, List.map_append, List.map_cons]
  have hrows2 : (A ++ (M1 ++ y :: B)).map (·.2) = (A ++ M1).map (·.2) ++ y.2 :: B.map (·.2) := by
    rw [← List.append_assoc, List.map_append, List.map_cons]
  have hmin := pass1_rmin ((A ++ (M1 ++ y :: B)).map (·.1)) (A.map (·.2)) x.2 ((M' ++ B).map (·.2))
    (List.forall_mem_map.2 hA) hx
  have hmax := pass1_rmax ((A ++ (M1 ++ y :: B)).map (·.1)) ((A ++ M1).map (·.2)) y.2 (B.map (·.2)) hy
    (List.forall_mem_map.2 hB)
  rw [← hrows1, hS, List.length_map] at hmin
  rw [← hrows2, hS, List.length_map, List.length_append] at hmax
  have hfe : (((A ++ (M1 ++ y :: B)).map (·.1)).take A.length).sum = total A := by
    rw [List.map_append, ← List.length_map (f := (·.1)) (as := A), List.take_left]; rfl
  rw [hfe] at hmin
  have hgeA := total_ge_length A (fun z hz => hrep z (List.mem_append_left _ hz))
  have hp := pass2_spec S.cmin S.cmax y (B.take A.length) hy (fun z hz => hB z (List.mem_of_mem_take hz)) M1 0 0
    (A.length + M1.length) (fun z hz => hrep z (by rw [← e']; exact List.mem_append_right _ (List.mem_append_left _ hz)))
    hfit (Nat.le_refl 0)
  rw [Nat.zero_mul, List.replicate_zero, List.nil_append] at hp
  unfold getRangeRows
  simp only [hS]
  obtain ⟨rmin, rmax, cmin, cmax, fe⟩ := S
  simp only at hmin hmax hp
  obtain ⟨rfl, rfl⟩ := hmin
  subst hmax
  simp only [if_true]
  -- the zipped rows from `row_min` on, `row_max + 1` of them, are `M1 ++ y :: B.take A.length`; the pad
  -- `empty_cells[col_min..]` is `replicate (cmax + 1 - cmin) default`
  rw [← List.map_drop, ← List.map_take, ← List.map_drop, ← List.map_take, List.zip_map', List.drop_replicate,
    List.drop_left, Nat.add_right_comm A.length M1.length 1, Nat.add_comm (A.length + 1), List.take_length_add_append,
    List.take_succ_cons]
  generalize pass2 cmin cmax (List.replicate (cmax + 1 - cmin) default)
    ((M1 ++ y :: B.take A.length).map fun z => (z.2, z.1)) 0 0 (A.length + M1.length) = P at hp
  obtain ⟨h1, h2⟩ := hp
  rw [h1, Nat.add_sub_cancel' hgeA, row_end h2 hgeA]

theorem gridF_eq (rows : List (Nat × List α)) (r c : Nat) :
    gridF rows r c = ((expR rows)[r]?.getD []).getD c default := by
  unfold gridF; rw [runAt_eq]
  cases (expR rows)[r]? <;> rfl

theorem gridF_mem (rows : List (Nat × List α)) (r c : Nat) (h : gridF rows r c ≠ default) :
    ∃ x ∈ rows, x.2.getD c default = gridF rows r c := by
  rw [gridF_eq] at h ⊢
  cases hr : (expR rows)[r]? with
  | none => rw [hr] at h; exact absurd rfl h
  | some cs =>
    obtain ⟨x, hx, rfl⟩ := mem_expR rows cs (List.mem_of_getElem? hr)
    exact ⟨x, hx, rfl⟩

theorem gridF_of_mem (rows : List (Nat × List α)) (hrep : ∀ x ∈ rows, 1 ≤ x.1) (c : Nat)
    (h : ∃ x ∈ rows, x.2.getD c default ≠ default) : ∃ r, gridF rows r c ≠ default := by
  obtain ⟨x, hx, h⟩ := h
  have hm : x.2 ∈ expR rows :=
    List.mem_flatMap.2 ⟨x, hx, List.mem_replicate.2 ⟨Nat.ne_of_gt (hrep x hx), rfl⟩⟩
  obtain ⟨r, hr, e⟩ := List.getElem_of_mem hm
  exact ⟨r, by rw [gridF_eq, List.getElem?_eq_getElem hr, e]; exact h⟩

theorem gridF_empty (rows : List (Nat × List α)) (h : ∀ x ∈ rows, isEmptyRow x.2 = true) (r c : Nat) :
    gridF rows r c = default :=
  Classical.byContradiction fun hn => by
    obtain ⟨x, hx, e⟩ := gridF_mem rows r c hn
    exact hn (e ▸ getD_of_isEmptyRow x.2 (h x hx) c)

theorem gridF_cons (k : Nat) (cs : List α) (rest : List (Nat × List α)) (r c : Nat) :
    gridF ((k, cs) :: rest) r c = if r < k then cs.getD c default else gridF rest (r - k) c := by
  unfold gridF
  rw [runAt]
  by_cases h : r < k
  · rw [if_pos h, if_pos h]
  · rw [if_neg h, if_neg h]

theorem gridF_append_left (L1 L2 : List (Nat × List α)) (r c : Nat) (h : r < total L1) :
    gridF (L1 ++ L2) r c = gridF L1 r c := by
  rw [gridF_eq, expR_append, List.getElem?_append_left (by rw [expR_length]; exact h), gridF_eq]

theorem gridF_append_right (L1 L2 : List (Nat × List α)) (i c : Nat) :
    gridF (L1 ++ L2) (total L1 + i) c = gridF L2 i c := by
  rw [gridF_eq, expR_append, List.getElem?_append_right (by rw [expR_length]; exact Nat.le_add_right _ _),
    expR_length, Nat.add_sub_cancel_left, gridF_eq]

theorem isBBox_trim {rows A M B : List (Nat × List α)} (ht : Trim rows A M B) (hrep : ∀ z ∈ rows, 1 ≤ z.1)
    (cmin cmax : Nat) (hcols : IsSpan (fun c => ∃ z ∈ rows, z.2.getD c default ≠ default) cmin cmax) :
    IsBBox (gridF rows) (total A) cmin (total A + total M - 1) cmax := by
  refine IsBBox.of_spans ?_ (IsSpan.congr (fun c => ⟨fun ⟨r, h⟩ => ?_, gridF_of_mem rows hrep c⟩) hcols)
  case refine_2 => obtain ⟨z, hz, e⟩ := gridF_mem rows r c h; exact ⟨z, hz, e ▸ h⟩
  obtain ⟨e, hA, hB, ⟨x, M', hM, hx⟩, ⟨M1, y, eM, hy⟩⟩ := ht
  subst e eM
  have hmem : ∀ z ∈ M1 ++ [y], z ∈ A ++ ((M1 ++ [y]) ++ B) :=
    fun z hz => List.mem_append_right _ (List.mem_append_left _ hz)
  have hy1 : 0 < y.1 := hrep y (hmem y (List.mem_append_right _ (List.mem_singleton_self y)))
  have hx1 : 0 < x.1 := hrep x (hmem x (by rw [hM]; exact List.mem_cons_self))
  have hT : total (M1 ++ [y]) = total M1 + y.1 := total_append M1 [y]
  obtain ⟨px, _, _, _, hpx, _⟩ := row_ne x.2 hx
  obtain ⟨py, _, _, _, hpy, _⟩ := row_ne y.2 hy
  refine ⟨⟨px, ?_⟩, ⟨py, ?_⟩, fun r ⟨c, h⟩ => ?_⟩
  · show gridF _ (total A + 0) px ≠ default
    rw [gridF_append_right, gridF_append_left _ _ 0 px (by rw [hT]; exact Nat.lt_add_left _ hy1), hM, gridF_cons,
      if_pos hx1]
    exact hpx
  · obtain ⟨k, hk⟩ : ∃ k, y.1 = k + 1 := ⟨y.1 - 1, (Nat.sub_add_cancel hy1).symm⟩
    have hlt : total M1 + k < total (M1 ++ [y]) := by
      rw [hT, hk]; exact Nat.add_lt_add_left (Nat.lt_succ_self k) _
    have hidx : total A + total (M1 ++ [y]) - 1 = total A + (total M1 + k) := by rw [hT, hk]; rfl
    rw [hidx, gridF_append_right, gridF_append_left _ _ _ py hlt, gridF_append_right, gridF_cons,
      if_pos (by rw [hk]; exact Nat.lt_succ_self k)]
    exact hpy
  · rcases lt_or_add r (total A) with h1 | ⟨i, rfl⟩
    · rw [gridF_append_left _ _ r c h1, gridF_empty A hA] at h
      exact absurd rfl h
    · rw [gridF_append_right] at h
      rcases lt_or_add i (total (M1 ++ [y])) with h2 | ⟨j, rfl⟩
      · exact ⟨Nat.le_add_right _ _, Nat.le_sub_one_of_lt (Nat.add_lt_add_left h2 _)⟩
      · rw [gridF_append_right, gridF_empty B hB] at h
        exact absurd rfl h

theorem dense_tab (cmin cmax : Nat) : ∀ R : List (List α),
    Range.Tab (dense cmin cmax R) R.length (cmax + 1 - cmin) (fun i j => (R[i]?.getD []).getD (cmin + j) default)
  | [] => ⟨(Nat.zero_mul _).symm, fun i _ hi _ => absurd hi (Nat.not_lt_zero i)⟩
  | r :: R => (dense_tab cmin cmax R).cons (rowSlice_length cmin cmax r) (rowSlice_getD cmin cmax r)
    (fun _ _ _ _ => rfl)

theorem rng_ext (R1 R2 : Rng α) (h1 : Inv R1) (h2 : Inv R2) (hne : R1.inner.length ≠ 0)
    (hne2 : R2.inner.length ≠ 0)
    (hb : R1.sr = R2.sr ∧ R1.sc = R2.sc ∧ R1.er = R2.er ∧ R1.ec = R2.ec)
    (hv : ∀ p q, R1.valAt p q = R2.valAt p q) : R1 = R2 :=
  Range.rng_ext R1 R2 h1 h2 hne hne2 hb hv

/-- `R` is the range of the grid `g`: a consistent rectangle that shows `g`'s value at every position and is the tight
    bounding box of `g`'s non-default positions; the empty range if there is none -/
def RangeOf (g : Nat → Nat → α) (R : Rng α) : Prop :=
  Inv R ∧ (∀ p q, R.valAt p q = g p q) ∧ (R.inner.length = 0 ↔ ∀ p q, g p q = default) ∧
    (R.inner.length ≠ 0 → IsBBox g R.sr R.sc R.er R.ec) ∧ (R.inner.length = 0 → R = Range.empty)

theorem RangeOf.unique {g : Nat → Nat → α} {R1 R2 : Rng α} (h1 : RangeOf g R1) (h2 : RangeOf g R2) : R1 = R2 := by
  obtain ⟨i1, v1, z1, b1, m1⟩ := h1
  obtain ⟨i2, v2, z2, b2, m2⟩ := h2
  by_cases hz : R1.inner.length = 0
  · rw [m1 hz, m2 (z2.2 (z1.1 hz))]
  · have hz2 : R2.inner.length ≠ 0 := fun h => hz (z1.2 (z2.1 h))
    exact rng_ext R1 R2 i1 i2 hz hz2 (IsBBox.unique (b1 hz) (b2 hz2)) (fun p q => by rw [v1, v2])

theorem RangeOf.corners {g : Nat → Nat → α} {R : Rng α} (h : RangeOf g R) {r0 c0 r1 c1 : Nat}
    (hb : IsBBox g r0 c0 r1 c1) : R.inner.length ≠ 0 ∧ R.sr = r0 ∧ R.sc = c0 ∧ R.er = r1 ∧ R.ec = c1 := by
  obtain ⟨_, _, hzero, hbox, _⟩ := h
  have hne : R.inner.length ≠ 0 := fun hz => hb.top.elim fun c hc => hc (hzero.1 hz _ _)
  exact ⟨hne, IsBBox.unique (hbox hne) hb⟩

theorem getRangeRows_result (rows : List (Nat × List α)) (hrep : ∀ x ∈ rows, 1 ≤ x.1)
    (hfit : ∀ r c, gridF rows r c ≠ default → r < U32 ∧ c < U32) :
    RangeOf (gridF rows) (getRangeRows true (rows.map (·.2)) (rows.map (·.1))) := by
  unfold RangeOf
  rcases exists_trim rows with hall | ⟨A, M, B, ht⟩
  · have hdef : ∀ r c, gridF rows r c = default := gridF_empty rows hall
    have e : getRangeRows true (rows.map (·.2)) (rows.map (·.1)) = Range.empty := by
      unfold getRangeRows pass1
      rw [pass1Loop_empty _ _ _ _ (List.forall_mem_map.2 hall)]
    rw [e]
    exact ⟨⟨rfl, fun h => absurd rfl h⟩, fun r c => by rw [Range.valAt_empty, hdef], ⟨fun _ => hdef, fun _ => rfl⟩,
      fun h => absurd rfl h, fun _ => rfl⟩
  · obtain ⟨M1, y, eM, hy⟩ := ht.last
    have hmem : ∀ z ∈ M, z ∈ rows := fun z hz => by
      rw [ht.eq]; exact List.mem_append_right _ (List.mem_append_left _ hz)
    have hymem : y ∈ rows := hmem y (by rw [eM]; exact List.mem_append_right _ (List.mem_singleton_self y))
    have hcol : ∀ c, y.2.getD c default ≠ default → c < USIZE_MAX := by
      intro c hc
      obtain ⟨r, hr⟩ := gridF_of_mem rows hrep c ⟨y, hymem, hc⟩
      exact Nat.lt_trans (hfit r c hr).2 (by decide)
    have hcols := pass1_cols rows y hymem hy hcol
    generalize hS : pass1 (rows.map (·.1)) (rows.map (·.2)) = S at hcols
    have hbb := isBBox_trim ht hrep S.cmin S.cmax hcols
    obtain ⟨cb, hcb⟩ := hbb.bottom
    obtain ⟨rr, hrr⟩ := hbb.right
    have hr1 := (hfit _ _ hcb).1
    have hc1 := (hfit _ _ hrr).2
    have hcc : S.cmin ≤ S.cmax := (hbb.bound _ _ hrr).2.2.1
    have hMpos : 0 < total M := by
      rw [eM, total_append]; exact Nat.lt_of_lt_of_le (hrep y hymem) (Nat.le_add_left _ _)
    have hfitM : ∀ z ∈ M, ¬ isEmptyRow z.2 = true → S.cmin ≤ z.2.length := by
      intro z hz hne
      obtain ⟨p, _, _, _, p2, _⟩ := row_ne z.2 hne
      exact Nat.le_trans (hcols.2.2 p ⟨z, hmem z hz, p2⟩).1 (Nat.le_of_lt (lt_length_of_getD_ne z.2 p p2))
    rw [getRangeRows_trim ht hrep S hS hfitM, Nat.mod_eq_of_lt (Nat.lt_of_le_of_lt (hbb.bound _ _ hcb).1 hr1), Nat.mod_eq_of_lt (Nat.lt_of_le_of_lt hcc hc1),
      Nat.mod_eq_of_lt hr1, Nat.mod_eq_of_lt hc1]
    have hdim : total A + total M - 1 - total A + 1 = total M := by omega
    have hw : S.cmax - S.cmin + 1 = S.cmax + 1 - S.cmin := by omega
    -- the dense vector tabulates the grid on the box; outside the box the grid is default (`hbb.bound`)
    have t : Range.Tab (dense S.cmin S.cmax (expR M)) (total A + total M - 1 - total A + 1) (S.cmax - S.cmin + 1)
        (fun i j => gridF rows (total A + i) (S.cmin + j)) := by
      rw [hdim, hw, ← expR_length M]
      exact (dense_tab S.cmin S.cmax (expR M)).congr fun i j hi _ => by
        rw [ht.eq, gridF_append_right, gridF_append_left _ _ i _ (expR_length M ▸ hi), gridF_eq]
    obtain ⟨hinv, hne, hval⟩ := Range.Tab.rng (Nat.le_sub_one_of_lt (Nat.lt_add_of_pos_right hMpos)) hcc t
      (fun p q hout => Classical.byContradiction fun hn => hout (hbb.bound p q hn))
    exact ⟨hinv, hval, ⟨fun h => absurd h hne, fun h => absurd (h _ _) hcb⟩, fun _ => hbb, fun h => absurd h hne⟩

theorem getRangeRows_spec (rows : List (Nat × List α)) (hrep : ∀ x ∈ rows, 1 ≤ x.1)
    (hfit : ∀ r c, gridF rows r c ≠ default → r < U32 ∧ c < U32) :
    Inv (getRangeRows true (rows.map (·.2)) (rows.map (·.1))) ∧
    (∀ r c, (getRangeRows true (rows.map (·.2)) (rows.map (·.1))).valAt r c = gridF rows r c) ∧
    ((getRangeRows true (rows.map (·.2)) (rows.map (·.1))).inner.length = 0 ↔ ∀ r c, gridF rows r c = default) ∧
    ((getRangeRows true (rows.map (·.2)) (rows.map (·.1))).inner.length ≠ 0 →
      IsBBox (gridF rows) (getRangeRows true (rows.map (·.2)) (rows.map (·.1))).sr
        (getRangeRows true (rows.map (·.2)) (rows.map (·.1))).sc
        (getRangeRows true (rows.map (·.2)) (rows.map (·.1))).er
        (getRangeRows true (rows.map (·.2)) (rows.map (·.1))).ec) ∧
    ((getRangeRows true (rows.map (·.2)) (rows.map (·.1))).inner.length = 0 →
      getRangeRows true (rows.map (·.2)) (rows.map (·.1)) = Range.empty) :=
  getRangeRows_result rows hrep hfit

theorem getD_replicate_append (n : Nat) (x : α) (l : List α) (c : Nat) :
    (List.replicate n x ++ l).getD c default = if c < n then x else l.getD (c - n) default := by
  rw [List.getD_eq_getElem?_getD, getElem?_replicate_append, List.getD_eq_getElem?_getD]
  split <;> rfl

/-- what `read_row` leaves in the vector, column by column: the pending blanks, then the value of the
    covering event; blank runs at the end of the row are simply absent (default beyond the end) -/
theorem readRow_getD {ε : Type} (pend : ε → Bool) (val : ε → α) (hp : ∀ e, pend e = true → val e = default)
    (evs : List (ε × Nat)) (pending c : Nat) :
    (readRow pend val evs pending).getD c default =
      if c < pending then default else cellAt (evs.map fun x => (val x.1, x.2)) (c - pending) := by
  induction evs generalizing pending c with
  | nil => exact (ite_self _).symm
  | cons x rest ih =>
    obtain ⟨e, k⟩ := x
    rw [readRow, getD_replicate_append]
    show _ = if c < pending then default
      else if c - pending < k then val e else cellAt (rest.map fun x => (val x.1, x.2)) (c - pending - k)
    by_cases hc : c < pending
    · rw [if_pos hc, if_pos hc]
    · rw [if_neg hc, if_neg hc]
      by_cases hpe : pend e = true
      · rw [if_pos hpe, ih k (c - pending), hp e hpe]
      · rw [if_neg hpe, getD_replicate_append, ih 0 (c - pending - k), if_neg (Nat.not_lt_zero _), Nat.sub_zero]

theorem pendVF_fst {β : Type} [Inhabited β] [DecidableEq β] (e : α × β) (h : pendVF e = true) : e.1 = default :=
  of_decide_eq_true (Bool.and_eq_true_iff.1 h).1

theorem pendVF_snd {β : Type} [Inhabited β] [DecidableEq β] (e : α × β) (h : pendVF e = true) : e.2 = default :=
  of_decide_eq_true (Bool.and_eq_true_iff.1 h).2

theorem runAt_map {β γ : Type} (g : β → γ) (L : List (Nat × β)) (i : Nat) :
    runAt (L.map fun r => (r.1, g r.2)) i = (runAt L i).map g := by
  induction L generalizing i with
  | nil => rfl
  | cons x rest ih =>
    simp only [List.map_cons, runAt]
    split
    · rfl
    · exact ih (i - x.1)

theorem gridF_collectG {ε : Type} (pend : ε → Bool) (val : ε → α) (hp : ∀ e, pend e = true → val e = default)
    (runs : List (Nat × List (ε × Nat))) (r c : Nat) :
    gridF (collectG pend val runs) r c = expand (runsOf val runs) r c := by
  unfold gridF expand collectG runsOf
  rw [runAt_map (fun evs => readRow pend val evs 0) runs r,
    runAt_map (fun (evs : List (ε × Nat)) => evs.map fun x => (val x.1, x.2)) runs r]
  cases runAt runs r with
  | none => rfl
  | some evs =>
    simp only [Option.map_some]
    rw [readRow_getD pend val hp evs 0 c]
    simp

theorem rowSpan_acc (evs : List (α × Nat)) (c a b0 : Nat) :
    rowSpan evs c (some (a, b0)) =
      match rowSpan evs c none with
      | none => some (a, b0)
      | some (_, b) => some (a, b) := by
  induction evs generalizing c a b0 with
  | nil => rfl
  | cons x rest ih =>
    obtain ⟨v, k⟩ := x
    simp only [rowSpan]
    by_cases h : v ≠ default ∧ k > 0
    · rw [if_pos h, if_pos h, ih (c + k) a (c + k - 1), ih (c + k) c (c + k - 1)]
      cases rowSpan rest (c + k) none with
      | none => rfl
      | some x => rfl
    · rw [if_neg h, if_neg h, ih (c + k) a b0]

theorem cellAt_lt (v : α) (k : Nat) (rest : List (α × Nat)) (q : Nat) (h : q < k) :
    cellAt ((v, k) :: rest) q = v := by
  rw [cellAt, if_pos h]

theorem cellAt_add (v : α) (k : Nat) (rest : List (α × Nat)) (q : Nat) :
    cellAt ((v, k) :: rest) (k + q) = cellAt rest q := by
  rw [cellAt, if_neg (Nat.not_lt.2 (Nat.le_add_right k q)), Nat.add_sub_cancel_left]

theorem rowSpan_span (evs : List (α × Nat)) (c : Nat) :
    ∃ o, rowSpan evs c none = o.map (fun ab => (c + ab.1, c + ab.2)) ∧ Span (fun q => cellAt evs q ≠ default) o := by
  induction evs generalizing c with
  | nil => exact ⟨none, rfl, fun _ h => h rfl⟩
  | cons x rest ih =>
    obtain ⟨v, k⟩ := x
    obtain ⟨o, e, hs⟩ := ih (c + k)
    refine ⟨Span.push (v ≠ default) k o, ?_,
      Span.cons (fun q hq => by rw [cellAt_lt v k rest q hq]) (fun d => by rw [cellAt_add]) hs⟩
    rw [rowSpan]
    unfold Span.push
    by_cases h : v ≠ default ∧ k > 0
    · rw [if_pos h, if_pos h, rowSpan_acc, e]
      cases o with
      | none => simp [Nat.add_sub_assoc h.2]
      | some ab => simp [Nat.add_assoc]
    · rw [if_neg h, if_neg h, e]
      cases o <;> simp [Nat.add_assoc]

theorem bboxFrom_acc : ∀ (runs : List (RowRun α)) (r r0 c0 e c1 : Nat),
    bboxFrom runs r (some (r0, c0, e, c1)) =
      match bboxFrom runs r none with
      | none => some (r0, c0, e, c1)
      | some (_, a, e', b) => some (r0, min c0 a, e', max c1 b) := by
  intro runs
  induction runs with
  | nil => intros; rfl
  | cons x rest ih =>
    intro r r0 c0 e c1
    obtain ⟨k, evs⟩ := x
    simp only [bboxFrom]
    cases hs : (if k > 0 then rowSpan evs 0 none else none) with
    | none => simp only; exact ih (r + k) r0 c0 e c1
    | some ab =>
      obtain ⟨a, b⟩ := ab
      simp only
      rw [ih (r + k) r0 (min c0 a) (r + k - 1) (max c1 b), ih (r + k) r a (r + k - 1) b]
      cases bboxFrom rest (r + k) none with
      | none => rfl
      | some x =>
        obtain ⟨x1, x2, x3, x4⟩ := x
        simp only [Nat.min_assoc, Nat.max_assoc]

theorem expand_lt (k : Nat) (evs : List (α × Nat)) (rest : List (RowRun α)) (p q : Nat) (h : p < k) :
    expand ((k, evs) :: rest) p q = cellAt evs q := by
  unfold expand
  rw [runAt, if_pos h]

theorem expand_add (k : Nat) (evs : List (α × Nat)) (rest : List (RowRun α)) (p q : Nat) :
    expand ((k, evs) :: rest) (k + p) q = expand rest p q := by
  unfold expand
  rw [runAt, if_neg (Nat.not_lt.2 (Nat.le_add_right k p)), Nat.add_sub_cancel_left]

theorem cellAt_lt_sum (evs : List (α × Nat)) (c : Nat) (h : cellAt evs c ≠ default) :
    c < (evs.map (·.2)).sum := by
  induction evs generalizing c with
  | nil => exact absurd rfl h
  | cons x rest ih =>
    obtain ⟨v, k⟩ := x
    show c < k + (rest.map (·.2)).sum
    rcases lt_or_add c k with hk | ⟨d, rfl⟩
    · exact Nat.lt_of_lt_of_le hk (Nat.le_add_right _ _)
    · rw [cellAt_add] at h
      exact Nat.add_lt_add_left (ih d h) k

theorem expand_mem (runs : List (RowRun α)) (p q : Nat) (h : expand runs p q ≠ default) :
    p < total runs ∧ ∃ x ∈ runs, cellAt x.2 q ≠ default := by
  unfold expand at h
  rw [runAt_eq] at h
  cases hr : (expR runs)[p]? with
  | none => rw [hr] at h; exact absurd rfl h
  | some evs =>
    rw [hr] at h
    obtain ⟨x, hx, rfl⟩ := mem_expR runs evs (List.mem_of_getElem? hr)
    exact ⟨expR_length runs ▸ (List.getElem?_eq_some_iff.mp hr).1, x, hx, h⟩

theorem bboxFrom_isBBox : ∀ (runs : List (RowRun α)) (r : Nat),
    (bboxFrom runs r none = none ∧ ∀ p q, expand runs p q = default) ∨
    ∃ r0 c0 r1 c1, bboxFrom runs r none = some (r + r0, c0, r + r1, c1) ∧ IsBBox (expand runs) r0 c0 r1 c1 := by
  intro runs
  induction runs with
  | nil => exact fun r => Or.inl ⟨rfl, fun _ _ => rfl⟩
  | cons x rest ih =>
    intro r
    obtain ⟨k, evs⟩ := x
    have ih := ih (r + k)
    obtain ⟨o, eo, ho⟩ := rowSpan_span evs 0
    have hcols : ∀ q, (∃ p, expand rest p q ≠ default) → ∃ p, expand ((k, evs) :: rest) p q ≠ default :=
      fun q ⟨p, hp⟩ => ⟨k + p, by rw [expand_add]; exact hp⟩
    rw [bboxFrom]
    cases hs : (if k > 0 then rowSpan evs 0 none else none) with
    | none =>
      have hrow : ∀ p q, p < k → expand ((k, evs) :: rest) p q = default := by
        intro p q hp
        rw [expand_lt k evs rest p q hp]
        rw [if_pos (Nat.lt_of_le_of_lt (Nat.zero_le p) hp), eo] at hs
        cases o with
        | none => exact Classical.not_not.1 (ho q)
        | some _ => cases hs
      show _ ∨ ∃ r0 c0 r1 c1, bboxFrom rest (r + k) none = _ ∧ _
      rcases ih with ⟨e, hd⟩ | ⟨r0, c0, r1, c1, e, hb⟩
      · refine Or.inl ⟨e, fun p q => ?_⟩
        rcases lt_or_add p k with hp | ⟨d, rfl⟩
        · exact hrow p q hp
        · rw [expand_add]; exact hd d q
      · refine Or.inr ⟨k + r0, c0, k + r1, c1, by rw [e, Nat.add_assoc, Nat.add_assoc], IsBBox.of_spans ?_ ?_⟩
        · exact IsSpan.shift (fun p hp ⟨q, hq⟩ => hq (hrow p q hp)) (fun p => by simp only [expand_add]) hb.rows
        · refine IsSpan.congr (fun q => ⟨fun ⟨p, hp⟩ => ?_, hcols q⟩) hb.cols
          rcases lt_or_add p k with hpk | ⟨d, rfl⟩
          · exact absurd (hrow p q hpk) hp
          · exact ⟨d, by rw [← expand_add k evs rest d q]; exact hp⟩
    | some ab =>
      obtain ⟨a, b⟩ := ab
      have hk : k > 0 := Classical.byContradiction fun hn => by rw [if_neg hn] at hs; cases hs
      rw [if_pos hk, eo] at hs
      have hsp : IsSpan (fun q => cellAt evs q ≠ default) a b := by
        cases o with
        | none => cases hs
        | some ab => rw [Option.map_some, Nat.zero_add, Nat.zero_add] at hs; cases hs; exact ho
      -- every row of the run holds a value (in column `a`), the run's columns are those of `evs`
      have hrows : ∀ p, p < k → ∃ q, expand ((k, evs) :: rest) p q ≠ default :=
        fun p hp => ⟨a, by rw [expand_lt k evs rest p a hp]; exact hsp.1⟩
      have hcol : ∀ q, (∃ p, expand ((k, evs) :: rest) p q ≠ default) ↔
          cellAt evs q ≠ default ∨ ∃ p, expand rest p q ≠ default := by
        refine fun q => ⟨fun ⟨p, hp⟩ => ?_, fun h => ?_⟩
        · rcases lt_or_add p k with hpk | ⟨d, rfl⟩
          · exact Or.inl (by rw [← expand_lt k evs rest p q hpk]; exact hp)
          · exact Or.inr ⟨d, by rw [← expand_add k evs rest d q]; exact hp⟩
        · rcases h with h | h
          · exact ⟨0, by rw [expand_lt k evs rest 0 q hk]; exact h⟩
          · exact hcols q h
      show _ ∨ ∃ r0 c0 r1 c1, bboxFrom rest (r + k) (some (r, a, r + k - 1, b)) = _ ∧ _
      rw [bboxFrom_acc]
      rcases ih with ⟨e, hd⟩ | ⟨r0, c0, r1, c1, e, hb⟩
      · rw [e]
        refine Or.inr ⟨0, a, k - 1, b, by rw [Nat.add_sub_assoc hk]; rfl, IsBBox.of_spans ?_ ?_⟩
        · exact IsSpan.run_none hk hrows (fun p ⟨q, hq⟩ => hq (by rw [expand_add]; exact hd p q))
        · exact IsSpan.congr (fun q => (hcol q).trans ⟨fun h => h.elim id fun ⟨p, hp⟩ => absurd (hd p q) hp, Or.inl⟩) hsp
      · rw [e]
        refine Or.inr ⟨0, min a c0, k + r1, max b c1, by rw [Nat.add_assoc r k r1]; rfl, IsBBox.of_spans ?_ ?_⟩
        · exact IsSpan.run_some hk hrows (fun p => by simp only [expand_add]) hb.rows
        · exact IsSpan.union hcol hsp hb.cols

theorem bboxFrom_spec : ∀ (runs : List (RowRun α)) (r : Nat),
    match bboxFrom runs r none with
    | none => ∀ p q, expand runs p q = default
    | some (r0, c0, r1, c1) => r ≤ r0 ∧ r0 ≤ r1 ∧
        (∃ q, expand runs (r0 - r) q ≠ default) ∧ (∃ q, expand runs (r1 - r) q ≠ default) ∧
        (∃ p, expand runs p c0 ≠ default) ∧ (∃ p, expand runs p c1 ≠ default) ∧
        ∀ p q, expand runs p q ≠ default → r0 ≤ r + p ∧ r + p ≤ r1 ∧ c0 ≤ q ∧ q ≤ c1 := by
  intro runs r
  rcases bboxFrom_isBBox runs r with ⟨e, h⟩ | ⟨r0, c0, r1, c1, e, h⟩
  · rw [e]; exact h
  · rw [e]
    show r ≤ r + r0 ∧ r + r0 ≤ r + r1 ∧ (∃ q, expand runs (r + r0 - r) q ≠ default) ∧
      (∃ q, expand runs (r + r1 - r) q ≠ default) ∧ _
    rw [Nat.add_sub_cancel_left, Nat.add_sub_cancel_left]
    obtain ⟨c, hc⟩ := h.top
    exact ⟨Nat.le_add_right r r0, Nat.add_le_add_left (h.bound r0 c hc).2.1 r, h.top, h.bottom, h.left, h.right,
      fun p q hpq => ⟨Nat.add_le_add_left (h.bound p q hpq).1 r, Nat.add_le_add_left (h.bound p q hpq).2.1 r,
        (h.bound p q hpq).2.2⟩⟩

theorem readRowK_eq {ε : Type} (pend : ε → Bool) (val : ε → α) (evs : List (CellKind × ε × Nat)) (p : Nat) :
    readRowK pend val evs p = readRow pend val (evs.map fun e => (e.2.1, e.2.2)) p := by
  induction evs generalizing p with
  | nil => rfl
  | cons x rest ih =>
    obtain ⟨kd, e, k⟩ := x
    cases kd <;> simp only [readRowK, List.map_cons, readRow, ih]

theorem collectKG_eq {ε : Type} (pend : ε → Bool) (val : ε → α) (runs : List (RowRunK ε)) :
    collectKG pend val runs = collectG pend val (eraseKinds runs) := by
  simp [collectKG, collectG, eraseKinds, readRowK_eq, Function.comp_def]

theorem cellAtK_eq {ε : Type} (val : ε → α) (evs : List (CellKind × ε × Nat)) (c : Nat) :
    cellAtK val evs c = cellAt (evs.map fun e => (val e.2.1, e.2.2)) c := by
  induction evs generalizing c with
  | nil => rfl
  | cons x rest ih => simp only [cellAtK, List.map_cons, cellAt, ih]

theorem expandK_eq {ε : Type} (val : ε → α) (runs : List (RowRunK ε)) (r c : Nat) :
    expandK val runs r c = expand (runsOf val (eraseKinds runs)) r c := by
  have hmap : runsOf val (eraseKinds runs) =
      runs.map fun x => (x.1, (fun evs : List (CellKind × ε × Nat) => evs.map fun e => (val e.2.1, e.2.2)) x.2) := by
    simp [runsOf, eraseKinds, Function.comp_def]
  unfold expandK expand
  rw [hmap, runAt_map (fun evs : List (CellKind × ε × Nat) => evs.map fun e => (val e.2.1, e.2.2)) runs r]
  cases runAt runs r with
  | none => rfl
  | some evs => simp only [Option.map_some]; exact cellAtK_eq val evs c

end OdsRange
