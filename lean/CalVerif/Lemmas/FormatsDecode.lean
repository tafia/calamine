import CalVerif.Spec.StylesEnc
import CalVerif.Lemmas.FormatsCompose
import CalVerif.Lemmas.BiffStrings
import CalVerif.Lemmas.Xlsb
import CalVerif.Lemmas.ListLoops
/-! The style-table decoders (`Model/FormatsDecode.lean`) on arbitrary input — each comes back (`Res.Returns`), the
    fuelled loops because their callers' budget (length of the input + 1) exceeds what the framing primitives can use
    up — and their loops on the pieces of an encoded style table (`Spec/StylesEnc.lean`); the round trips composed from
    these stand in `Props/C10.lean`. -/
namespace Formats
open StylesEnc NumFmt Res

theorem xlsParseXf_returns (d : Bytes) : (xlsParseXf d).Returns := by
  unfold xlsParseXf; exact .ite (.err _) (.ok _)

theorem xlsParseFormat_returns (d : Bytes) : (xlsParseFormat d).Returns := by
  unfold xlsParseFormat; exact .ite (.err _) (.ok _)

theorem xlsStyleFold_returns : ∀ (recs : List (Nat × Bytes)) (defs : List (Nat × List Char)) (xfs : List Nat),
    (xlsStyleFold recs defs xfs).Returns
  | [], _, _ => .ok _
  | (typ, data) :: rest, defs, xfs => by
    unfold xlsStyleFold
    exact .ite (.ok _) (.ite ((xlsParseFormat_returns data).elim (fun _ => xlsStyleFold_returns rest _ _) .err)
      (.ite ((xlsParseXf_returns data).elim (fun _ => xlsStyleFold_returns rest _ _) .err)
        (xlsStyleFold_returns rest _ _)))

theorem xlsStylesOfRecords_returns (recs : List (Nat × Bytes)) : (xlsStylesOfRecords recs).Returns := by
  unfold xlsStylesOfRecords
  exact (xlsStyleFold_returns recs [] []).elim (fun p => Or.inl ⟨_, xlsStyles_eq p.1 p.2⟩) .err

/-- every record takes at least four bytes, so a budget above the length of the stream is never used up -/
theorem xlsStyleStream_returns : ∀ (fuel : Nat) (s : Bytes) (defs : List (Nat × List Char)) (xfs : List Nat),
    s.length < fuel → (xlsStyleStream fuel s defs xfs).Returns
  | 0, _, _, _, h => absurd h (Nat.not_lt_zero _)
  | fuel + 1, s, defs, xfs, h => by
    unfold xlsStyleStream
    cases hn : Biff.nextRecord s with
    | none => exact .ok _
    | some x =>
      refine (Biff.nextRecord_returnsWith s x hn).elim (fun p (hle : p.2.length + (p.1.data.length + 4) ≤ _) => ?_) .err
      have ih := fun defs xfs => xlsStyleStream_returns fuel p.2 defs xfs (by omega)
      exact .ite (.ok _) (.ite ((xlsParseFormat_returns p.1.data).elim (fun _ => ih _ _) .err)
        (.ite ((xlsParseXf_returns p.1.data).elim (fun _ => ih _ _) .err) (ih _ _)))

theorem xlsStylesOfStream_returns (stream : Bytes) : (xlsStylesOfStream stream).Returns := by
  unfold xlsStylesOfStream
  exact (xlsStyleStream_returns (stream.length + 1) stream [] [] (Nat.lt_succ_self _)).elim
    (fun p => Or.inl ⟨_, xlsStyles_eq p.1 p.2⟩) .err

/-- the framing primitive is given a budget above the bytes left, so it comes back, and with fewer bytes left -/
theorem xlsbFmtLoop_returnsWith : ∀ (n : Nat) (bs : Bytes) (defs : List (Nat × List Char)),
    (xlsbFmtLoop n bs defs).ReturnsWith fun v => v.2.length ≤ bs.length
  | 0, _, _ => .ok (Nat.le_refl _)
  | n + 1, bs, defs => by
    unfold xlsbFmtLoop
    refine (Xlsb.nextSkipBlocks_returnsWith 0x002C [] (bs.length + 1) [] bs (Nat.lt_succ_self _)).elim
      (fun p (h1 : p.2.2.length + 2 ≤ _) => ?_) fun _ => .err
    dsimp only
    refine .ite (fun _ => .err) fun _ => (Xlsb.wideStr_returns (p.2.1.drop 2)).elim (fun q => ?_) fun _ => .err
    exact (xlsbFmtLoop_returnsWith n p.2.2 _).mono fun v hv => by omega

theorem xlsbXfLoop_returns : ∀ (n : Nat) (bs : Bytes) (xfs : List Nat), (xlsbXfLoop n bs xfs).Returns
  | 0, _, _ => .ok _
  | n + 1, bs, xfs => by
    unfold xlsbXfLoop
    exact (Xlsb.nextSkipBlocks_returnsWith 0x002F [] (bs.length + 1) [] bs (Nat.lt_succ_self _)).elim
      (fun p _ => .ite (.err _) (xlsbXfLoop_returns n p.2.2 _)) .err

/-- reading a record type and a payload each take a byte -/
theorem xlsbStylesLoop_returns : ∀ (fuel : Nat) (bs : Bytes) (defs : List (Nat × List Char)),
    bs.length < fuel → (xlsbStylesLoop fuel bs defs).Returns
  | 0, _, _, h => absurd h (Nat.not_lt_zero _)
  | fuel + 1, bs, defs, hf => by
    unfold xlsbStylesLoop
    refine (Xlsb.readType_returnsWith bs).elim (fun p (h1 : p.2.length + 1 ≤ _) => ?_) .err
    dsimp only
    refine (Xlsb.fillBuffer_returnsWith [] p.2).elim (fun q (h2 : q.2.2.length + 1 ≤ _) => ?_) .err
    dsimp only
    refine .ite (.ite (.err _) ?_) (.ite (.ite (.err _) ?_) (xlsbStylesLoop_returns fuel q.2.2 defs (by omega)))
    · exact (xlsbFmtLoop_returnsWith (Xlsb.u32le q.2.1) q.2.2 defs).elim
        (fun r (h3 : r.2.length ≤ _) => xlsbStylesLoop_returns fuel r.2 r.1 (by omega)) .err
    · exact (xlsbXfLoop_returns (Xlsb.u32le q.2.1) q.2.2 []).elim (fun _ => .ok _) .err

theorem xlsbStylesOfBytes_returns (part : Bytes) : (xlsbStylesOfBytes part).Returns := by
  unfold xlsbStylesOfBytes
  exact (xlsbStylesLoop_returns (part.length + 1) part [] (Nat.lt_succ_self _)).elim
    (fun p => Or.inl ⟨_, xlsbStyles_eq p.1 p.2⟩) .err

theorem utf16Units_eq (s : List Char) : utf16Units s = Utf16.charUnits s := by
  induction s with
  | nil => rfl
  | cons c s ih => rw [utf16Units, ih]; rfl

theorem utf16Decode_eq (us : List Nat) : utf16Decode us = Utf16.decodeChars us := by
  fun_induction utf16Decode us <;> simp [Utf16.decodeChars, Utf16.decode, *]

theorem utf16Decode_units (s : List Char) : utf16Decode (utf16Units s) = s := by
  rw [utf16Decode_eq, utf16Units_eq, Utf16.decodeChars_charUnits_self]

theorem utf16Units_lt (s : List Char) : ∀ u ∈ utf16Units s, u < 65536 := by
  rw [utf16Units_eq]; exact Utf16.charUnits_lt s

theorem xlsParseFormat_enc (id : Nat) (s : List Char) (w : Bool) (hid : id < 65536) (hl : (utf16Units s).length < 65536)
    (hn : w = false → ∀ u ∈ utf16Units s, u < 256) : xlsParseFormat (xlsFormatPayload id s w) = .ok (id, s) := by
  have hdec : (Biff.decodeTo (MetaEnc.encUnits w (utf16Units s)) (utf16Units s).length w).1 = utf16Units s :=
    congrArg Prod.fst (Biff.decodeTo_encUnits w _ _ (utf16Units_lt s) hn (Nat.le_refl _))
  -- five header bytes in front of the units: the reads behind the first field reduce by computation
  have hsh : xlsFormatPayload id s w = Biff.le16 id ++
      (Biff.le16 (utf16Units s).length ++ ((if w then 1 else 0) :: MetaEnc.encUnits w (utf16Units s))) := by
    simp only [xlsFormatPayload, List.append_assoc, List.cons_append, List.nil_append]
  rw [hsh, xlsParseFormat, if_neg (by simp [Biff.le16]), Biff.u16_le16 id hid _]
  show Res.ok (id, utf16Decode (Biff.decodeTo (MetaEnc.encUnits w (utf16Units s))
    (Biff.u16 (Biff.le16 (utf16Units s).length ++ _)) (Biff.flagHigh (if w then 1 else 0))).1) = _
  rw [Biff.u16_le16 _ hl _, show Biff.flagHigh (if w then 1 else 0) = w from Biff.flagHigh_flagByte w, hdec,
    utf16Decode_units]
theorem xlsParseXf_enc (id font : Nat) (tail : Bytes) (hid : id < 65536) :
    xlsParseXf (xlsXfPayload id font tail) = .ok id := by
  unfold xlsParseXf xlsXfPayload
  have hlen : ¬ (Biff.le16 font ++ Biff.le16 id ++ tail).length < 4 := by simp [Biff.le16]
  rw [if_neg hlen]
  have : (Biff.le16 font ++ Biff.le16 id ++ tail).drop 2 = Biff.le16 id ++ tail := by simp [Biff.le16]
  rw [this, Biff.u16_le16 id hid tail]

theorem xlsStyleFold_format (data : Bytes) (rest : List (Nat × Bytes)) (defs : List (Nat × List Char)) (xfs : List Nat)
    (d : Nat × List Char) (h : xlsParseFormat data = .ok d) :
    xlsStyleFold ((0x041E, data) :: rest) defs xfs = xlsStyleFold rest (defs ++ [d]) xfs := by
  simp [xlsStyleFold, h]

theorem xlsStyleFold_xf (data : Bytes) (rest : List (Nat × Bytes)) (defs : List (Nat × List Char)) (xfs : List Nat)
    (x : Nat) (h : xlsParseXf data = .ok x) :
    xlsStyleFold ((0x00E0, data) :: rest) defs xfs = xlsStyleFold rest defs (xfs ++ [x]) := by
  simp [xlsStyleFold, h]

theorem xlsStyleFold_other (t : Nat) (data : Bytes) (rest : List (Nat × Bytes)) (defs : List (Nat × List Char))
    (xfs : List Nat) (h1 : t ≠ 0x000A) (h2 : t ≠ 0x041E) (h3 : t ≠ 0x00E0) :
    xlsStyleFold ((t, data) :: rest) defs xfs = xlsStyleFold rest defs xfs := by
  simp [xlsStyleFold, h1, h2, h3]

theorem xlsStyleFold_enc (after : List (Nat × Bytes)) : ∀ (items : List XlsItem), (∀ i ∈ items, i.WF) →
    ∀ (defs : List (Nat × List Char)) (xfs : List Nat),
    xlsStyleFold (xlsEncode items after) defs xfs = .ok (defs ++ xlsFormatsOf items, xfs ++ xlsXfsOf items)
  | [], _, defs, xfs => by simp [xlsEncode, xlsStyleFold, xlsFormatsOf, xlsXfsOf]
  | it :: items, hwf, defs, xfs => by
    have hw := hwf it (by simp)
    have ih := xlsStyleFold_enc after items (fun i hi => hwf i (by simp [hi]))
    unfold xlsEncode at ih ⊢
    rw [List.map_cons, List.cons_append]
    cases it with
    | format id s w =>
      obtain ⟨h1, h2, h3⟩ := hw
      show xlsStyleFold ((0x041E, xlsFormatPayload id s w) :: _) defs xfs = _
      rw [xlsStyleFold_format _ _ _ _ _ (xlsParseFormat_enc id s w h1 h2 h3), ih]
      simp [xlsFormatsOf, xlsXfsOf]
    | xf id font tail =>
      obtain ⟨h1, _⟩ := hw
      show xlsStyleFold ((0x00E0, xlsXfPayload id font tail) :: _) defs xfs = _
      rw [xlsStyleFold_xf _ _ _ _ _ (xlsParseXf_enc id font tail h1), ih]
      simp [xlsFormatsOf, xlsXfsOf]
    | other t d =>
      obtain ⟨h1, h2, h3⟩ := hw
      show xlsStyleFold ((t, d) :: _) defs xfs = _
      rw [xlsStyleFold_other _ _ _ _ _ h1 h2 h3, ih]
      simp [xlsFormatsOf, xlsXfsOf]

theorem toDigits_head (n : Nat) (hn : 0 < n) : ∃ c cs, Nat.toDigits 10 n = c :: cs ∧ c ≠ '0' := by
  induction n using Nat.strongRecOn with
  | _ n ih =>
    rw [Nat.toDigits_eq_if (by decide : 1 < 10)]
    split
    · rename_i h
      exact ⟨Nat.digitChar n, [], rfl, fun e => Nat.ne_of_gt hn (Nat.digitChar_eq_zero.mp e)⟩
    · rename_i h
      obtain ⟨c, cs, hc, hne⟩ := ih (n / 10) (by omega) (by omega)
      exact ⟨c, cs ++ [Nat.digitChar (n % 10)], by rw [hc]; rfl, hne⟩

theorem digit_byte (c : Char) (h : c.isDigit = true) :
    isDigitByte (UInt8.ofNat c.toNat) = true ∧ (UInt8.ofNat c.toNat = 48 → c = '0') := by
  have hd := Char.isDigit_iff_toNat.mp h
  have h0 : '0'.toNat = 48 := by decide
  have h9 : '9'.toNat = 57 := by decide
  rw [h0, h9] at hd
  have ht : (UInt8.ofNat c.toNat).toNat = c.toNat := by simp; omega
  refine ⟨by simp [isDigitByte, ht, hd.1, hd.2], ?_⟩
  intro he
  have : c.toNat = 48 := by rw [← ht, he]; rfl
  exact Char.toNat_inj.mp (by rw [this, h0])

theorem decimal_digits (n : Nat) : (decimal n).all isDigitByte = true := by
  simp only [decimal, List.all_map, List.all_eq_true, Function.comp]
  intro c hc
  exact (digit_byte c (Nat.isDigit_of_mem_toDigits (by decide) (by decide) hc)).1

/-- the canonical spelling: no leading zero, except that zero is the one digit `0` -/
theorem decimal_canon (n : Nat) : ∃ d ds, decimal n = d :: ds ∧ (d = 48 → ds = []) := by
  by_cases hn : 0 < n
  · obtain ⟨c, cs, hc, hne⟩ := toDigits_head n hn
    refine ⟨UInt8.ofNat c.toNat, cs.map (fun c => UInt8.ofNat c.toNat), by simp [decimal, hc], fun he => ?_⟩
    have hdig : c.isDigit = true :=
      Nat.isDigit_of_mem_toDigits (b := 10) (n := n) (by decide) (by decide) (by rw [hc]; simp)
    exact absurd ((digit_byte c hdig).2 he) hne
  · obtain rfl : n = 0 := by omega
    exact ⟨48, [], by decide, fun _ => rfl⟩

theorem formatId_zeros (z : Nat) (d : UInt8) (ds : Bytes) (hall : (d :: ds).all isDigitByte = true)
    (hc : d = 48 → ds = []) : formatId (List.replicate z 48 ++ d :: ds) = d :: ds := by
  have hz : (List.replicate z (48 : UInt8) ++ d :: ds).all isDigitByte = true := by
    rw [List.all_append, hall, List.all_replicate]; cases z <;> rfl
  have htw : ((List.replicate z (48 : UInt8) ++ d :: ds).takeWhile (· == 48)).length =
      z + ((d :: ds).takeWhile (· == 48)).length := by
    rw [List.takeWhile_append_of_pos fun a ha => by rw [List.eq_of_mem_replicate ha]; rfl, List.length_append,
      List.length_replicate]
  have hmin : min (z + ((d :: ds).takeWhile (· == 48)).length) ((List.replicate z (48 : UInt8) ++ d :: ds).length - 1) = z := by
    rw [List.length_append, List.length_replicate, List.length_cons]
    by_cases h : d = 48
    · subst h; rw [hc rfl]; simp
    · simp [h]
  rw [formatId, hz, htw, hmin]
  simp [List.drop_left']

theorem formatId_padId (z n : Nat) : formatId (padId z n) = decimal n := by
  obtain ⟨d, ds, hd, hc⟩ := decimal_canon n
  rw [padId, hd]
  exact formatId_zeros z d ds (hd ▸ decimal_digits n) hc

theorem formatId_decimal (n : Nat) : formatId (decimal n) = decimal n := formatId_padId 0 n

theorem afterColon_skip (p l : List Char) (h : ':' ∉ p) : afterColon (p ++ l) = afterColon l :=
  ListLoops.skip_append (f := afterColon) (P := (· ≠ ':')) (fun c rest hc => by rw [afterColon, if_neg hc]) p l
    fun c hc e => h (e ▸ hc)

theorem localName_qn (pfx : Option (List Char)) (hp : ∀ p, pfx = some p → ':' ∉ p) (n : String) (hn : ':' ∉ n.toList) :
    localName (qn pfx n) = n.toList := by
  have h0 := afterColon_skip n.toList [] hn
  rw [List.append_nil] at h0
  cases pfx with
  | none => rw [qn, localName, h0]; rfl
  | some p => rw [qn, localName, afterColon_skip p _ (hp p rfl), afterColon, if_pos rfl]; rfl

theorem xlsxClass_filter (defs : List (Bytes × List Char)) (xf : Option Bytes) :
    xlsxClass (defs.filter fun d => !d.2.isEmpty) xf = xlsxClass defs xf := by
  cases xf with
  | none => rfl
  | some id => simp [xlsxClass, List.filter_filter]

theorem loop_top_inert (l : List SEv) (h : l.all topInert = true) (rest : List SEv) (defs : List (Bytes × List Char))
    (fmts : List CellFormat) : xlsxStylesLoop .top (l ++ rest) defs fmts = xlsxStylesLoop .top rest defs fmts := by
  refine ListLoops.skip_append (f := fun l => xlsxStylesLoop .top l defs fmts) (P := fun ev => topInert ev = true)
    (fun ev rest h => ?_) l rest (List.all_eq_true.mp h)
  cases ev with
  | start n a =>
    simp only [topInert, Bool.and_eq_true, bne_iff_ne, ne_eq] at h
    simp only [xlsxStylesLoop, if_neg h.1, if_neg h.2]
  | end_ n =>
    simp only [topInert, bne_iff_ne, ne_eq] at h
    simp only [xlsxStylesLoop, if_neg h]
  | other => simp only [xlsxStylesLoop]

theorem loop_xf_inert (l : List SEv) (h : l.all xfInert = true) (rest : List SEv) (defs : List (Bytes × List Char))
    (fmts : List CellFormat) : xlsxStylesLoop .cellXfs (l ++ rest) defs fmts = xlsxStylesLoop .cellXfs rest defs fmts := by
  refine ListLoops.skip_append (f := fun l => xlsxStylesLoop .cellXfs l defs fmts) (P := fun ev => xfInert ev = true)
    (fun ev rest h => ?_) l rest (List.all_eq_true.mp h)
  cases ev with
  | start n a =>
    simp only [xfInert, bne_iff_ne, ne_eq] at h
    simp only [xlsxStylesLoop, if_neg h]
  | end_ n =>
    simp only [xfInert, bne_iff_ne, ne_eq] at h
    simp only [xlsxStylesLoop, if_neg h]
  | other => simp only [xlsxStylesLoop]

theorem encodeNat_lt (c : Char) : ∀ b ∈ Utf8.encodeNat c.toNat, b < 256 := by
  have hv := Utf8.char_valid c
  intro b hb
  unfold Utf8.encodeNat at hb
  split at hb
  · simp at hb; omega
  · split at hb
    · simp at hb; omega
    · split at hb
      · simp at hb; omega
      · simp at hb; omega

theorem utf8Bytes_toNat (s : List Char) : (utf8Bytes s).map (·.toNat) = Utf8.utf8Encode s := by
  rw [utf8Bytes, List.map_map]
  refine (List.map_congr_left fun b hb => ?_).trans (List.map_id _)
  obtain ⟨c, _, hc⟩ := List.mem_flatMap.mp hb
  exact UInt8.toNat_ofNat_of_lt' (encodeNat_lt c b hc)

/-- the definitions the `<numFmts>` block adds: empty format codes are not recorded -/
def fmtDefs (formats : List (Nat × List Char)) : List (Bytes × List Char) :=
  (formats.filter fun f => !f.2.isEmpty).map fun f => (decimal f.1, f.2)

theorem attr_cons_eq (k : String) (v : Bytes) (rest : List (List Char × Bytes)) :
    attr k ((k.toList, v) :: rest) = some v := by
  simp only [attr, List.find?_cons, beq_self_eq_true]

theorem attr_cons_ne (k : String) (a : List Char × Bytes) (rest : List (List Char × Bytes)) (h : a.1 ≠ k.toList) :
    attr k (a :: rest) = attr k rest := by
  simp only [attr, List.find?_cons, beq_eq_false_iff_ne.mpr h]

theorem attr_pair (k1 k2 : String) (hk : k2.toList ≠ k1.toList) (v1 v2 : Bytes) (first : Bool) :
    attr k1 (if first then [(k1.toList, v1), (k2.toList, v2)] else [(k2.toList, v2), (k1.toList, v1)]) = some v1 ∧
    attr k2 (if first then [(k1.toList, v1), (k2.toList, v2)] else [(k2.toList, v2), (k1.toList, v1)]) = some v2 := by
  cases first
  · exact ⟨(attr_cons_ne _ _ _ hk).trans (attr_cons_eq _ _ _), attr_cons_eq _ _ _⟩
  · exact ⟨attr_cons_eq _ _ _, (attr_cons_ne _ _ _ hk.symm).trans (attr_cons_eq _ _ _)⟩

theorem loop_numFmts_items (pfx : Option (List Char)) (hp : ∀ p, pfx = some p → ':' ∉ p) (idFirst : Bool) (z : Nat) :
    ∀ (formats : List (Nat × List Char)) (rest : List SEv) (defs : List (Bytes × List Char)) (fmts : List CellFormat),
    xlsxStylesLoop .numFmts (formats.flatMap (numFmtEvs pfx idFirst z) ++ rest) defs fmts =
      xlsxStylesLoop .numFmts rest (defs ++ fmtDefs formats) fmts
  | [], rest, defs, fmts => by simp [fmtDefs]
  | f :: formats, rest, defs, fmts => by
    have hn := localName_qn pfx hp "numFmt" (by decide)
    have hne : "numFmt".toList ≠ "numFmts".toList := by decide
    obtain ⟨hid, hcode⟩ := attr_pair "numFmtId" "formatCode" (by decide) (padId z f.1) (utf8Bytes f.2) idFirst
    have hdec : Utf8.utf8Decode ((utf8Bytes f.2).map (·.toNat)) = some f.2 := by
      rw [utf8Bytes_toNat]; exact Utf8.utf8Decode_encode f.2
    rw [List.flatMap_cons, List.append_assoc]
    simp only [numFmtEvs, List.cons_append, List.nil_append]
    simp only [xlsxStylesLoop, hn, if_true, hid, hcode, hdec, Option.getD_some, if_neg hne, formatId_padId]
    rw [loop_numFmts_items pfx hp idFirst z formats rest _ fmts]
    congr 1
    by_cases he : f.2.isEmpty = true
    · simp [fmtDefs, he]
    · simp [fmtDefs, he]

theorem attr_mid (before after : List (List Char × Bytes)) (v : Bytes)
    (hb : ∀ a ∈ before, a.1 ≠ "numFmtId".toList) :
    attr "numFmtId" (before ++ ("numFmtId".toList, v) :: after) = some v :=
  (ListLoops.skip_append (f := attr "numFmtId") (attr_cons_ne _) before _ hb).trans (attr_cons_eq _ _ _)

theorem loop_cellXfs_items (pfx : Option (List Char)) (hp : ∀ p, pfx = some p → ':' ∉ p)
    (before after : List (List Char × Bytes)) (inner : List SEv) (hb : ∀ a ∈ before, a.1 ≠ "numFmtId".toList)
    (hin : inner.all xfInert = true) (defs : List (Bytes × List Char)) (z : Nat)
    (xfs : List Nat) (rest : List SEv) (fmts : List CellFormat) :
    xlsxStylesLoop .cellXfs (xfs.flatMap (xfEvs pfx before after inner z) ++ rest) defs fmts =
      xlsxStylesLoop .cellXfs rest defs (fmts ++ xfs.map fun x => xlsxClass defs (some (decimal x))) := by
  refine ListLoops.pass_items (fun evs fmts => xlsxStylesLoop .cellXfs evs defs fmts) _ _ xfs (fun x _ rest fmts => ?_)
    rest fmts
  have hn := localName_qn pfx hp "xf" (by decide)
  have hne : "xf".toList ≠ "cellXfs".toList := by decide
  simp only [xfEvs, List.cons_append, List.append_assoc]
  simp only [xlsxStylesLoop, hn, if_true, attr_mid before after _ hb, xlsxStyles_eq, List.map_cons, List.map_nil,
    Option.map_some, formatId_padId]
  rw [loop_xf_inert inner hin]
  simp only [List.nil_append, xlsxStylesLoop, hn, if_neg hne]

theorem xlsxStylesLoop_enc (d : StyleDesc) (l : XlsxLayout) (hl : l.WF) :
    xlsxStylesLoop .top (xlsxEncode d l) [] [] =
      .ok (d.xfs.map fun x => xlsxClass (fmtDefs d.formats) (some (decimal x))) := by
  obtain ⟨hp, hpre, hmid, hpost, hin, hb⟩ := hl
  have n1 := localName_qn l.pfx hp "styleSheet" (by decide)
  have n2 := localName_qn l.pfx hp "numFmts" (by decide)
  have n3 := localName_qn l.pfx hp "cellXfs" (by decide)
  have e1 : "styleSheet".toList ≠ "numFmts".toList := by decide
  have e2 : "styleSheet".toList ≠ "cellXfs".toList := by decide
  have e3 : "cellXfs".toList ≠ "numFmts".toList := by decide
  unfold xlsxEncode
  simp only [xlsxStylesLoop, n1, if_neg e1, if_neg e2]
  rw [loop_top_inert l.pre hpre]
  simp only [xlsxStylesLoop, n2, if_true]
  rw [loop_numFmts_items l.pfx hp l.idFirst l.fmtZeros]
  simp only [xlsxStylesLoop, n2, if_true, List.nil_append]
  rw [loop_top_inert l.mid hmid]
  simp only [xlsxStylesLoop, n3, if_neg e3, if_true]
  rw [loop_cellXfs_items l.pfx hp l.xfBefore l.xfAfter l.xfInner hb hin _ l.xfZeros]
  simp only [xlsxStylesLoop, n3, if_true, List.nil_append]
  rw [loop_top_inert l.post hpost]
  simp only [xlsxStylesLoop, n1, if_true]

theorem nextSkip_here (target : Nat) (ht : target < 16384) (tp : Bytes) (htp : tp.length < 268435456) (w : Bool) (lw : Nat)
    (rest : Bytes) (f : Nat) (hf : 0 < f) :
    Xlsb.nextSkipBlocks target [] f [] (Xlsb.frame target tp w lw ++ rest) = .ok (tp.length, tp, rest) :=
  Xlsb.nextSkipBlocks_enc target ht [] tp htp w lw rest [] f [] (fun _ h => nomatch h) hf

/-- the length bound is `StyleDesc.WFb`'s; what the proof needs of it is a payload below 2^28 bytes (`hpl`: 6 + 2·length) -/
theorem xlsbFmtLoop_enc (frs : List Fr) : ∀ (formats : List (Nat × List Char)) (i : Nat) (rest : Bytes)
    (defs : List (Nat × List Char)),
    (∀ f ∈ formats, f.1 < 65536 ∧ (utf16Units f.2).length < 100000000) →
    xlsbFmtLoop formats.length (encFmts formats frs i ++ rest) defs = .ok (defs ++ formats, rest)
  | [], i, rest, defs, _ => by simp [xlsbFmtLoop, encFmts]
  | (id, s) :: formats, i, rest, defs, h => by
    obtain ⟨hid, hlen0⟩ := h (id, s) (by simp)
    have hlen : (utf16Units s).length < 100000000 := hlen0
    have hpl : (brtFmtPayload id s).length < 268435456 := by
      simp [brtFmtPayload, Xlsb.le16, Xlsb.wideBytes, Xlsb.le32, Xlsb.unitsBytes_length]; omega
    simp only [List.length_cons, xlsbFmtLoop, encFmts, List.append_assoc]
    rw [nextSkip_here 0x002C (by decide) _ hpl _ _ _ _ (by omega)]
    simp only
    have h2 : ¬ (brtFmtPayload id s).length < 2 := by simp [brtFmtPayload, Xlsb.le16]
    rw [if_neg h2]
    have hd : (brtFmtPayload id s).drop 2 = Xlsb.wideBytes (utf16Units s) ++ [] := by
      simp [brtFmtPayload, Xlsb.le16]
    rw [hd, Xlsb.wideStr_wideBytes _ (by omega) (utf16Units_lt s)]
    simp only
    have hu : Xlsb.u16le (brtFmtPayload id s) = id := Xlsb.u16le_le16 id hid _
    rw [hu, utf16Decode_units, xlsbFmtLoop_enc frs formats (i + 1) rest _ (fun f hf => h f (by simp [hf]))]
    simp

theorem xlsbXfLoop_enc (frs : List Fr) : ∀ (xfs : List Nat) (i : Nat) (rest : Bytes) (acc : List Nat),
    (∀ x ∈ xfs, x < 65536) → xlsbXfLoop xfs.length (encXfs xfs frs i ++ rest) acc = .ok (acc ++ xfs)
  | [], i, rest, acc, _ => by simp [xlsbXfLoop, encXfs]
  | x :: xfs, i, rest, acc, h => by
    have hx := h x (by simp)
    have hpl : (brtXfPayload x 0xFFFF (List.replicate 12 0)).length < 268435456 := by
      simp [brtXfPayload, Xlsb.le16]
    simp only [List.length_cons, xlsbXfLoop, encXfs, List.append_assoc]
    rw [nextSkip_here 0x002F (by decide) _ hpl _ _ _ _ (by omega)]
    simp only
    have h2 : ¬ (brtXfPayload x 0xFFFF (List.replicate 12 0)).length < 4 := by simp [brtXfPayload, Xlsb.le16]
    rw [if_neg h2]
    have hd : (brtXfPayload x 0xFFFF (List.replicate 12 0)).drop 2 = Xlsb.le16 x ++ List.replicate 12 0 := by
      simp [brtXfPayload, Xlsb.le16]
    rw [hd, Xlsb.u16le_le16 x hx, xlsbXfLoop_enc frs xfs (i + 1) rest _ (fun y hy => h y (by simp [hy]))]
    simp

theorem xlsbLoop_skip : ∀ (recs : List BRec), (∀ r ∈ recs, r.Fits ∧ r.id ≠ 0x0267 ∧ r.id ≠ 0x0269) →
    ∀ (fuel : Nat) (rest : Bytes) (defs : List (Nat × List Char)),
    xlsbStylesLoop (fuel + recs.length) (encRecs recs ++ rest) defs = xlsbStylesLoop fuel rest defs
  | [], _, fuel, rest, defs => by simp [encRecs]
  | r :: recs, h, fuel, rest, defs => by
    obtain ⟨⟨hid, hpl⟩, h1, h2⟩ := h r (by simp)
    have ih := xlsbLoop_skip recs (fun x hx => h x (by simp [hx])) fuel rest defs
    rw [List.length_cons, ← Nat.add_assoc]
    simp only [encRecs, BRec.bytes, List.append_assoc]
    rw [xlsbStylesLoop, Xlsb.readType_frame _ hid]
    simp only
    rw [Xlsb.fillBuffer_frame _ _ hpl]
    simp only
    rw [if_neg h1, if_neg h2]
    exact ih

theorem encRecs_length_ge : ∀ (recs : List BRec), 2 * recs.length ≤ (encRecs recs).length
  | [] => by simp [encRecs]
  | r :: recs => by
    have := encRecs_length_ge recs
    have h2 := Xlsb.frame_length_ge r.id r.payload r.wide r.lenW
    simp only [encRecs, BRec.bytes, List.length_append, List.length_cons]
    omega

theorem xlsbLoop_beginFmts (fuel : Nat) (bs r r' buf : Bytes) (n : Nat) (defs defs' : List (Nat × List Char)) (r'' : Bytes)
    (ht : Xlsb.readType bs = .ok (0x0267, r)) (hf : Xlsb.fillBuffer [] r = .ok (n, buf, r')) (hl : ¬ buf.length < 4)
    (hloop : xlsbFmtLoop (Xlsb.u32le buf) r' defs = .ok (defs', r'')) :
    xlsbStylesLoop (fuel + 1) bs defs = xlsbStylesLoop fuel r'' defs' := by
  simp [xlsbStylesLoop, ht, hf, hl, hloop]

theorem xlsbLoop_beginXfs (fuel : Nat) (bs r r' buf : Bytes) (n : Nat) (defs : List (Nat × List Char)) (xfs : List Nat)
    (ht : Xlsb.readType bs = .ok (0x0269, r)) (hf : Xlsb.fillBuffer [] r = .ok (n, buf, r')) (hl : ¬ buf.length < 4)
    (hloop : xlsbXfLoop (Xlsb.u32le buf) r' [] = .ok xfs) :
    xlsbStylesLoop (fuel + 1) bs defs = .ok (defs, xfs) := by
  simp [xlsbStylesLoop, ht, hf, hl, hloop]

theorem u32le_count (k : Nat) (h : k < 4294967296) : Xlsb.u32le (Xlsb.le32 k) = k := by
  have := Xlsb.u32le_le32 k h []
  rwa [List.append_nil] at this

theorem xlsbStylesLoop_enc (d : StyleDesc) (l : XlsbLayout) (hd : d.WFb) (hl : l.WF) (fuel : Nat)
    (hf : l.pre.length + l.mid.length + 3 ≤ fuel) :
    xlsbStylesLoop fuel (xlsbEncode d l) [] = .ok (d.formats, d.xfs) := by
  obtain ⟨hfm, hxf, hn1, hn2⟩ := hd
  obtain ⟨hpre, hmid⟩ := hl
  -- one unit of budget per record of the outer loop: `pre`, BrtBeginFmts, BrtEndFmts :: `mid`, BrtBeginCellXFs (hence
  -- the `+ 3`), bracketed in the order in which `xlsbLoop_skip` (`fuel + recs.length`) and the `fuel + 1` steps take them off
  obtain ⟨f1, rfl⟩ : ∃ f1, fuel = (f1 + 1 + (l.mid.length + 1) + 1) + l.pre.length := ⟨fuel - (l.pre.length + l.mid.length + 3), by omega⟩
  unfold xlsbEncode
  rw [xlsbLoop_skip l.pre hpre]
  -- BrtBeginFmts
  rw [xlsbLoop_beginFmts _ _ _ _ _ _ [] d.formats _ (Xlsb.readType_frame _ (by decide) _ _ _ _)
    (Xlsb.fillBuffer_frame _ _ (by simp [Xlsb.le32]) _ _) (by simp [Xlsb.le32])
    (by rw [u32le_count _ hn1]; simpa using xlsbFmtLoop_enc l.fmtFr d.formats 0 _ [] hfm)]
  -- BrtEndFmts and the records up to the cell XFs
  have hskip := xlsbLoop_skip (⟨0x0268, [], false, 0⟩ :: l.mid)
    (by
      intro r hr
      rcases List.mem_cons.mp hr with rfl | hr
      · exact ⟨⟨by decide, by simp⟩, by decide, by decide⟩
      · exact hmid r hr)
    (f1 + 1) (Xlsb.frame 0x0269 (Xlsb.le32 d.xfs.length) l.hdrFr.wide l.hdrFr.lenW ++ (encXfs d.xfs l.xfFr 0 ++ l.post)) d.formats
  simp only [encRecs, BRec.bytes, List.length_cons, List.append_assoc] at hskip
  rw [hskip]
  -- BrtBeginCellXFs
  exact xlsbLoop_beginXfs _ _ _ _ _ _ _ _ (Xlsb.readType_frame _ (by decide) _ _ _ _)
    (Xlsb.fillBuffer_frame _ _ (by simp [Xlsb.le32]) _ _) (by simp [Xlsb.le32])
    (by rw [u32le_count _ hn2]; simpa using xlsbXfLoop_enc l.xfFr d.xfs 0 l.post [] hxf)

theorem xlsxStylesLoop_returns : ∀ (evs : List SEv) (mode : SMode) (defs : List (Bytes × List Char)) (fmts : List CellFormat),
    (xlsxStylesLoop mode evs defs fmts).Returns
  | [], mode, _, _ => by cases mode <;> exact .err _
  | ev :: rest, .top, defs, fmts => by
    unfold xlsxStylesLoop
    cases ev with
    | start n a =>
      exact .ite (xlsxStylesLoop_returns rest _ _ _)
        (.ite (xlsxStylesLoop_returns rest _ _ _) (xlsxStylesLoop_returns rest _ _ _))
    | end_ n => exact .ite (.ok _) (xlsxStylesLoop_returns rest _ _ _)
    | other => exact xlsxStylesLoop_returns rest _ _ _
  | ev :: rest, .numFmts, defs, fmts => by
    unfold xlsxStylesLoop
    cases ev with
    | start n a =>
      refine .ite ?_ (xlsxStylesLoop_returns rest _ _ _)
      cases attr "formatCode" a with
      | none => exact xlsxStylesLoop_returns rest _ _ _
      | some code =>
        simp only
        cases Utf8.utf8Decode (code.map (·.toNat)) with
        | none => exact .err _
        | some cs => exact xlsxStylesLoop_returns rest _ _ _
    | end_ n => exact .ite (xlsxStylesLoop_returns rest _ _ _) (xlsxStylesLoop_returns rest _ _ _)
    | other => exact xlsxStylesLoop_returns rest _ _ _
  | ev :: rest, .cellXfs, defs, fmts => by
    unfold xlsxStylesLoop
    cases ev with
    | start n a =>
      refine .ite ?_ (xlsxStylesLoop_returns rest _ _ _)
      rw [xlsxStyles_eq]
      exact xlsxStylesLoop_returns rest _ _ _
    | end_ n => exact .ite (xlsxStylesLoop_returns rest _ _ _) (xlsxStylesLoop_returns rest _ _ _)
    | other => exact xlsxStylesLoop_returns rest _ _ _

end Formats
