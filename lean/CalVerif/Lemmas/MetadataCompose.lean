import CalVerif.Spec.MetadataEnc
import CalVerif.Model.MetadataCompose
import CalVerif.Lemmas.BiffSteps
import CalVerif.Spec.BiffEnc
import CalVerif.Spec.XlsbEnc
import CalVerif.Lemmas.MetadataXls
import CalVerif.Lemmas.MetadataXlsb
import CalVerif.Lemmas.MetadataXml
import CalVerif.Lemmas.XlsxSheet
/-! Lemmas for the hand-over theorems of Props/C16.lean (`date1904_reaches_cells_*`): facts about C03's sheet
    specification (`Xlsb.valueOf`, `Xlsb.specCells`: which flag a `DateTime` carries) and about C02's substream
    (it does not start with a CONTINUE record; the stream splits at the end of the globals); then the hand-over itself
    (`openReadX_encoded`): after opening an encoded workbook, whatever sheet part is handed to the cell reader is read in
    the environment whose date system is the declared one; `openReadXlsx_cell` joins the xlsx one with C01's sheet theorem
    (`range_view_spec`) for one stored cell. -/
open Meta MetaEnc

namespace MetaLemmas

/-- numeric cell content of an xlsb cell record: BrtCellReal / BrtFmlaNum (`real`) or BrtCellRk (`rk`, all four encodings) -/
def xlsbNumeric : Xlsb.Content → Prop
  | .rk _ => True
  | .real _ => True
  | _ => False

/-- In `Xlsb.Ctx.formats` 1 is a date/time format and 2 an elapsed-time format (0 = other); `style % 16777216` is the
    24-bit iStyleRef of the cell record (`Xlsb.cellFormat`). -/
theorem xlsb_styled_date (ctx : Xlsb.Ctx) (style bits : Nat) (h : ctx.formats[style % 16777216]? = some 1 ∨ ctx.formats[style % 16777216]? = some 2) :
    ∃ td, Xlsb.styled ctx style bits = .dateTime bits td ctx.is1904 := by
  rcases h with h | h
  · exact ⟨false, by simp [Xlsb.styled, h]⟩
  · exact ⟨true, by simp [Xlsb.styled, h]⟩

theorem xlsb_valueOf_date (ctx : Xlsb.Ctx) (style : Nat) (c : Xlsb.Content) (hn : xlsbNumeric c)
    (h : ctx.formats[style % 16777216]? = some 1 ∨ ctx.formats[style % 16777216]? = some 2) :
    ∃ bits td, Xlsb.valueOf ctx style c = some (.dateTime bits td ctx.is1904) := by
  cases c with
  | rk w =>
    simp only [Xlsb.valueOf]
    split
    · split
      · obtain ⟨td, e⟩ := xlsb_styled_date ctx style (Xlsb.fdiv100 (Xlsb.i2f (Xlsb.rkIntSpec w))) h
        exact ⟨_, td, by rw [e]⟩
      · obtain ⟨td, e⟩ := xlsb_styled_date ctx style (Xlsb.i2f (Xlsb.rkIntSpec w)) h
        exact ⟨_, td, by rw [e]⟩
    · obtain ⟨td, e⟩ := xlsb_styled_date ctx style _ h
      exact ⟨_, td, by rw [e]⟩
  | real bits =>
    obtain ⟨td, e⟩ := xlsb_styled_date ctx style bits h
    exact ⟨bits, td, by simp [Xlsb.valueOf, e]⟩
  | _ => exact hn.elim

theorem xlsb_styled_flag (ctx : Xlsb.Ctx) (style bits b : Nat) (td f : Bool) (h : Xlsb.styled ctx style bits = .dateTime b td f) :
    f = ctx.is1904 := by
  unfold Xlsb.styled at h
  split at h <;> simp at h <;> simp [h]

theorem xlsb_valueOf_flag (ctx : Xlsb.Ctx) (style : Nat) (c : Xlsb.Content) (b : Nat) (td f : Bool)
    (h : Xlsb.valueOf ctx style c = some (.dateTime b td f)) : f = ctx.is1904 :=
  Xlsb.valueOf_forall ctx style (fun v => ∀ (b : Nat) (td f : Bool), v = .dateTime b td f → f = ctx.is1904)
    (fun bits b td f hv => xlsb_styled_flag ctx style bits b td f hv) (fun _ _ _ _ => nofun) (fun _ _ _ _ => nofun)
    (fun _ _ _ _ => nofun) (fun _ _ _ _ => nofun) c _ h b td f rfl

theorem xlsb_specCells_flag (ctx : Xlsb.Ctx) : ∀ (items : List Xlsb.Item) (row : Nat), ∀ c ∈ Xlsb.specCells ctx items row,
    ∀ (b : Nat) (td f : Bool), c.2.2 = .dateTime b td f → f = ctx.is1904 :=
  Xlsb.specCells_forall ctx (fun v => ∀ (b : Nat) (td f : Bool), v = .dateTime b td f → f = ctx.is1904)
    fun style c _ h b td f hv => xlsb_valueOf_flag ctx style c b td f (hv ▸ h)

theorem encodeGlobals_tail (recs : List GRec) (tail : Bytes) : encodeGlobals recs tail = encodeGlobals recs [] ++ tail := by
  simp [encodeGlobals, List.append_assoc]

theorem notCont_substream (env : BiffCells.Env) (S : List BiffCells.LCell) (lays : List BiffCells.Lay) :
    Biff.notCont (BiffCells.substream env S lays) := by
  rw [BiffCells.substream, List.cons_append, BiffCells.frame_cons]
  exact BiffCells.noCont_frame BiffCells.bofRec _ ⟨by decide, by decide, by decide, rfl⟩

theorem openReadXlsb_encoded (pf : Bytes → List Text → List (Text × Text) → Res Text) (rels : List (Text × String))
    (recs : List WRec) (hall : ∀ r ∈ recs, r.ok rels) (ew : Bool) (el : Nat)
    (nrecs : List NRec) (hok : namesOk pf ((declaredW recs).map (XlsbSheet.decoded rels)) ([], []) nrecs)
    (t : Nat) (ht : isAfterNames t = true) (tw : Bool) (tl : Nat) (rest : Bytes)
    (formats : List Nat) (strings : List (List Nat)) (part : Bytes) :
    openReadXlsb pf rels (encodeWorkbookBin recs ew el (nrecs.flatMap NRec.bytes ++ (Xlsb.frame t [] tw tl ++ rest))) formats strings part =
      Xlsb.decodeSheet ⟨formats, strings, flagW recs⟩ part := by
  unfold openReadXlsb
  rw [XlsbBook.readWorkbookXlsb_encoded pf rels recs hall ew el nrecs hok t ht tw tl rest]
  rfl

theorem openReadXls_encoded (pd : Bytes → Res (Option Nat × Text)) (recs : List GRec) (hall : ∀ r ∈ recs, r.ok pd)
    (tail : Bytes) (htail : Biff.notCont tail) (hoff : ∀ s ∈ declaredSheets recs, s.offset ≤ (encodeGlobals recs tail).length)
    (ops : BiffCells.FOps) (fmts : List CellFormat) (strings : List (List Nat)) :
    openReadXls pd (encodeGlobals recs tail) ops fmts strings (encodeGlobals recs []).length =
      BiffCells.sheetRange ⟨ops, fmts, declared1904 recs, strings⟩ tail := by
  unfold openReadXls
  rw [parseWorkbookXls_encoded pd recs hall tail htail hoff, encodeGlobals_tail recs tail, List.drop_left' rfl]
  rfl

theorem openReadXlsx_encoded (rels : List (String × String)) (q : String → String) (hq : QOk q)
    (ridKey : String) (hk : ridKeyOk ridKey) (pr : Option (List (String × String)))
    (sheets : List XSheet) (hs : ∀ s ∈ sheets, s.ok rels) (names : List (String × List (Bool × String)))
    (ext : Option (List Meta.Ev)) (hext : ∀ body, ext = some body → ExtOk (q "extLst") body) (g : Gaps) (hg : g.ok)
    (cfg : XlsxCells.Cfg) (parse : XlsxCells.Bytes → Option UInt64) (evs : List XlsxCells.Ev) (r c : Nat) :
    openReadXlsx rels (workbookEvents q ridKey pr sheets names ext g) cfg parse evs r c =
      match XlsxCells.worksheetRange cfg evs with
      | .ok rg => XlsxSheet.toData ⟨parse, (pr.map date1904Attr).getD false⟩ (rg.valAt r c)
      | .err e => .err e
      | .panic e => .panic e
      | .outOfFuel => .outOfFuel := by
  unfold openReadXlsx
  rw [readWorkbookXlsx_encoded rels q hq ridKey hk pr sheets hs names ext hext g hg]
  rfl

open XlsxCells XlsxSheet in
theorem openReadXlsx_cell (rels : List (String × String)) (q : String → String) (hq : QOk q)
    (ridKey : String) (hk : ridKeyOk ridKey) (pr : Option (List (String × String)))
    (sheets : List XSheet) (hs : ∀ s ∈ sheets, s.ok rels) (names : List (String × List (Bool × String)))
    (ext : Option (List Meta.Ev)) (hext : ∀ body, ext = some body → ExtOk (q "extLst") body) (g : Gaps) (hg : g.ok)
    (cfg : Cfg) (parse : XlsxCells.Bytes → Option UInt64) (s : Sheet) (lay : Layout) (hl : lay.Legal) (hwf : s.WF)
    (hok : s.ContentOk cfg) (hnum : s.NumOk ⟨parse, (pr.map date1904Attr).getD false⟩)
    (row : RowSpec) (hrow : row ∈ s) (cell : Nat × CellSpec) (hcell : cell ∈ row.2)
    (hne : expectData ⟨parse, (pr.map date1904Attr).getD false⟩ cfg cell.2 ≠ .empty) :
    openReadXlsx rels (workbookEvents q ridKey pr sheets names ext g) cfg parse (renderSheet s lay) row.1 cell.1 =
      .ok (expectData ⟨parse, (pr.map date1904Attr).getD false⟩ cfg cell.2) := by
  have hc : (row.1, cell.1, expectData ⟨parse, (pr.map date1904Attr).getD false⟩ cfg cell.2) ∈
      s.flatMap fun row => row.2.map fun cell => (row.1, cell.1, expectData ⟨parse, (pr.map date1904Attr).getD false⟩ cfg cell.2) :=
    List.mem_flatMap.mpr ⟨row, hrow, List.mem_map.mpr ⟨cell, hcell, rfl⟩⟩
  -- of what `range_view_spec` says of a sheet with a non-empty cell, only the range itself (`hrg`) and its last but one
  -- conjunct are used: every listed cell is seen at its position through the view (`hval`)
  obtain ⟨rg, hrg, _, _, _, _, _, _, hval, _⟩ :=
    (range_view_spec (fun v d => toData ⟨parse, (pr.map date1904Attr).getD false⟩ v = .ok d) .empty
      (expectData ⟨parse, (pr.map date1904Attr).getD false⟩ cfg) cfg s lay hl hwf hok
      (fun row hrow cell hcell => toData_expect _ cfg cell.2 (hnum row hrow cell hcell)) (toData_empty_iff _) rfl).2
      ⟨_, hc, hne⟩
  rw [openReadXlsx_encoded rels q hq ridKey hk pr sheets hs names ext hext g hg, hrg]
  exact hval _ hc

end MetaLemmas
