import CalVerif.Lemmas.XmlTextSteps
import CalVerif.Lemmas.LittleEndian
import CalVerif.Lemmas.DivMod
/-! How the readers of `Model/XmlText` run over the rendered fragments of `Spec/XmlText` (property C19): the steps of
    `Lemmas/XmlTextSteps.lean` composed along each fragment with the `runLoop` lemmas.  All `runSi_…`, `runOds_…`,
    `runCell_…`, `runFmla_…` lemmas here are statements about `runLoop (…Step) …Eof`, not about the model's `runSi`, `runOds`,
    `runCell`, `runFmla`: rewrite with `runSi_eq` / `runOds_eq` / `runCell_eq` / `runFmla_eq` first (the `runSst_…` lemmas
    are about the model's `runSst`).  Besides the fragments the file holds what
    the property theorems need about decimal digits (`decimal_spec`: `text:c`, shared-string indices), xlsb wide strings
    (`unitsOf_units`, `u32le_encode`) and the writer's CDATA cut (`NoCdataEnd`, `cdataSplitAux_…`). -/

namespace XmlText


theorem runSi_t (c : Name) (rich : Option Txt) (t : TElem) (r : List Ev) :
    runLoop (siStep c) siEof (.outer rich false) (t.evs ++ r)
      = runLoop (siStep c) siEof (.inT rich false t.name t.txt) (.end_ t.name :: r) := by
  simp only [TElem.evs, List.cons_append, List.append_assoc, List.nil_append]
  rw [runLoop_cont _ (siStep_start_t c rich (n := t.name) rfl t.attrs), runLoop_chunks (SiMode.inT rich false t.name) (siStep_chunk c rich false t.name)]
  rfl

theorem runSi_item (c : Name) (hr : c.loc ≠ "r") (hp : c.loc ≠ "rPh") (rich : Option Txt) (it : RunItem) (r : List Ev)
    (h : it.wf c = true) :
    runLoop (siStep c) siEof (.outer rich false) (it.evs ++ r)
      = runLoop (siStep c) siEof (.outer (if it.isRun then some (rich.getD [] ++ it.txt) else rich) false) r := by
  cases it with
  | run p props t tail =>
    simp only [RunItem.wf, Bool.decide_and, Bool.decide_eq_true, Bool.and_eq_true] at h
    have h3 : inertEv c (.end_ ⟨p, "r"⟩) = true := decide_eq_true ⟨fun e => hr (e ▸ rfl), (by decide : "r" ≠ "rPh")⟩
    simp only [RunItem.evs, List.cons_append, List.append_assoc, List.nil_append]
    rw [runLoop_cont _ (siStep_start_r ..), runLoop_stay (fun _ => siStep_inert _) h.1, runSi_t,
      runLoop_cont _ (siStep_end_t_rich ..),
      runLoop_stay (fun _ => siStep_inert _) h.2, runLoop_cont _ (siStep_inert _ h3)]
    rfl
  | phonetic p a content =>
    have hne : (⟨p, "rPh"⟩ : Name) ≠ c := fun e => hp (e ▸ rfl)
    simp only [RunItem.evs, List.cons_append, List.append_assoc, List.nil_append]
    rw [runLoop_cont _ (siStep_start_rPh ..), runLoop_stay (fun _ => siStep_phInert _) h,
      runLoop_cont _ (siStep_end_rPh rich true hne)]
    rfl
  | inert evs =>
    exact runLoop_stay (fun _ => siStep_inert _) h r

theorem txt_of_no_run (items : List RunItem) (h : items.any RunItem.isRun = false) :
    (items.map RunItem.txt).flatten = [] := by
  induction items with
  | nil => rfl
  | cons it is ih =>
    rw [List.any_cons, Bool.or_eq_false_iff] at h
    cases it with
    | run => cases h.1
    | phonetic | inert => exact ih h.2

theorem runSi_items (c : Name) (hr : c.loc ≠ "r") (hp : c.loc ≠ "rPh") (items : List RunItem) (rich : Option Txt) (r : List Ev)
    (h : items.all (RunItem.wf c) = true) :
    runLoop (siStep c) siEof (.outer rich false) ((items.map RunItem.evs).flatten ++ r)
      = runLoop (siStep c) siEof
          (.outer (if items.any RunItem.isRun then some (rich.getD [] ++ (items.map RunItem.txt).flatten) else rich) false) r := by
  induction items generalizing rich with
  | nil => rfl
  | cons it is ih =>
    rw [List.all_cons, Bool.and_eq_true] at h
    rw [List.map_cons, List.flatten_cons, List.append_assoc, runSi_item c hr hp rich it _ h.1, ih _ h.2]
    cases it with
    | run p props t tail =>
      simp only [List.any_cons, RunItem.isRun, Bool.true_or, if_true, RunItem.txt, Option.getD_some, List.map_cons,
        List.flatten_cons, List.append_assoc]
      split
      · rfl
      · rename_i hany
        rw [txt_of_no_run is (Bool.not_eq_true _ ▸ hany), List.append_nil]
    | phonetic | inert => rfl

theorem resultOf_getD (f : StringForm) : (resultOf f).getD [] = textOf f := by
  cases f with
  | plain lead t trail => rfl
  | rich items =>
    simp only [resultOf, textOf]
    split
    · rfl
    · rename_i h
      exact (txt_of_no_run items (Bool.not_eq_true _ ▸ h)).symm

theorem runSi_form (c : Name) (f : StringForm) (r : List Ev) (h : f.wf c = true) :
    runLoop (siStep c) siEof (.outer none false) (renderSi c f ++ r) = .ok (resultOf f, r) := by
  cases f with
  | plain lead t trail =>
    simp only [StringForm.wf, Bool.decide_and, Bool.decide_eq_true, Bool.and_eq_true] at h
    simp only [renderSi, List.append_assoc, List.cons_append, List.nil_append]
    rw [runLoop_stay (fun _ => siStep_inert _) h.1, runSi_t, runLoop_cont _ (siStep_end_t_plain ..),
      runLoop_stay (fun _ => siStep_noClosing 0 t.txt) h.2, runLoop_done _ (siStep_skip_end ..)]
    rfl
  | rich items =>
    simp only [StringForm.wf, Bool.decide_and, Bool.decide_eq_true, Bool.and_eq_true, decide_eq_true_eq] at h
    obtain ⟨h1, hr, _, hp⟩ := h
    rw [renderSi, List.append_assoc, runSi_items c hr hp items none _ h1, List.cons_append, List.nil_append,
      runLoop_done _ (siStep_end_closing ..)]
    rfl

theorem runSst_gap (acc : List Txt) (evs r : List Ev) (h : evs.all gapEv = true) :
    runSst .top acc (evs ++ r) = runSst .top acc r :=
  ListLoops.skip_append (f := runSst .top acc) (fun _ rest he => runSst_skip acc rest he) evs r (List.all_eq_true.mp h)

theorem runSst_item (it : SstItem) (h : it.wf = true) (r : List Ev) (acc : List Txt) :
    runSst .top acc (it.evs ++ r) = runSst .top (acc ++ [textOf it.form]) r := by
  simp only [SstItem.wf, Bool.decide_and, Bool.decide_eq_true, Bool.and_eq_true] at h
  rw [SstItem.evs, List.append_assoc, runSst_gap _ _ _ h.1, List.cons_append, runSst_start_si acc (n := it.name) rfl,
    runSst_inSi, runSi_form _ _ r h.2, ← resultOf_getD]

theorem runSst_items (items : List SstItem) (acc : List Txt) (r : List Ev) (h : items.all SstItem.wf = true) :
    runSst .top acc ((items.map SstItem.evs).flatten ++ r) = runSst .top (acc ++ items.map (fun it => textOf it.form)) r :=
  ListLoops.pass_items (fun evs acc => runSst .top acc evs) SstItem.evs (fun it => textOf it.form) items
    (fun it hit => runSst_item it (List.all_eq_true.mp h it hit)) r acc

theorem digit_toNat (k : Nat) (h : k < 10) : (UInt8.ofNat (48 + k)).toNat = 48 + k := by
  rw [UInt8.toNat_ofNat']
  exact Nat.mod_eq_of_lt (by omega)

theorem isDigit_digit (k : Nat) (h : k < 10) : isDigit (UInt8.ofNat (48 + k)) = true := by
  rw [isDigit, digit_toNat k h]
  exact decide_eq_true ⟨Nat.le_add_right 48 k, Nat.add_le_add_left (Nat.le_of_lt_succ h) 48⟩

theorem decimal_spec (n : Nat) : digitsVal (decimal n) = n ∧ (decimal n).all isDigit = true ∧ decimal n ≠ [] := by
  obtain ⟨h1, h2, h3⟩ := DivMod.print_spec (r := 10) (by decide) (d := fun k => UInt8.ofNat (48 + k))
    (v := fun b => b.toNat - 48) (P := fun b => isDigit b = true) (print := decimal)
    (fun k hk => ⟨by rw [digit_toNat k hk, Nat.add_sub_cancel_left], isDigit_digit k hk⟩) (fun n => by rw [decimal]) n
  exact ⟨h1, List.all_eq_true.mpr h2, h3⟩

theorem parseI32_decimal (n : Nat) (h : n < 2147483648) : parseI32 (decimal n) = some (n : Int) := by
  obtain ⟨hv, hd, hne⟩ := decimal_spec n
  have hsign : ∀ d ds, decimal n = d :: ds → d ≠ 43 ∧ d ≠ 45 := by
    intro d ds hl
    rw [hl, List.all_cons, Bool.and_eq_true] at hd
    constructor <;> (intro e; rw [e] at hd; exact absurd hd.1 (by decide))
  have hs : stripPlus (decimal n) = decimal n := by
    unfold stripPlus
    split
    · rename_i heq; exact absurd rfl (hsign _ _ heq).1
    · rfl
  unfold parseI32
  split
  · rename_i heq; exact absurd rfl (hsign _ _ heq).2
  · simp only [hs, hv, hd, hne, h, ne_eq, not_false_eq_true, and_self, if_true]

theorem atoiUsize_decimal (n : Nat) (h : n < 18446744073709551616) : atoiUsize (decimal n) = some n := by
  obtain ⟨hv, hd, hne⟩ := decimal_spec n
  simp only [atoiUsize, hv, hd, hne, h, ne_eq, not_false_eq_true, and_self, if_true]

theorem runOds_piece (s : Txt) (pc : Piece) (r : List Ev) (h : pc.wf = true) :
    runLoop odsStep odsEof (.normal s false) (pc.evs ++ r) = runLoop odsStep odsEof (.normal (s ++ pc.txt) false) r := by
  have hend : ∀ s, odsStep (.normal s false) (.end_ textS) = .cont (.normal s false) :=
    fun s => odsStep_mark s false _ (by decide)
  cases pc with
  | lit c => exact runLoop_cont _ (odsStep_chunk s false c)
  | spaces n =>
    have hc : getAttr "text:c" [("text:c", decimal n)] = some (decimal n) := by rw [getAttr, if_pos rfl]
    exact (runLoop_cont _ (odsStep_spaces s false hc (parseI32_decimal n (of_decide_eq_true h)))).trans
      (runLoop_cont _ (hend _))
  | space1 =>
    exact (runLoop_cont _ (odsStep_space1 s false rfl)).trans (runLoop_cont _ (hend _))
  | mark e =>
    rw [Piece.txt, List.append_nil]
    exact runLoop_cont _ (odsStep_mark s false e h)

theorem runOds_pieces (ps : List Piece) (s : Txt) (r : List Ev) (h : ps.all Piece.wf = true) :
    runLoop odsStep odsEof (.normal s false) ((ps.map Piece.evs).flatten ++ r)
      = runLoop odsStep odsEof (.normal (s ++ (ps.map Piece.txt).flatten) false) r := by
  induction ps generalizing s with
  | nil => simp only [List.map_nil, List.flatten_nil, List.nil_append, List.append_nil]
  | cons p ps ih =>
    rw [List.all_cons, Bool.and_eq_true] at h
    rw [List.map_cons, List.flatten_cons, List.append_assoc, runOds_piece s p _ h.1, ih _ h.2, List.append_assoc]
    rfl

theorem runOds_para (p : Para) (s : Txt) (first : Bool) (r : List Ev) (h : p.wf = true) :
    runLoop odsStep odsEof (.normal s first) (p.evs ++ r)
      = runLoop odsStep odsEof (.normal ((if first then s else s ++ [10]) ++ p.txt) false) r := by
  simp only [Para.evs, List.cons_append, List.append_assoc, List.nil_append]
  rw [runLoop_cont _ (odsStep_start_p s first p.attrs), runOds_pieces _ _ _ h, runLoop_cont _ (odsStep_mark _ false (.end_ textP) (by decide))]
  rfl

theorem runOds_annot (content : List Ev) (s : Txt) (first : Bool) (r : List Ev) (h : annotWf content = true) :
    runLoop odsStep odsEof (.normal s first) (annotEvs content ++ r) = runLoop odsStep odsEof (.normal s first) r := by
  simp only [annotEvs, List.cons_append, List.append_assoc, List.nil_append]
  rw [runLoop_cont _ (odsStep_start_annot s first []), runLoop_stay (fun _ => odsStep_annot s first) h,
    runLoop_cont _ (odsStep_end_annot s first)]

theorem runOds_paras_tail (ps : List Para) (s : Txt) (r : List Ev) (h : ps.all Para.wf = true) :
    runLoop odsStep odsEof (.normal s false) ((ps.map Para.evs).flatten ++ r)
      = runLoop odsStep odsEof (.normal (s ++ (ps.map (fun p => 10 :: p.txt)).flatten) false) r := by
  induction ps generalizing s with
  | nil => simp only [List.map_nil, List.flatten_nil, List.nil_append, List.append_nil]
  | cons p ps ih =>
    rw [List.all_cons, Bool.and_eq_true] at h
    rw [List.map_cons, List.flatten_cons, List.append_assoc, runOds_para p s false _ h.1, ih _ h.2]
    simp only [Bool.false_eq_true, if_false, List.map_cons, List.flatten_cons, List.append_assoc, List.cons_append,
      List.nil_append]

theorem intercalate_cons (a : Txt) (l : List Txt) :
    List.intercalate [10] (a :: l) = a ++ (l.map (fun p => 10 :: p)).flatten := by
  induction l generalizing a with
  | nil => rfl
  | cons b l ih =>
    show a ++ ([10] ++ List.intercalate [10] (b :: l)) = _
    rw [ih b]
    rfl

theorem unitsOf_units (us : List UInt16) (r : List UInt8) :
    unitsOf (((us.map unitBytes).flatten ++ r).take (us.length * 2)) = us := by
  induction us with
  | nil => rfl
  | cons u us ih =>
    have hu : UInt16.ofNat ((UInt8.ofNat (u.toNat % 256)).toNat + 256 * (UInt8.ofNat (u.toNat / 256)).toNat) = u := by
      rw [← UInt8.ofNat_mod_size' (x := u.toNat / 256), LittleEndian.bytes2, Nat.mod_eq_of_lt u.toNat_lt]
      exact UInt16.ofNat_toNat
    rw [List.length_cons, Nat.succ_mul]
    show unitsOf ((UInt8.ofNat (u.toNat % 256) :: UInt8.ofNat (u.toNat / 256) :: ((us.map unitBytes).flatten ++ r)).take
      (us.length * 2 + 1 + 1)) = _
    rw [List.take_succ_cons, List.take_succ_cons, unitsOf, ih, hu]

theorem u32le_encode (n : Nat) (h : n < 4294967296) :
    u32le (UInt8.ofNat (n % 256)) (UInt8.ofNat (n / 256 % 256)) (UInt8.ofNat (n / 65536 % 256))
      (UInt8.ofNat (n / 16777216 % 256)) = n :=
  (LittleEndian.bytes4 n).trans (Nat.mod_eq_of_lt h)

theorem runCell_inIs (t : Option String) (ss : List Txt) (c : Name) (m : SiMode) (evs : List Ev) :
    runLoop (cellStep t ss) cellEof (.inIs c m) evs =
      match runLoop (siStep c) siEof m evs with
      | .ok (v, rest) => runLoop (cellStep t ss) cellEof (.inC (CellVal.ofOpt v)) rest
      | .err x => .err x
      | .panic x => .panic x
      | .outOfFuel => .outOfFuel := by
  induction evs generalizing m with
  | nil => rfl
  | cons e es ih =>
    rw [runLoop, runLoop, cellStep_inIs]
    cases siStep c m e with
    | cont m' => exact ih m'
    | _ => rfl

/-- a `<v>` element as the last child of the cell: the cell is what `readV` makes of its character data -/
theorem runCell_v (t : Option String) (ss : List Txt) (val : CellVal) (vp cp : Option String) (cs : List Chunk) (r : List Ev)
    {v : CellVal} (h : readV t ss (chunksText cs) = .cont (.inC v)) :
    runLoop (cellStep t ss) cellEof (.inC val) (.start ⟨vp, "v"⟩ [] :: (chunksEvs cs ++ .end_ ⟨vp, "v"⟩ :: .end_ ⟨cp, "c"⟩ :: r))
      = .ok (v, r) := by
  rw [runLoop_cont _ (cellStep_start_v t ss val vp []), runLoop_chunks (CellMode.inV ⟨vp, "v"⟩) (cellStep_chunk t ss ⟨vp, "v"⟩),
    List.nil_append, runLoop_cont _ ((cellStep_end_v ..).trans h), runLoop_done _ (cellStep_end_c ..)]

theorem runCell_f (t : Option String) (ss : List Txt) (val : CellVal) (fn : Name) (hf : fn.loc = "f") (fa : List (String × Txt))
    (body r : List Ev) (h : body.all (noClosing fn) = true) :
    runLoop (cellStep t ss) cellEof (.inC val) (.start fn fa :: (body ++ .end_ fn :: r))
      = runLoop (cellStep t ss) cellEof (.inC .empty) r := by
  rw [runLoop_cont _ (cellStep_start_f t ss val hf fa), runLoop_stay (fun _ => cellStep_noClosing t ss) h,
    runLoop_cont _ (cellStep_end_f t ss fn)]

theorem runFmla_f (val : Option Txt) (fp : Option String) (fa : List (String × Txt)) (cs : List Chunk) (r : List Ev) :
    runLoop fmlaStep fmlaEof (.inC val) (.start ⟨fp, "f"⟩ fa :: (chunksEvs cs ++ .end_ ⟨fp, "f"⟩ :: r))
      = runLoop fmlaStep fmlaEof (.inC (some (chunksText cs))) r := by
  rw [runLoop_cont _ (fmlaStep_start_f val fp fa), runLoop_chunks (FmlaMode.inF ⟨fp, "f"⟩ · val) (fmlaStep_chunk ⟨fp, "f"⟩ val),
    List.nil_append, runLoop_cont _ (fmlaStep_end_f ..)]

theorem runFmla_skip (val : Option Txt) (n : Name) (hn : n.loc = "is" ∨ n.loc = "v") (a : List (String × Txt))
    (body r : List Ev) (h : body.all (noClosing n) = true) :
    runLoop fmlaStep fmlaEof (.inC val) (.start n a :: (body ++ .end_ n :: r)) = runLoop fmlaStep fmlaEof (.inC val) r := by
  rw [runLoop_cont _ (fmlaStep_start_skip val hn a), runLoop_stay (fun _ => fmlaStep_noClosing val) h,
    runLoop_cont _ (fmlaStep_end_skip n val)]

/-- a text that does not contain the CDATA terminator `]]>` -/
def NoCdataEnd (l : Txt) : Prop := ∀ a b : Txt, l ≠ a ++ [93, 93, 62] ++ b

theorem noCdataEnd_snoc (cur : Txt) (c : UInt8) (h : NoCdataEnd cur) (hc : ¬ (c = 62 ∧ endsBrackets cur = true)) :
    NoCdataEnd (cur ++ [c]) := by
  intro a b heq
  rcases List.eq_nil_or_concat b with rfl | ⟨b', d, rfl⟩
  · have h1 : cur ++ [c] = (a ++ [93, 93]) ++ [62] := by simpa using heq
    have h2 := List.append_inj' h1 rfl
    apply hc
    refine ⟨by simpa using h2.2, ?_⟩
    rw [h2.1]
    simp [endsBrackets]
  · have h1 : cur ++ [c] = (a ++ [93, 93, 62] ++ b') ++ [d] := by simpa [List.concat_eq_append, List.append_assoc] using heq
    have h2 := List.append_inj' h1 rfl
    exact h a b' h2.1

theorem noCdataEnd_short (l : Txt) (h : l.length < 3) : NoCdataEnd l := by
  intro a b heq
  have := congrArg List.length heq
  simp at this
  omega

theorem cdataSplitAux_flatten (s cur : Txt) : (cdataSplitAux s cur).flatten = cur ++ s := by
  induction s generalizing cur with
  | nil => simp only [cdataSplitAux]; split <;> simp_all
  | cons c r ih =>
    simp only [cdataSplitAux]
    split
    · simp [ih]
    · simp [ih, List.append_assoc]

theorem cdataSplitAux_noEnd (s cur : Txt) (h : NoCdataEnd cur) : ∀ sec ∈ cdataSplitAux s cur, NoCdataEnd sec := by
  induction s generalizing cur with
  | nil =>
    intro sec hsec
    simp only [cdataSplitAux] at hsec
    split at hsec
    · cases hsec
    · simp at hsec; subst hsec; exact h
  | cons c r ih =>
    intro sec hsec
    simp only [cdataSplitAux] at hsec
    split at hsec
    · rcases List.mem_cons.mp hsec with rfl | hm
      · exact h
      · exact ih [c] (noCdataEnd_short _ (by simp)) sec hm
    · rename_i hc
      exact ih (cur ++ [c]) (noCdataEnd_snoc cur c h hc) sec hsec

theorem chunksText_cdata (l : List Txt) : chunksText (l.map Chunk.cdata) = l.flatten := by
  induction l with
  | nil => rfl
  | cons a l ih => simp_all [chunksText, Chunk.txt]

end XmlText
