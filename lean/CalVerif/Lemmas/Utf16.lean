/-! UTF-16 once, over natural numbers: the code units of a text of scalar values, the decoder of `encoding_rs` (an unpaired
    surrogate becomes U+FFFD), their round trip, and both carried over to `List Char`. Every format's writer has its own
    copy of `units` and every model its own copy of `decode`; each is shown equal to these next to its first use. -/
namespace Utf16

def Scalar (c : Nat) : Prop := c < 0xD800 ∨ (0xE000 ≤ c ∧ c < 0x110000)

def units : List Nat → List Nat
  | [] => []
  | c :: cs =>
    if c < 0x10000 then c :: units cs
    else (0xD800 + (c - 0x10000) / 0x400) :: (0xDC00 + (c - 0x10000) % 0x400) :: units cs

def decode : List Nat → List Nat
  | [] => []
  | [u] => if 0xD800 ≤ u ∧ u < 0xE000 then [0xFFFD] else [u]
  | u :: v :: rest =>
    if 0xD800 ≤ u ∧ u < 0xDC00 then
      if 0xDC00 ≤ v ∧ v < 0xE000 then (0x10000 + (u - 0xD800) * 0x400 + (v - 0xDC00)) :: decode rest
      else 0xFFFD :: decode (v :: rest)
    else if 0xDC00 ≤ u ∧ u < 0xE000 then 0xFFFD :: decode (v :: rest)
    else u :: decode (v :: rest)

theorem decode_bmp (u : Nat) (t : List Nat) (h : ¬ (0xD800 ≤ u ∧ u < 0xE000)) : decode (u :: t) = u :: decode t := by
  cases t with
  | nil => exact if_neg h
  | cons v r => rw [decode, if_neg fun h' => h ⟨h'.1, by omega⟩, if_neg fun h' => h ⟨by omega, h'.2⟩]

theorem decode_pair (u v : Nat) (t : List Nat) (hu : 0xD800 ≤ u ∧ u < 0xDC00) (hv : 0xDC00 ≤ v ∧ v < 0xE000) :
    decode (u :: v :: t) = (0x10000 + (u - 0xD800) * 0x400 + (v - 0xDC00)) :: decode t := by
  rw [decode, if_pos hu, if_pos hv]

theorem astral (c : Nat) (h : Scalar c) (hc : ¬ c < 0x10000) :
    (c - 0x10000) / 0x400 < 0x400 ∧ (c - 0x10000) % 0x400 < 0x400 ∧
      0x10000 + (c - 0x10000) / 0x400 * 0x400 + (c - 0x10000) % 0x400 = c := by
  have h2 : c < 0x110000 := by unfold Scalar at h; omega
  refine ⟨Nat.div_lt_of_lt_mul (by omega), Nat.mod_lt _ (by decide), ?_⟩
  rw [Nat.add_assoc, Nat.div_add_mod', Nat.add_sub_cancel' (Nat.le_of_not_lt hc)]

theorem decode_units (cs t : List Nat) (h : ∀ c ∈ cs, Scalar c) : decode (units cs ++ t) = cs ++ decode t := by
  induction cs with
  | nil => rfl
  | cons c cs ih =>
    have hc : c < 0xD800 ∨ (0xE000 ≤ c ∧ c < 0x110000) := h c List.mem_cons_self
    rw [units]
    split
    · rw [List.cons_append, decode_bmp c _ (by omega), ih fun x hx => h x (List.mem_cons_of_mem _ hx)]; rfl
    · next hlt =>
      obtain ⟨hq, hr, he⟩ := astral c hc hlt
      rw [List.cons_append, List.cons_append,
        decode_pair _ _ _ ⟨Nat.le_add_right _ _, Nat.add_lt_add_left hq _⟩
          ⟨Nat.le_add_right _ _, Nat.add_lt_add_left hr _⟩,
        ih fun x hx => h x (List.mem_cons_of_mem _ hx), Nat.add_sub_cancel_left, Nat.add_sub_cancel_left, he]; rfl

theorem decode_units_self (cs : List Nat) (h : ∀ c ∈ cs, Scalar c) : decode (units cs) = cs := by
  have := decode_units cs [] h
  rwa [List.append_nil, decode, List.append_nil] at this

theorem units_lt (cs : List Nat) (h : ∀ c ∈ cs, Scalar c) : ∀ u ∈ units cs, u < 65536 := by
  induction cs with
  | nil => nofun
  | cons c cs ih =>
    have ih := ih fun x hx => h x (List.mem_cons_of_mem _ hx)
    intro u hu
    rw [units] at hu
    split at hu
    · rcases List.mem_cons.mp hu with rfl | hu
      · assumption
      · exact ih u hu
    · next hlt =>
      obtain ⟨hq, hr, _⟩ := astral c (h c List.mem_cons_self) hlt
      rcases List.mem_cons.mp hu with e | hu
      · exact e ▸ Nat.lt_trans (Nat.add_lt_add_left hq _) (by decide)
      · rcases List.mem_cons.mp hu with e | hu
        · exact e ▸ Nat.lt_trans (Nat.add_lt_add_left hr _) (by decide)
        · exact ih u hu

def charUnits (s : List Char) : List Nat := units (s.map Char.toNat)

def decodeChars (us : List Nat) : List Char := (decode us).map Char.ofNat

theorem scalar_toNat (s : List Char) : ∀ c ∈ s.map Char.toNat, Scalar c := by
  intro c hc
  obtain ⟨ch, _, rfl⟩ := List.mem_map.mp hc
  exact ch.valid

theorem map_ofNat_toNat (s : List Char) : (s.map Char.toNat).map Char.ofNat = s := by
  induction s with
  | nil => rfl
  | cons c s ih => rw [List.map_cons, List.map_cons, ih, Char.ofNat_toNat]

theorem decodeChars_bmp (u : Nat) (t : List Nat) (h : ¬ (0xD800 ≤ u ∧ u < 0xE000)) :
    decodeChars (u :: t) = Char.ofNat u :: decodeChars t := by
  rw [decodeChars, decode_bmp u t h]; rfl

theorem decodeChars_charUnits (s : List Char) (t : List Nat) : decodeChars (charUnits s ++ t) = s ++ decodeChars t := by
  rw [decodeChars, charUnits, decode_units _ t (scalar_toNat s), List.map_append, map_ofNat_toNat]; rfl

theorem decodeChars_charUnits_self (s : List Char) : decodeChars (charUnits s) = s := by
  rw [decodeChars, charUnits, decode_units_self _ (scalar_toNat s), map_ofNat_toNat]

theorem charUnits_lt (s : List Char) : ∀ u ∈ charUnits s, u < 65536 := units_lt _ (scalar_toNat s)

end Utf16
