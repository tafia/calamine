import CalVerif.Model.XlsbFormula
import CalVerif.Spec.XlsbFormulaEnc
import CalVerif.Lemmas.Xlsb
import CalVerif.Lemmas.PtgPanics
import CalVerif.Lemmas.PtgXlsb
/-! The xlsb formula cells of C14: `readFormulas` / `sheetFormulas` return on arbitrary bytes; `finterpret` on the
    four formula records the encoder writes; the round trip of a described worksheet part (`sheetFormulas_enc`). -/

namespace XlsbFormula
open Xlsb Formula

theorem formulaRgce_cases (buf : Bytes) (off : Option Nat) :
    (∃ rg, formulaRgce buf off = .ok rg) ∨ (∃ e, formulaRgce buf off = .err e) := by
  show (formulaRgce buf off).Returns
  unfold formulaRgce
  cases off with
  | none => exact .err _
  | some o => exact .ite (.err _) (.ite (.err _) (.ite (.err _) (.ok _)))

theorem readFormulas_returns (ctx : Ptg.Ctx) : ∀ (f : Nat) (bs : Bytes) (row : Nat), bs.length < f →
    (readFormulas ctx f bs row).Returns
  | f+1, bs, row, hf => by
    rw [readFormulas]
    refine (readRecord_returnsWith bs).elim (fun ⟨t, p, rest⟩ h1 => ?_) fun _ => .err _
    dsimp only at h1 ⊢
    have ih := (readFormulas_returns ctx f rest · (by omega))
    cases finterpret t p with
    | cell rgce =>
      dsimp only
      refine (parseFormulaXlsb_returns ctx rgce).elim (fun text => ?_) fun _ => .err _
      dsimp only
      exact (ih row).elim (fun _ => .ok _) fun _ => .err _
    | row r => exact .ite (.ok _) (ih r)
    | stop => exact .ok _
    | skip => exact ih row
    | fail e => exact .err _

theorem sheetFormulas_returns (ctx : Ptg.Ctx) (bs : Bytes) : (sheetFormulas ctx bs).Returns := by
  unfold sheetFormulas
  refine (newReader_returnsWith bs).elim (fun ⟨dims, rest⟩ h1 => ?_) fun _ => .err _
  dsimp only [dimLen] at h1 ⊢
  exact (readFormulas_returns ctx _ rest 0 (Nat.lt_succ_of_le h1)).elim (fun _ => .ok _) fun _ => .err _

/-- what the round-trip theorem requires of an item (`nSheets` = length of the extern-sheet table). 268435456 = 2^28
    and 16384 = 2^14 are what a record length (four 7-bit bytes) and a record id (two) can carry (`readRecord_frame`);
    a row above 0x100000 ends the sheet in `next_formula` -/
def FItem.OK (nSheets : Nat) : FItem → Prop
  | .row r tail => r ≤ 0x100000 ∧ 4 + tail.length < 268435456
  | .raw id p => id < 16384 ∧ interpretedId id = false ∧ p.length < 268435456
  | .plain col _ content => col < 4294967296 ∧ content.WF ∧ 8 + content.bytes.length < 268435456
  | .fcell col style content flags e rgcb =>
    col < 4294967296 ∧ content.WF ∧ content.hasFmla = true ∧ e.arityOk ∧
    (∀ t ∈ toRpn e, t.wf false ∧ t.sheetOk nSheets) ∧ rgcb.length < 4294967296 ∧
    (CellRec.payload ⟨col, style, content, some (fmlaBytes flags (encodeXlsb (toRpn e)) rgcb)⟩).length < 268435456


theorem le16_length (n : Nat) : (Xlsb.le16 n).length = 2 := rfl

theorem formulaRgce_enc (pre rgce rgcb : Bytes) (h : rgce.length < 4294967296) :
    formulaRgce (pre ++ (Xlsb.le32 rgce.length ++ (rgce ++ (Xlsb.le32 rgcb.length ++ rgcb)))) (some pre.length) = .ok rgce := by
  unfold formulaRgce
  simp only
  rw [if_neg (by simp), List.drop_left' rfl]
  rw [if_neg (by simp [le32_length]), u32le_le32 _ h]
  rw [if_neg (by simp [le32_length]; omega)]
  have : (Xlsb.le32 rgce.length ++ (rgce ++ (Xlsb.le32 rgcb.length ++ rgcb))).drop 4 = rgce ++ (Xlsb.le32 rgcb.length ++ rgcb) :=
    List.drop_left' (le32_length _)
  rw [this, List.take_left' rfl]

theorem finterpret_fcell (col style : Nat) (content : Content) (flags : Nat) (rgce rgcb : Bytes)
    (hcol : col < 4294967296) (hwf : content.WF) (hf : content.hasFmla = true) (hlen : rgce.length < 4294967296) :
    let c : CellRec := ⟨col, style, content, some (fmlaBytes flags rgce rgcb)⟩
    finterpret c.recId c.payload = .cell rgce ∧ u32le c.payload = col ∧ (8 ≤ c.recId ∧ c.recId ≤ 11) := by
  intro c
  have hpay : c.payload = cellHead col style ++ content.bytes ++ fmlaBytes flags rgce rgcb := by
    simp [c, CellRec.payload, hf]
  refine ⟨?_, by rw [hpay, List.append_assoc]; exact u32le_cellHead col style hcol _, ?_⟩
  · -- whatever the cached value, the CellParsedFormula starts right after Cell, value and `grbitFlags`
    have hshape : c.payload = (cellHead col style ++ content.bytes ++ Xlsb.le16 flags) ++
        (Xlsb.le32 rgce.length ++ (rgce ++ (Xlsb.le32 rgcb.length ++ rgcb))) := by
      rw [hpay]; simp [fmlaBytes, List.append_assoc]
    have hrg := formulaRgce_enc (cellHead col style ++ content.bytes ++ Xlsb.le16 flags) rgce rgcb hlen
    rw [hshape]
    cases content with
    | blank => simp [Content.hasFmla] at hf
    | rk w => simp [Content.hasFmla] at hf
    | isst i => simp [Content.hasFmla] at hf
    | err code =>
      have h11 : formulaRgce _ (some 11) = .ok rgce := hrg
      show finterpret 11 _ = _
      unfold finterpret
      rw [if_neg (by decide), if_neg (by decide), if_pos (by decide), h11]
    | bool b =>
      have h11 : formulaRgce _ (some 11) = .ok rgce := hrg
      show finterpret 10 _ = _
      unfold finterpret
      rw [if_neg (by decide), if_neg (by decide), if_pos (by decide), h11]
    | real bits =>
      have h18 : formulaRgce _ (some 18) = .ok rgce := hrg
      show finterpret 9 _ = _
      unfold finterpret
      rw [if_neg (by decide), if_pos (by decide), h18]
    | str us =>
      simp only [Content.bytes] at hrg ⊢
      generalize hT : Xlsb.le32 rgce.length ++ (rgce ++ (Xlsb.le32 rgcb.length ++ rgcb)) = tail at hrg ⊢
      have hl : (cellHead col style ++ wideBytes us ++ Xlsb.le16 flags).length = 2 * us.length + 14 := by
        simp [wideBytes, cellHead_length, le32_length, unitsBytes_length, le16_length]; omega
      have hcch : u32le ((cellHead col style ++ wideBytes us ++ Xlsb.le16 flags ++ tail).drop 8) = us.length := by
        have : (cellHead col style ++ wideBytes us ++ Xlsb.le16 flags ++ tail).drop 8 =
            Xlsb.le32 us.length ++ (unitsBytes us ++ (Xlsb.le16 flags ++ tail)) := by
          simp only [wideBytes, List.append_assoc]
          exact List.drop_left' (cellHead_length _ _)
        rw [this, u32le_le32 _ hwf.1]
      have hlen12 : ¬ (cellHead col style ++ wideBytes us ++ Xlsb.le16 flags ++ tail).length < 12 := by
        simp [wideBytes, cellHead_length, le32_length]; omega
      rw [hl] at hrg
      show finterpret 8 _ = _
      unfold finterpret
      rw [if_pos (by decide), if_neg hlen12, hcch, hrg]
  · cases content <;> simp [Content.hasFmla] at hf <;> simp [c, CellRec.recId]

theorem finterpret_skip (t : Nat) (p : Bytes) (h : t ≠ 0 ∧ t ≠ 8 ∧ t ≠ 9 ∧ t ≠ 10 ∧ t ≠ 11 ∧ t ≠ 0x92) :
    finterpret t p = .skip := by
  obtain ⟨h0, h8, h9, h10, h11, h92⟩ := h
  unfold finterpret
  rw [if_neg h8, if_neg h9, if_neg (by omega), if_neg h0, if_neg h92]

theorem finterpret_row (r : Nat) (hr : r < 4294967296) (tail : Bytes) :
    finterpret 0 (Xlsb.le32 r ++ tail) = .row r := by
  unfold finterpret
  rw [if_neg (by decide), if_neg (by decide), if_neg (by decide), if_pos rfl, if_neg (by simp [le32_length]),
    u32le_le32 r hr]

theorem finterpret_stop (p : Bytes) : finterpret 0x92 p = .stop := by
  unfold finterpret
  rw [if_neg (by decide), if_neg (by decide), if_neg (by decide), if_neg (by decide), if_pos rfl]

theorem interpretedId_false (id : Nat) (h : interpretedId id = false) :
    id ≠ 0 ∧ id ≠ 8 ∧ id ≠ 9 ∧ id ≠ 10 ∧ id ≠ 11 ∧ id ≠ 0x92 := by
  unfold interpretedId at h
  refine ⟨?_, ?_, ?_, ?_, ?_, ?_⟩ <;> (intro hid; subst hid; simp at h)

theorem readFormulas_frame (ctx : Ptg.Ctx) (f row t : Nat) (ht : t < 16384) (p : Bytes) (hp : p.length < 268435456)
    (wide : Bool) (w : Nat) (rest : Bytes) :
    readFormulas ctx (f + 1) (frame t p wide w ++ rest) row =
      match finterpret t p with
      | .cell rgce => Ptg.parseFormulaXlsb ctx rgce >>= fun text =>
          readFormulas ctx f rest row >>= fun l => .ok ((row, u32le p, text) :: l)
      | .row r => if r > 0x00100000 then .ok [] else readFormulas ctx f rest r
      | .stop => .ok []
      | .skip => readFormulas ctx f rest row
      | .fail e => .err e := by
  rw [readFormulas, readRecord_frame t ht p hp]
  dsimp only
  cases finterpret t p with
  | cell rgce =>
    dsimp only
    cases Ptg.parseFormulaXlsb ctx rgce with
    | ok text => dsimp only; cases readFormulas ctx f rest row <;> rfl
    | _ => rfl
  | _ => rfl

theorem readFormulas_data (ctx : Ptg.Ctx) (endWide : Bool) (endLenW : Nat) (post : Bytes) :
    ∀ (data : List FFramed) (f row : Nat), (∀ d ∈ data, d.item.OK ctx.sheets.length) → data.length < f →
      readFormulas ctx f (encodeFItems data ++ (frame 0x92 [] endWide endLenW ++ post)) row
        = .ok (specFormulas (envOfXlsb ctx) (data.map (·.item)) row)
  | _, 0, _, _, hf => absurd hf (Nat.not_lt_zero _)
  | [], f + 1, row, _, _ => by
    rw [encodeFItems, List.map_nil, encodeItems, List.nil_append, readFormulas_frame _ _ _ _ (by omega) _ (by simp),
      finterpret_stop]
    rfl
  | ⟨item, wide, lenW⟩ :: rest, f + 1, row, hok, hf => by
    have hd := hok _ (List.mem_cons_self ..)
    have ih := (readFormulas_data ctx endWide endLenW post rest f · (fun x hx => hok x (List.mem_cons_of_mem _ hx))
      (Nat.lt_of_succ_lt_succ hf))
    rw [encodeFItems] at ih
    rw [encodeFItems, List.map_cons, encodeItems, List.append_assoc]
    -- the bytes of the first item are `frame id payload wide lenW` by unfolding: each case names its id and payload
    cases item with
    | row r tail =>
      obtain ⟨hr, hl⟩ := hd
      refine (readFormulas_frame _ _ _ 0 (by omega) (Xlsb.le32 r ++ tail)
        (by rw [List.length_append, le32_length]; omega) ..).trans ?_
      rw [finterpret_row r (by omega)]
      exact (if_neg (by omega)).trans (ih r)
    | raw id p =>
      obtain ⟨hid, hni, hl⟩ := hd
      refine (readFormulas_frame _ _ _ id hid p hl ..).trans ?_
      rw [finterpret_skip id p (interpretedId_false id hni)]
      exact ih row
    | plain col style content =>
      obtain ⟨_, _, hl⟩ := hd
      have hid : 1 ≤ CellRec.recId ⟨col, style, content, none⟩ ∧ CellRec.recId ⟨col, style, content, none⟩ ≤ 7 := by
        cases content <;> simp [CellRec.recId]
      refine (readFormulas_frame _ _ _ (CellRec.recId ⟨col, style, content, none⟩) (by omega)
        (CellRec.payload ⟨col, style, content, none⟩) (by simp [CellRec.payload, cellHead_length]; omega) ..).trans ?_
      rw [finterpret_skip _ _ (by omega)]
      exact ih row
    | fcell col style content flags e rgcb =>
      obtain ⟨hcol, hwf, hfm, har, htok, _, hl⟩ := hd
      have hrl : (encodeXlsb (toRpn e)).length < 4294967296 := by
        have : (encodeXlsb (toRpn e)).length ≤
            (CellRec.payload ⟨col, style, content, some (fmlaBytes flags (encodeXlsb (toRpn e)) rgcb)⟩).length := by
          simp [CellRec.payload, hfm, fmlaBytes]; omega
        omega
      obtain ⟨h1, h2, h3⟩ := finterpret_fcell col style content flags (encodeXlsb (toRpn e)) rgcb hcol hwf hfm hrl
      refine (readFormulas_frame _ _ _ (CellRec.recId _) (by omega) (CellRec.payload _) hl ..).trans ?_
      rw [h1, h2]
      dsimp only
      rw [parseFormulaXlsb_encode ctx e har htok, Res.bind_ok, ih row]
      rfl

/-- the formula cells of a described sheet that `worksheet_formula` keeps: those with a non-empty text -/
def keptFormulas (env : Env) (items : List FItem) : List (Nat × Nat × List Char) :=
  (specFormulas env items 0).filter (fun c => c.2.2 ≠ [])

theorem sheetFormulas_enc (ctx : Ptg.Ctx) (pre1 pre2 : List Seg) (dims : Bytes) (dw : Bool) (dl : Nat) (bp : Bytes)
    (bw : Bool) (bl : Nat) (data : List FFramed) (ew : Bool) (el : Nat) (post : Bytes)
    (h1 : ∀ s ∈ pre1, s.OK 0x0094 bounds1) (h2 : ∀ s ∈ pre2, s.OK 0x0091 bounds2)
    (hd : 16 ≤ dims.length ∧ dims.length < 268435456) (hb : bp.length < 268435456)
    (hok : ∀ d ∈ data, d.item.OK ctx.sheets.length) :
    sheetFormulas ctx (sheetBytes pre1 dims dw dl pre2 bp bw bl (data.map FFramed.toFramed) ew el post)
      = .ok (keptFormulas (envOfXlsb ctx) (data.map (·.item))) := by
  unfold sheetFormulas sheetBytes
  rw [newReader_enc pre1 pre2 dims dw dl bp bw bl _ h1 h2 hd hb]
  simp only [dimLen]
  have hlen := encodeItems_length_ge (data.map FFramed.toFramed)
  rw [← encodeFItems] at hlen ⊢
  rw [readFormulas_data ctx ew el post data _ 0 hok (by simp only [List.length_append, List.length_map] at hlen ⊢; omega)]
  rfl

end XlsbFormula
