import CalVerif.Lemmas.Ptg
/-! Totality of the decoders (Props/C14 `parseFormulaXls_no_panic`, `parseFormulaXlsb_no_panic`, `…_fuel`):
    no arm panics (every token length is checked, table lookups use `get`), the offset edits cannot panic on the
    states a run reaches (`applyAct_returnsWith`), and every arm consumes its input, so the loop budget suffices.
    At the end `definedNameXls_returns` (`parse_defined_names`, which reads one leading token) and `depthUsed_le` (the
    nesting of PtgMemFunc calls stays below `maxMemDepth`). -/
namespace Formula
open Ptg

/-- a decoder arm applied to the bytes `r`: it does not panic, does not run out of fuel, and what it leaves is
    no longer than `r`; that is `ReturnsWith` "the rest is no longer than `r`" (`Good.returnsWith`), spelt so that
    `good_need` / `good_ite` are rewrite rules that decide an arm by `simp only` -/
def Good {α : Type} (r : Bytes) (x : Res (α × Bytes)) : Prop :=
  (∀ m, x ≠ .panic m) ∧ x ≠ .outOfFuel ∧ ∀ a r', x = .ok (a, r') → r'.length ≤ r.length

theorem good_ok {α : Type} (r : Bytes) (a : α) (r' : Bytes) (h : r'.length ≤ r.length) : Good r (Res.ok (a, r')) := by
  refine ⟨by simp, by simp, ?_⟩
  intro a' r'' he; simp at he; rw [← he.2]; exact h
theorem good_drop {α : Type} (r : Bytes) (a : α) (k : Nat) : Good r (Res.ok (a, r.drop k)) :=
  good_ok r a _ (by simp)
theorem good_same {α : Type} (r : Bytes) (a : α) : Good r (Res.ok (a, r)) := good_ok r a r (Nat.le_refl _)
theorem good_err {α : Type} (r : Bytes) (e : String) : Good r (Res.err e : Res (α × Bytes)) :=
  ⟨by simp, by simp, by simp⟩
theorem good_need {α : Type} (f : Bool) (r b : Bytes) (n : Nat) (k : Unit → Res (α × Bytes)) :
    Good r (need f b n >>= k) ↔ (n ≤ b.length → Good r (k ())) := by
  unfold need
  split
  · exact ⟨fun _ h => absurd h (by omega), fun _ => good_err r _⟩
  · exact ⟨fun g _ => g, fun g => g (by omega)⟩
theorem good_ite {α : Type} (r : Bytes) (c : Prop) [Decidable c] (x y : Res (α × Bytes)) :
    Good r (if c then x else y) ↔ (c → Good r x) ∧ (¬ c → Good r y) := by
  split <;> simp [*]
theorem good_of_drop {α : Type} (r : Bytes) (k : Nat) (x : Res (α × Bytes)) (h : Good (r.drop k) x) : Good r x := by
  refine ⟨h.1, h.2.1, ?_⟩
  intro a r' he
  have := h.2.2 a r' he
  simp at this; omega

theorem decodeFuncFixed_good (r : Bytes) (c : Bool) : Good r (decodeFuncFixed r c) := by
  unfold decodeFuncFixed
  rw [good_need, good_ite]
  refine fun _ => ⟨fun _ => good_err r _, fun hlt => ?_⟩
  have hs := ftab_sizes.2.1
  rw [Array.getElem?_eq_getElem (by omega)]
  exact good_drop r _ 2

theorem decodeFuncVar_good (r : Bytes) (c : Bool) : Good r (decodeFuncVar r c) := by
  unfold decodeFuncVar
  rw [good_need]
  exact fun _ => good_drop r _ 3

/-- every arm is a chain of `need`s and tests that ends in an error or in `.ok (_, r.drop k)`: the rules above
    decide it; the two-level arms (PtgAttr*, PtgExtend: a byte, then a `match` on it) and PtgErr are split once more -/
theorem decodeXls_good (ctx : Ctx) (b : Bool) (p : Nat) (r : Bytes) : Good r (decodeXls ctx b p r) := by
  unfold decodeXls
  -- `split` numbers the alternatives through every `|` of the or-patterns (3+3+3+3, PtgExp, 15 operators, 0x12 … 0x18):
  -- `h_36` is the `0x19` arm (PtgAttr*), `h_37` the `0x1C` arm (PtgErr). An opcode added to an earlier pattern shifts
  -- the numbers; the inner `split` then fails, on an arm that has no second `match`.
  split
  case h_36 =>
    rw [good_need]
    refine fun _ => good_of_drop r 1 _ ?_
    dsimp only
    split <;> simp only [good_need, good_ite, good_drop, good_err, implies_true, and_self]
  case h_37 =>
    rw [good_need]
    intro _
    split <;> simp only [good_drop, good_err]
  all_goals simp only [good_need, good_drop, good_same, good_err, decodeFuncVar_good, decodeFuncFixed_good, implies_true]

theorem sheetless_good {α : Type} (r : Bytes) (x : Res (α × Bytes)) (h : Good r x) : Good r x := h

theorem decodeXlsb_good (ctx : Ctx) (p : Nat) (r : Bytes) : Good r (decodeXlsb ctx p r) := by
  unfold decodeXlsb
  -- numbered as in `decodeXls_good`: `h_35` is the `0x18` arm (PtgExtend), `h_36` `0x19` (PtgAttr*), `h_37` `0x1C` (PtgErr)
  split
  case h_35 =>
    rw [good_need]
    refine fun _ => good_of_drop r 1 _ ?_
    dsimp only
    split <;> simp only [good_need, good_drop, good_err, implies_true]
  case h_36 =>
    rw [good_need]
    refine fun _ => good_of_drop r 1 _ ?_
    dsimp only
    split <;> simp only [good_need, good_drop, good_err, implies_true]
  case h_37 =>
    rw [good_need]
    intro _
    split <;> simp only [good_drop, good_err]
  all_goals simp only [good_need, good_drop, good_same, good_err, decodeFuncVar_good, decodeFuncFixed_good, implies_true]

theorem Good.returnsWith {α : Type} {r : Bytes} {x : Res (α × Bytes)} (h : Good r x) :
    x.ReturnsWith fun ar => ar.2.length ≤ r.length := by
  rcases Res.returns_iff.mpr ⟨h.1, h.2.1⟩ with ⟨⟨a, r'⟩, rfl⟩ | ⟨e, rfl⟩
  · exact .ok (h.2.2 a r' rfl)
  · exact .err

theorem step_returnsWith {r : Bytes} {x : Res (Act × Bytes)} (hg : Good r x) {st : St} (hinv : Inv st)
    {k : Bytes → St → Res St} (hk : ∀ r' st', r'.length ≤ r.length → Inv st' → (k r' st').ReturnsWith Inv) :
    (x >>= fun ar => applyAct ar.1 st >>= k ar.2).ReturnsWith Inv :=
  hg.returnsWith.bind fun ar h => (applyAct_returnsWith ar.1 st hinv).bind fun st' hi => hk ar.2 st' h hi

theorem runXls_returnsWith (ctx : Ctx) : ∀ (fuel : Nat) (rgce : Bytes) (st : St), Inv st → rgce.length ≤ fuel →
    (runXls ctx fuel rgce st).ReturnsWith Inv
  | _, [], _, hinv, _ => by rw [runXls_nil]; exact .ok hinv
  | 0, _ :: _, _, _, hlen => absurd hlen (Nat.not_succ_le_zero _)
  | f + 1, p :: r, st, hinv, hlen => by
    rw [runXls_cons]
    exact step_returnsWith (decodeXls_good ctx _ _ r) hinv fun r' st' h hi =>
      runXls_returnsWith ctx f r' st' hi (Nat.le_trans h (Nat.le_of_succ_le_succ hlen))

theorem needLen_returns (typ : String) (b : Bytes) (n : Nat) : (needLen typ b n).Returns := .ite (.err _) (.ok _)

theorem parseFormulaXls_returns (ctx : Ctx) (rgce : Bytes) : (parseFormulaXls ctx rgce).Returns := by
  unfold parseFormulaXls
  refine .bind (needLen_returns ..) fun _ _ => .bind (needLen_returns ..) fun _ _ => ?_
  dsimp only
  exact (runXls_returnsWith ctx _ ((rgce.drop 2).take (u16 rgce 0)) ⟨[], []⟩ inv_init (Nat.le_refl _)).elim
    (fun _ _ => .ite (.ok _) (.err _)) .err

theorem need_returns (f : Bool) (b : Bytes) (n : Nat) : (need f b n).Returns := .ite (.err _) (.ok _)

theorem finishXlsb_returns (st : St) : (finishXlsb st).Returns := .ite (.ok _) (.err _)

theorem runXlsb_returnsWith (ctx : Ctx) : ∀ (fuel d : Nat) (rgce : Bytes) (st : St), Inv st → rgce.length ≤ fuel →
    (runXlsb ctx d fuel rgce st).ReturnsWith Inv
  | _, _, [], _, hinv, _ => by rw [runXlsb_nil]; exact .ok hinv
  | 0, _, _ :: _, _, _, hlen => absurd hlen (Nat.not_succ_le_zero _)
  | f + 1, d, p :: r, st, hinv, hlen => by
    have hrl : r.length ≤ f := Nat.le_of_succ_le_succ hlen
    cases hp : isMemFunc p.toNat with
    | false =>
      rw [runXlsb_cons ctx d f p r st hp]
      exact step_returnsWith (decodeXlsb_good ctx _ r) hinv fun r' st' h hi =>
        runXlsb_returnsWith ctx f d r' st' hi (Nat.le_trans h hrl)
    | true =>
      -- PtgMemFunc: the sub-expression and what follows it are both shorter than `r`
      have hsub : ((r.drop 2).take (u16 r 0)).length ≤ f := by simp; omega
      have hrest : ((r.drop 2).drop (u16 r 0)).length ≤ f := by simp; omega
      rw [runXlsb, hp, if_pos rfl]
      refine (need_returns false r 2).elim (fun _ => ?_) fun _ => .err
      dsimp only
      refine (need_returns false (r.drop 2) (u16 r 0)).elim (fun _ => ?_) fun _ => .err
      dsimp only
      refine .ite (fun _ => .err) fun _ => ?_
      have hin : (if ((r.drop 2).take (u16 r 0)).isEmpty then Res.ok [] else
          match runXlsb ctx (d + 1) f ((r.drop 2).take (u16 r 0)) ⟨[], []⟩ with
          | .ok s => finishXlsb s
          | .err e => .err e
          | .panic e => .panic e
          | .outOfFuel => .outOfFuel).Returns :=
        .ite (.ok _) ((runXlsb_returnsWith ctx f (d + 1) _ ⟨[], []⟩ inv_init hsub).elim
          (fun s _ => finishXlsb_returns s) .err)
      exact hin.elim (fun t => runXlsb_returnsWith ctx f d _ _ (inv_push t hinv) hrest) fun _ => .err

theorem parseFormulaXlsb_returns (ctx : Ctx) (rgce : Bytes) : (parseFormulaXlsb ctx rgce).Returns := by
  unfold parseFormulaXlsb
  refine .ite (.ok _) ?_
  exact (runXlsb_returnsWith ctx rgce.length 0 rgce ⟨[], []⟩ inv_init (Nat.le_refl _)).elim
    (fun st _ => finishXlsb_returns st) .err

theorem definedNameXls_returns (rgce : Bytes) : (definedNameXls rgce).Returns := by
  unfold definedNameXls
  split
  · exact .ok _
  · dsimp only
    split
    -- the default arm (3 + 3 + 6 alternatives of the or-patterns come before it); every other arm checks a length
    case h_13 => exact .ok _
    all_goals exact .bind (needLen_returns ..) fun _ _ => .ok _

theorem depthUsed_le (ctx : Ctx) (fuel : Nat) : ∀ (d : Nat) (rgce : Bytes) (st : St),
    depthUsed ctx d fuel rgce st ≤ max d maxMemDepth := by
  induction fuel with
  | zero => intro d rgce st; cases rgce <;> simp [depthUsed] <;> omega
  | succ f ih =>
    intro d rgce st
    cases rgce with
    | nil => simp [depthUsed]; omega
    | cons p r =>
      simp only [depthUsed]
      -- the splits follow the nest of `depthUsed`: PtgMemFunc? `need 2`, `need cce`, the depth limit, an empty body,
      -- the outcome of the nested call; every branch that stops answers `d` and is closed by `omega`
      split
      · split
        · split
          · split
            · omega
            · rename_i hd
              have hd' : d + 1 ≤ maxMemDepth := by omega
              split
              · exact ih d _ _
              · -- the nested call runs at `d + 1 ≤ maxMemDepth`; if it returns, the rest of the stream runs at `d`
                have h1 := ih (d + 1) ((r.drop 2).take (u16 r 0)) ⟨[], []⟩
                have hm : max (d + 1) maxMemDepth = maxMemDepth := by omega
                split
                · rename_i f' _
                  have h2 := ih d ((r.drop 2).drop (u16 r 0)) ⟨st.buf ++ f', st.stk ++ [st.buf.length]⟩
                  have hmd : max d maxMemDepth = maxMemDepth := by omega
                  rw [hm] at h1
                  rw [hmd] at h2 ⊢
                  exact Nat.max_le.mpr ⟨h1, h2⟩
                · omega
          · omega
        · omega
      · -- any other token: its arm, its edit, then the rest at `d`
        split
        · split
          · exact ih d _ _
          · omega
        · omega

end Formula
