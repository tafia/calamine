import CalVerif.Lemmas.Xlsb
import CalVerif.Model.XmlText
import CalVerif.Model.Biff
/-! Cross-model lemmas for C03: the places where another property models the same code or the same table
    (`wide_str` in C19's `Model/XmlText.lean`, the BErr byte in C02's `Model/Biff.lean`). -/

namespace Xlsb

theorem unitsOf_eq_units : ∀ (b : Bytes), (XmlText.unitsOf b).map (·.toNat) = units b
  | [] => rfl
  | [_] => rfl
  | a :: b :: r => by
    simp only [XmlText.unitsOf, units, List.map_cons]
    rw [unitsOf_eq_units r]
    congr 1
    have ha := a.toNat_lt; have hb := b.toNat_lt
    simp [UInt16.toNat_ofNat]; omega

/-- `wide_str` is modelled twice — here and in `Model/XmlText.lean` (C19, result in `UInt16` units). On every
    buffer that holds at least the 4-byte character count the two copies agree (units compared as numbers). On a
    shorter buffer this model returns `Err(WideStr)` (the code since fix cbbeadd) while the C19 copy, which models
    the code before that fix, says `panic`. -/
theorem xmlText_wideStr_eq (buf : Bytes) (h : 4 ≤ buf.length) :
    (match XmlText.wideStr buf with
      | .ok (us, n) => Res.ok (us.map (·.toNat), n)
      | .err e => .err e
      | .panic s => .panic s
      | .outOfFuel => .outOfFuel) = wideStr buf := by
  match buf, h with
  | b0 :: b1 :: b2 :: b3 :: rest, _ =>
    have hu : XmlText.u32le b0 b1 b2 b3 = u32le (b0 :: b1 :: b2 :: b3 :: rest) := by
      rw [u32le_cons4]; rfl
    have h4 : ¬ (b0 :: b1 :: b2 :: b3 :: rest).length < 4 := by simp
    simp only [XmlText.wideStr, wideStr, hu, if_neg h4]
    by_cases hl : (b0 :: b1 :: b2 :: b3 :: rest).length < 4 + u32le (b0 :: b1 :: b2 :: b3 :: rest) * 2
    · rw [if_pos hl, if_pos hl]
    · rw [if_neg hl, if_neg hl]
      simp only [List.drop_succ_cons, List.drop_zero]
      rw [unitsOf_eq_units]

def ofBiffErr : BiffCells.ErrKind → CellErrorType
  | .null => .null | .div0 => .div0 | .value => .value | .ref => .ref | .name => .name | .num => .num | .na => .nA
  | .gettingData => .gettingData

theorem ofBiffErr_inj (k k' : BiffCells.ErrKind) (h : ofBiffErr k = ofBiffErr k') : k = k' := by
  cases k <;> cases k' <;> first | rfl | cases h

/-- xls `parse_err` is the lookup in the BErr table: byte by byte the same outcome -/
theorem parseErr_berrKind (e : Nat) :
    (BiffCells.parseErr e = .err "Unrecognized:error" ∧ berrKind e = none) ∨
    ∃ k, BiffCells.parseErr e = .ok (.error k) ∧ berrKind e = some (ofBiffErr k) := by
  by_cases h : e = 0x00 ∨ e = 0x07 ∨ e = 0x0F ∨ e = 0x17 ∨ e = 0x1D ∨ e = 0x24 ∨ e = 0x2A ∨ e = 0x2B
  · rcases h with rfl | rfl | rfl | rfl | rfl | rfl | rfl | rfl <;> exact .inr ⟨_, rfl, rfl⟩
  · refine .inl ⟨?_, ?_⟩
    · unfold BiffCells.parseErr
      rw [if_neg (by omega), if_neg (by omega), if_neg (by omega), if_neg (by omega), if_neg (by omega),
        if_neg (by omega), if_neg (by omega), if_neg (by omega)]
    · rw [berrKind, List.lookup_eq_none_iff]
      intro p hp
      simp only [berrTable, List.mem_cons, List.not_mem_nil, or_false] at hp
      rcases hp with rfl | rfl | rfl | rfl | rfl | rfl | rfl | rfl <;> simp <;> omega

end Xlsb
