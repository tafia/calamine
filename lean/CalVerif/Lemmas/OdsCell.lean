import CalVerif.Spec.OdsCell
/-! The attribute loop of `get_datatype`: what `step` does before and after the first value attribute, `loop` on
    attribute lists of both kinds, and `getDatatype` in closed form over `find? Attr.isValue`, the terms `cellValue` /
    `cellFormula` are written in. -/
namespace OdsCell

theorem loop_append (l1 l2 : List Attr) (s : St) :
    loop s (l1 ++ l2) = (loop s l1).bind fun s' => loop s' l2 := by
  induction l1 generalizing s with
  | nil => rfl
  | cons a l1 ih =>
    simp only [List.cons_append, loop]
    cases step s a with
    | none => rfl
    | some s' => exact ih s'

theorem step_set (s : St) (a : Attr) (h : s.isValueSet = true) :
    step s a = some { s with formula := formulaAfter s.formula [a] } := by
  obtain ⟨v, vs, st, f⟩ := s
  subst h
  cases a <;> rfl

theorem step_unset (s : St) (a : Attr) (h : s.isValueSet = false) (ha : a.isValue = false) :
    step s a = some { s with formula := formulaAfter s.formula [a], isString := stringAfter s.isString [a] } := by
  obtain ⟨v, vs, st, f⟩ := s
  subst h
  cases a <;> first | rfl | cases ha

theorem step_value (s : St) (a : Attr) (h : s.isValueSet = false) (ha : a.isValue = true) (hp : a ≠ .value none) :
    step s a = some { s with val := a.valOf, isValueSet := true } := by
  obtain ⟨v, vs, st, f⟩ := s
  subst h
  cases a with
  | value parsed =>
    cases parsed with
    | none => exact absurd rfl hp
    | some bits => rfl
  | valueType raw => cases ha
  | formula f => cases ha
  | other => cases ha
  | _ => rfl

theorem formulaOf_of_isValue (a : Attr) (ha : a.isValue = true) : a.formulaOf = none := by
  cases a <;> first | rfl | cases ha

theorem loop_set (l : List Attr) (s : St) (h : s.isValueSet = true) :
    loop s l = some { s with formula := formulaAfter s.formula l } := by
  induction l generalizing s with
  | nil => rfl
  | cons a l ih =>
    rw [loop, step_set s a h]
    exact ih _ h

theorem loop_unset (l : List Attr) (s : St) (h : s.isValueSet = false) (hl : ∀ x ∈ l, x.isValue = false) :
    loop s l = some { s with formula := formulaAfter s.formula l, isString := stringAfter s.isString l } := by
  induction l generalizing s with
  | nil => rfl
  | cons a l ih =>
    rw [loop, step_unset s a h (hl a List.mem_cons_self)]
    exact ih _ h (fun x hx => hl x (List.mem_cons_of_mem _ hx))

theorem formulaAfter_append (f0 : String) (l1 l2 : List Attr) :
    formulaAfter f0 (l1 ++ l2) = formulaAfter (formulaAfter f0 l1) l2 :=
  List.foldl_append

theorem getDatatype_first_value (pre post : List Attr) (a : Attr) (ha : a.isValue = true) (hp : a ≠ .value none)
    (hpre : ∀ x ∈ pre, x.isValue = false) :
    getDatatype (pre ++ a :: post) = some ⟨a.valOf, formulaAfter "" (pre ++ a :: post), false⟩ := by
  have hf : formulaAfter "" (pre ++ a :: post) = formulaAfter (formulaAfter "" pre) post := by
    rw [formulaAfter_append]
    show formulaAfter (a.formulaOf.getD (formulaAfter "" pre)) post = _
    rw [formulaOf_of_isValue a ha]; rfl
  have hl : loop {} (pre ++ a :: post) =
      some ⟨a.valOf, true, stringAfter false pre, formulaAfter "" (pre ++ a :: post)⟩ := by
    rw [hf, loop_append, loop_unset pre {} rfl hpre, Option.bind_some, loop, step_value _ a rfl ha hp]
    exact loop_set post _ rfl
  unfold getDatatype
  rw [hl]
  rfl

theorem getDatatype_no_value (attrs : List Attr) (h : ∀ x ∈ attrs, x.isValue = false) :
    getDatatype attrs = some ⟨.empty, formulaAfter "" attrs, stringAfter false attrs⟩ := by
  unfold getDatatype
  rw [loop_unset attrs {} rfl h]
  simp

/-- `get_datatype`'s attribute loop in closed form: the first value attribute (if any) gives the value, the last
    `table:formula` the formula, and the text content is asked for only without a value attribute under type string -/
theorem getDatatype_eq (attrs : List Attr) (hp : attrs.find? Attr.isValue ≠ some (.value none)) :
    getDatatype attrs = some ⟨((attrs.find? Attr.isValue).map Attr.valOf).getD .empty, cellFormula attrs,
      (attrs.find? Attr.isValue).isNone && stringAfter false attrs⟩ := by
  cases hf : attrs.find? Attr.isValue with
  | some a =>
    obtain ⟨ha, pre, post, rfl, hpre⟩ := List.find?_eq_some_iff_append.1 hf
    exact getDatatype_first_value pre post a ha (fun h => hp (hf.trans (congrArg some h)))
      (fun x hx => by simpa using hpre x hx)
  | none =>
    exact getDatatype_no_value attrs fun x hx => by simpa using List.find?_eq_none.1 hf x hx

theorem stringAfter_of_all (attrs : List Attr) (b0 : Bool)
    (hall : ∀ raw, Attr.valueType raw ∈ attrs → raw = "string")
    (hex : b0 = true ∨ Attr.valueType "string" ∈ attrs) : stringAfter b0 attrs = true := by
  induction attrs generalizing b0 with
  | nil => exact hex.resolve_right List.not_mem_nil
  | cons a rest ih =>
    have hall' : ∀ raw, Attr.valueType raw ∈ rest → raw = "string" := fun raw h => hall raw (List.mem_cons_of_mem _ h)
    cases a with
    | valueType raw =>
      rw [hall raw List.mem_cons_self]
      exact ih true hall' (Or.inl rfl)
    | _ =>
      refine ih b0 hall' (hex.imp id fun h => ?_)
      rcases List.mem_cons.1 h with e | h
      · cases e
      · exact h

end OdsCell
