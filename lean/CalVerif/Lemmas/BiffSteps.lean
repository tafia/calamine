import CalVerif.Lemmas.Biff
/-! C02: the cell-record arms of the worksheet `match` given what their parser returns (DIMENSIONS and unknown ids inside
    `step_ignorable`, no lemma for MERGECELLS), the parsers on the records the encoder writes (cell records, FORMULA,
    MULRK runs), and `RecordIter` over framed records. `runCells`, `plainRec`, `noCont`, defined here, occur in the
    statements of Props/C02. -/

namespace BiffCells
open Biff

/-! The arms are stated for records without CONTINUE chunks (`cont = []`), the only ones C02's encoder emits; `step`
    itself never looks at `cont`. -/

theorem step_number {env : Env} {st : St} {d : Bytes} {c : Cell} (h : parseNumber env d = .ok c) :
    step env st ⟨0x0203, d, []⟩ = .ok { st with cells := st.cells ++ [c] } := by
  simp [step, h]

theorem step_rk {env : Env} {st : St} {d : Bytes} {c : Cell} (h : parseRk env d = .ok c) :
    step env st ⟨0x027E, d, []⟩ = .ok { st with cells := st.cells ++ [c] } := by
  simp [step, h]

theorem step_label {env : Env} {st : St} {d : Bytes} {c : Cell} (h : parseLabel d = .ok c) :
    step env st ⟨0x0204, d, []⟩ = .ok { st with cells := st.cells ++ [c] } := by
  simp [step, h]

theorem step_labelSst {env : Env} {st : St} {d : Bytes} {c : Cell} (h : parseLabelSst env d = .ok (some c)) :
    step env st ⟨0x00FD, d, []⟩ = .ok { st with cells := st.cells ++ [c] } := by
  simp [step, h]

theorem step_boolerr {env : Env} {st : St} {d : Bytes} {c : Cell} (h : parseBoolErr d = .ok c) :
    step env st ⟨0x0205, d, []⟩ = .ok { st with cells := st.cells ++ [c] } := by
  simp [step, h]

theorem step_mulrk {env : Env} {st : St} {d : Bytes} {cs : List Cell} (h : parseMulRk env d = .ok cs) :
    step env st ⟨0x00BD, d, []⟩ = .ok { st with cells := st.cells ++ cs } := by
  simp [step, h]

theorem step_string {env : Env} {st : St} {d : Bytes} {s : List Nat} (h : parseStringWith 3 d true = .ok s) :
    step env st ⟨0x0207, d, []⟩ = .ok { st with cells := st.cells ++ [(st.fmla.1, st.fmla.2, .str s)] } := by
  simp [step, h]

theorem ignorable_iff (r : Rec) : ignorable r = true ↔
    r.typ < 65536 ∧ r.data.length ≤ 8224 ∧ r.cont = [] ∧
      (r.typ ∉ handledIds ∨ (r.typ = 0x0200 ∧ (r.data.length = 10 ∨ r.data.length = 14))) := by
  simp only [ignorable, Bool.and_eq_true, Bool.or_eq_true, decide_eq_true_eq, Bool.not_eq_true',
    beq_iff_eq, List.isEmpty_iff, List.contains_eq_mem, decide_eq_false_iff_not, and_assoc]

theorem step_ignorable (env : Env) (st : St) (r : Rec) (h : ignorable r = true) : step env st r = .ok st := by
  obtain ⟨_, _, _, hn | ⟨ht, hl⟩⟩ := (ignorable_iff r).mp h
  · simp only [handledIds, List.mem_cons, List.not_mem_nil, or_false, not_or] at hn
    simp [step, hn]
  · rcases hl with hl | hl
    · by_cases hc : 1 ≤ u16At r.data 2 ∧ 1 ≤ u16At r.data 6 <;> simp [step, ht, parseDimensions, hl, hc]
    · by_cases hc : 1 ≤ u32At r.data 4 ∧ 1 ≤ u16At r.data 10 <;> simp [step, ht, parseDimensions, hl, hc]

/-! The parsers on the records the encoder writes: `row, col, ixfe`, then the payload. `_enc`: the whole payload is what
    the encoder writes, its values variables; `_of`: part of it is arbitrary bytes (`parseLabel_of`: any string bytes,
    given what `parse_string` makes of them; `parseBoolErr_of`: any two bytes; `parseMulRk_of_fields`: any record whose
    column fields agree with its length). `step_formula_enc` is on the encoder's FORMULA layout with the eight
    FormulaValue bytes arbitrary, given what `parse_formula_value` makes of the record. -/

theorem parseNumber_enc (env : Env) (row col xf x : Nat) (hr : row < 65536) (hc : col < 65536)
    (hx : xf < 65536) (hb : x < 18446744073709551616) :
    parseNumber env (le16 row ++ le16 col ++ le16 xf ++ le64 x) = .ok (row, col, fmtF64 x env.fmts[xf]? env.is1904) := by
  obtain ⟨h0, h2, hl, _⟩ := cell_reads row col xf (le64 x) hr hc
  have h6 : u64At (le16 row ++ le16 col ++ le16 xf ++ le64 x) 6 = x := by
    rw [← List.append_nil (le64 x)]; exact u64At_le64 _ x [] 6 rfl hb
  rw [parseNumber, if_neg (by rw [hl]; exact Nat.lt_irrefl 14), h0, h2, cell_xf row col xf _ hx, h6]

theorem rkNumAt_enc (env : Env) (pre suf : Bytes) (xf w i : Nat) (hi : pre.length = i) (hx : xf < 65536)
    (hw : w < 4294967296) :
    rkNumAt env (pre ++ (le16 xf ++ (le32 w ++ suf))) i = fmtNum (rkNum env.ops w) env.fmts[xf]? env.is1904 := by
  have a2 : u32At (pre ++ (le16 xf ++ (le32 w ++ suf))) (i + 2) = w := by
    rw [← List.append_assoc]; exact u32At_le32 _ w suf _ (by rw [List.length_append, hi]; rfl) hw
  rw [rkNumAt, u16At_le16 pre xf _ i hi hx, a2]

theorem parseRk_enc (env : Env) (row col xf w : Nat) (hr : row < 65536) (hc : col < 65536)
    (hx : xf < 65536) (hw : w < 4294967296) :
    parseRk env (le16 row ++ le16 col ++ le16 xf ++ le32 w) =
      .ok (row, col, fmtNum (rkNum env.ops w) env.fmts[xf]? env.is1904) := by
  obtain ⟨h0, h2, hl, _⟩ := cell_reads row col xf (le32 w) hr hc
  have h4 := rkNumAt_enc env (le16 row ++ le16 col) [] xf w 4 rfl hx hw
  rw [List.append_nil, ← List.append_assoc] at h4
  rw [parseRk, if_neg (by rw [hl]; exact Nat.lt_irrefl 10), h0, h2, h4]

theorem parseLabel_of (row col xf : Nat) (S : Bytes) (v : List Nat) (hr : row < 65536) (hc : col < 65536)
    (hs : parseStringWith 3 S true = .ok v) :
    parseLabel (le16 row ++ le16 col ++ le16 xf ++ S) = .ok (row, col, .str v) := by
  obtain ⟨h0, h2, hl, hd⟩ := cell_reads row col xf S hr hc
  rw [parseLabel, if_neg (by rw [hl]; omega), hd, hs, h0, h2]

theorem parseLabelSst_enc (env : Env) (row col xf i : Nat) (s : List Nat) (hr : row < 65536)
    (hc : col < 65536) (hi : i < 4294967296) (hs : env.strings[i]? = some s) :
    parseLabelSst env (le16 row ++ le16 col ++ le16 xf ++ le32 i) = .ok (some (row, col, .str s)) := by
  obtain ⟨h0, h2, hl, _⟩ := cell_reads row col xf (le32 i) hr hc
  have h6 : u32At (le16 row ++ le16 col ++ le16 xf ++ le32 i) 6 = i := by
    rw [← List.append_nil (le32 i)]; exact u32At_le32 _ i [] 6 rfl hi
  rw [parseLabelSst, if_neg (by rw [hl]; exact Nat.lt_irrefl 10), h6, hs, h0, h2]

theorem parseBoolErr_of (row col xf b f : Nat) (hr : row < 65536) (hc : col < 65536) (hb : b < 256) (hf : f < 256) :
    parseBoolErr (le16 row ++ le16 col ++ le16 xf ++ [byte b, byte f]) =
      if f = 0 then .ok (row, col, .bool (b != 0))
      else if f = 1 then
        match parseErr b with
        | .ok v => .ok (row, col, v)
        | .err e => .err e
        | .panic s => .panic s
        | .outOfFuel => .outOfFuel
      else .err "Unrecognized:fError" := by
  obtain ⟨h0, h2, hl, _⟩ := cell_reads row col xf [byte b, byte f] hr hc
  have h6 : byteAt (le16 row ++ le16 col ++ le16 xf ++ [byte b, byte f]) 6 = b := byte_toNat_lt hb
  have h7 : byteAt (le16 row ++ le16 col ++ le16 xf ++ [byte b, byte f]) 7 = f := byte_toNat_lt hf
  rw [parseBoolErr, if_neg (by rw [hl]; exact Nat.lt_irrefl 8), h0, h2, h6, h7]
  rfl

theorem parseBoolErr_bool (row col xf : Nat) (b : Bool) (hr : row < 65536) (hc : col < 65536) :
    parseBoolErr (le16 row ++ le16 col ++ le16 xf ++ [byte (if b then 1 else 0), byte 0]) = .ok (row, col, .bool b) := by
  rw [parseBoolErr_of row col xf _ 0 hr hc (by split <;> decide) (by decide)]
  cases b <;> rfl

theorem parseBoolErr_err (row col xf : Nat) (k : ErrKind) (hr : row < 65536) (hc : col < 65536) :
    parseBoolErr (le16 row ++ le16 col ++ le16 xf ++ [byte (errCode k), byte 1]) = .ok (row, col, .error k) := by
  rw [parseBoolErr_of row col xf _ 1 hr hc (errCode_lt k) (by decide), parseErr_code]
  rfl

/-- the data of a FORMULA record, right-nested -/
def fmlaData (row col xf : Nat) (value rgce : Bytes) : Bytes :=
  le16 row ++ le16 col ++ le16 xf ++ (value ++ (le16 0 ++ (le32 0 ++ (le16 rgce.length ++ rgce))))

/-- `parse_formula_value` reads the 8 bytes behind the 6-byte header, whatever that holds -/
theorem byteAt_formulaValue (hdr value rest : Bytes) (hh : hdr.length = 6) (hv : value.length = 8) (i : Nat) (hi : i < 8) :
    byteAt (hdr ++ (value ++ rest)) (6 + i) = byteAt value i := by
  rw [byteAt_append_right _ _ _ (by omega), hh, Nat.add_sub_cancel_left]
  simp only [byteAt, List.getD_eq_getElem?_getD]
  rw [List.getElem?_append_left (by omega)]

theorem byteAt_le64_6 (x : Nat) : byteAt (le64 x) 6 = x / 281474976710656 % 256 := by
  show (byte (x / 4294967296 / 65536)).toNat = _
  rw [byte_toNat, Nat.div_div_eq_div_mul]
theorem byteAt_le64_7 (x : Nat) : byteAt (le64 x) 7 = x / 72057594037927936 % 256 := by
  show (byte (x / 4294967296 / 16777216)).toNat = _
  rw [byte_toNat, Nat.div_div_eq_div_mul]

/-- a cached number: the last two bytes of the field are not `FF FF` -/
theorem parseFormulaValue_num (hdr rest : Bytes) (x : Nat) (hh : hdr.length = 6)
    (hx : x < 18446744073709551616) (hn : x / 281474976710656 ≠ 65535) :
    parseFormulaValue (hdr ++ (le64 x ++ rest)) = .ok (some (.float x)) := by
  have b12 := byteAt_formulaValue hdr (le64 x) rest hh rfl 6 (by decide)
  have b13 := byteAt_formulaValue hdr (le64 x) rest hh rfl 7 (by decide)
  rw [byteAt_le64_6] at b12; rw [byteAt_le64_7] at b13
  have hne : ¬ (byteAt (hdr ++ (le64 x ++ rest)) 12 = 0xFF ∧ byteAt (hdr ++ (le64 x ++ rest)) 13 = 0xFF) := by
    rw [show (12 : Nat) = 6 + 6 from rfl, show (13 : Nat) = 6 + 7 from rfl, b12, b13]
    -- bytes 6 and 7 of `x` are the two base-256 digits of `x / 2^48`
    rintro ⟨h1, h2⟩
    have h56 : x / 72057594037927936 < 256 := Nat.div_lt_of_lt_mul hx
    have e : x / 281474976710656 / 256 = x / 72057594037927936 := Nat.div_div_eq_div_mul x _ _
    have := Nat.div_add_mod (x / 281474976710656) 256
    rw [Nat.mod_eq_of_lt h56] at h2
    rw [e, h1, h2] at this
    exact hn this.symm
  rw [parseFormulaValue, if_neg hne, u64At_le64 hdr x rest 6 hh hx]

theorem parseFormulaValue_special (hdr rest : Bytes) (t b : Nat) (hh : hdr.length = 6) (ht : t < 256) (hb : b < 256) :
    parseFormulaValue (hdr ++ (special t b ++ rest)) =
      if t = 0 then .ok none
      else if t = 1 then .ok (some (.bool (b != 0)))
      else if t = 2 then
        match parseErr b with
        | .ok v => .ok (some v)
        | .err e => .err e
        | .panic s => .panic s
        | .outOfFuel => .outOfFuel
      else if t = 3 then .ok (some (.str []))
      else .err "Unrecognized:error" := by
  have hbb := byteAt_formulaValue hdr (special t b) rest hh rfl
  have b6 : byteAt (hdr ++ (special t b ++ rest)) 6 = t := (hbb 0 (by decide)).trans (byte_toNat_lt ht)
  have b8 : byteAt (hdr ++ (special t b ++ rest)) 8 = b := (hbb 2 (by decide)).trans (byte_toNat_lt hb)
  have b12 : byteAt (hdr ++ (special t b ++ rest)) 12 = 0xFF := hbb 6 (by decide)
  have b13 : byteAt (hdr ++ (special t b ++ rest)) 13 = 0xFF := hbb 7 (by decide)
  rw [parseFormulaValue, if_pos ⟨b12, b13⟩, b6, b8]
  rfl

theorem cachedBytes_length (c : Cached) : (cachedBytes c).length = 8 := by
  cases c <;> rfl

/-- what `parse_formula_value` makes of a cached result (`none`: the STRING record follows) -/
def cachedRes : Cached → Option Val
  | .num x => some (.float x)
  | .str _ _ _ => none
  | .bool b => some (.bool b)
  | .err k => some (.error k)
  | .blank => some (.str [])

theorem parseFormulaValue_enc (hdr rest : Bytes) (c : Cached) (hh : hdr.length = 6)
    (hn : match c with | .num x => x < 18446744073709551616 ∧ x / 281474976710656 ≠ 65535 | _ => True) :
    parseFormulaValue (hdr ++ (cachedBytes c ++ rest)) = .ok (cachedRes c) := by
  cases c with
  | num x => exact parseFormulaValue_num hdr rest x hh hn.1 hn.2
  | str _ _ _ => exact parseFormulaValue_special hdr rest 0 0 hh (by decide) (by decide)
  | bool b =>
    refine (parseFormulaValue_special hdr rest 1 (if b then 1 else 0) hh (by decide) (by split <;> decide)).trans ?_
    cases b <;> rfl
  | err k =>
    refine (parseFormulaValue_special hdr rest 2 (errCode k) hh (by decide) (errCode_lt k)).trans ?_
    simp [parseErr_code, cachedRes]
  | blank => exact parseFormulaValue_special hdr rest 3 0 hh (by decide) (by decide)

theorem step_formula_enc (env : Env) (st : St) (row col xf : Nat) (value rgce : Bytes) (v : Option Val)
    (hv : value.length = 8) (hr : row < 65536) (hc : col < 65536) (hx : xf < 65536)
    (h : parseFormulaValue (fmlaData row col xf value rgce) = .ok v) :
    step env st ⟨0x0006, fmlaData row col xf value rgce, []⟩ =
      match (motive := Option Val → Res St) v with
      | some v => .ok { cells := st.cells ++ [(row, col, typeCached env xf v)], fmla := (row, col) }
      | none => .ok { st with fmla := (row, col) } := by
  obtain ⟨h0, h2, hl, _⟩ := cell_reads row col xf (value ++ (le16 0 ++ (le32 0 ++ (le16 rgce.length ++ rgce)))) hr hc
  have h4 := cell_xf row col xf (value ++ (le16 0 ++ (le32 0 ++ (le16 rgce.length ++ rgce)))) hx
  have h20 : ¬ (fmlaData row col xf value rgce).length < 20 := by
    rw [fmlaData, hl]; simp only [List.length_append, hv, le16_length, le32_length]; omega
  cases v <;> simp [step, h, h20, show u16At (fmlaData row col xf value rgce) 0 = row from h0,
    show u16At (fmlaData row col xf value rgce) 2 = col from h2, show u16At (fmlaData row col xf value rgce) 4 = xf from h4]

theorem mulRkLoop_length (env : Env) (r : Bytes) (row : Nat) : ∀ (n off col : Nat),
    (mulRkLoop env r row n off col).length = n
  | 0, _, _ => rfl
  | n + 1, off, col => by simp [mulRkLoop, mulRkLoop_length env r row n]

theorem mulRkLoop_get (env : Env) (r : Bytes) (row : Nat) (n : Nat) : ∀ (off col i : Nat), i < n →
    (mulRkLoop env r row n off col)[i]? = some (row, col + i, rkNumAt env r (off + 6 * i)) := by
  induction n with
  | zero => intro _ _ i h; omega
  | succ n ih =>
    intro off col i h
    cases i with
    | zero => simp [mulRkLoop]
    | succ i =>
      simp only [mulRkLoop, List.getElem?_cons_succ]
      have hi : i < n := by omega
      rw [ih (off + 6) (col + 1) i hi, show col + 1 + i = col + (i + 1) by omega,
        show off + 6 + 6 * i = off + 6 * (i + 1) by omega]

/-- value of one element of an encoded run -/
def runVal (env : Env) (q : PC) : Val :=
  fmtNum (rkNum env.ops (rkWord q)) env.fmts[q.xf]? env.is1904

-- the cells a MULRK run reads as: one per element, in consecutive columns from the given one
def runCells (env : Env) (row : Nat) : Nat → List PC → List Cell
  | _, [] => []
  | col, q :: g => (row, col, runVal env q) :: runCells env row (col + 1) g

theorem runBody_cons (q : PC) (g : List PC) :
    runBody (q :: g) = le16 q.xf ++ (le32 (rkWord q) ++ runBody g) := rfl

theorem runBody_length (g : List PC) : (runBody g).length = 6 * g.length :=
  ListLoops.length_flatMap_const _ 6 g fun _ _ => rfl

theorem mulRkLoop_run (env : Env) (row : Nat) (suf : Bytes) : ∀ (g : List PC) (pre : Bytes) (col : Nat),
    (∀ q ∈ g, q.xf < 65536 ∧ rkWord q < 4294967296) →
    mulRkLoop env (pre ++ (runBody g ++ suf)) row g.length pre.length col = runCells env row col g
  | [], _, _, _ => rfl
  | q :: g, pre, col, h => by
    obtain ⟨hx, hw⟩ := h q List.mem_cons_self
    have ih := mulRkLoop_run env row suf g (pre ++ (le16 q.xf ++ le32 (rkWord q))) (col + 1)
      (fun q' hq' => h q' (List.mem_cons_of_mem _ hq'))
    -- the first pair sits right after `pre`; what follows it is the data of the remaining run. `e` and `e'` bracket the
    -- same bytes twice: `e` to read the first pair (`rkNumAt_enc`), `e'` to fit the induction hypothesis; `congr 2`
    -- leaves the value of the head cell, the tail being `ih`
    have e : pre ++ (runBody (q :: g) ++ suf) = pre ++ (le16 q.xf ++ (le32 (rkWord q) ++ (runBody g ++ suf))) := by
      rw [runBody_cons, List.append_assoc, List.append_assoc]
    have e' : pre ++ (runBody (q :: g) ++ suf) = (pre ++ (le16 q.xf ++ le32 (rkWord q))) ++ (runBody g ++ suf) := by
      rw [e]; simp only [List.append_assoc]
    have hlen : (pre ++ (le16 q.xf ++ le32 (rkWord q))).length = pre.length + 6 := by
      rw [List.length_append]; rfl
    rw [List.length_cons, mulRkLoop, runCells, ← ih, hlen, ← e']
    congr 2
    rw [e, rkNumAt_enc env pre _ q.xf (rkWord q) _ rfl hx hw, runVal]

theorem parseMulRk_of_fields (env : Env) (r : Bytes) (first n : Nat) (hn : 0 < n) (hl : r.length = 6 + 6 * n)
    (hf : u16At r 2 = first) (hlast : u16At r (r.length - 2) = first + n - 1) :
    parseMulRk env r = .ok (mulRkLoop env r (u16At r 0) n 4 first) := by
  obtain ⟨h6, hcnt, hok⟩ : ¬ r.length < 6 ∧ first + n - 1 + 1 - first = n ∧
      ¬ (first + n - 1 < first ∨ r.length ≠ 6 + 6 * n) := by omega
  rw [parseMulRk, if_neg h6]
  simp only [hf, hlast, hcnt]
  rw [if_neg hok]

theorem parseMulRk_run (env : Env) (row c0 : Nat) (g : List PC) (hne : g ≠ []) (hr : row < 65536)
    (hc : c0 + g.length ≤ 65536) (hg : ∀ q ∈ g, q.xf < 65536 ∧ rkWord q < 4294967296) :
    parseMulRk env (mulRkData row c0 g) = .ok (runCells env row c0 g) := by
  have hpos := List.length_pos_iff.mpr hne
  have hl : (mulRkData row c0 g).length = 6 + 6 * g.length := by
    simp only [mulRkData, List.length_append, le16_length, runBody_length]; omega
  have h0 : u16At (mulRkData row c0 g) 0 = row := u16At_le16 [] row _ 0 rfl hr
  have h2 : u16At (mulRkData row c0 g) 2 = c0 := by
    rw [mulRkData, List.append_assoc]; exact u16At_le16 _ c0 _ 2 rfl (by omega)
  have hlast : u16At (mulRkData row c0 g) ((mulRkData row c0 g).length - 2) = c0 + g.length - 1 := by
    have e : mulRkData row c0 g = (le16 row ++ le16 c0 ++ runBody g) ++ (le16 (c0 + g.length - 1) ++ []) := by
      simp only [mulRkData, List.append_assoc, List.append_nil]
    rw [hl, e]
    exact u16At_le16 _ _ [] _ (by simp only [List.length_append, le16_length, runBody_length]; omega) (by omega)
  rw [parseMulRk_of_fields env _ c0 g.length hpos hl h2 hlast, h0]
  exact congrArg Res.ok (mulRkLoop_run env row (le16 (c0 + g.length - 1)) g (le16 row ++ le16 c0) c0 hg)


/-- a record the framing theorem covers: 16-bit id other than CONTINUE, payload that fits the length field, no CONTINUE chunks -/
def plainRec (r : Rec) : Prop := r.typ < 65536 ∧ r.typ ≠ 0x3C ∧ r.data.length < 65536 ∧ r.cont = []

theorem frameRec_eq (r : Rec) : frameRec r = Biff.frameRec r.typ r.data r.cont := by
  obtain ⟨t, d, cs⟩ := r
  show le16 t ++ le16 d.length ++ d ++ cs.flatMap _ = recHdr t d.length ++ d ++ frameConts cs
  congr 1
  induction cs with
  | nil => rfl
  | cons c cs ih => rw [List.flatMap_cons, ih]; rfl

theorem frameRec_plain (r : Rec) (h : plainRec r) : frameRec r = le16 r.typ ++ (le16 r.data.length ++ r.data) := by
  obtain ⟨_, _, _, hc⟩ := h
  simp [frameRec, hc]

/-- the stream does not go on with a CONTINUE record -/
def noCont (rest : Bytes) : Prop := ¬ (hasLen rest 5 = true ∧ u16 rest = 0x3C)

theorem noCont_nil : noCont [] := Biff.notCont_nil

theorem noCont_frame (r : Rec) (rest : Bytes) (h : plainRec r) : noCont (frameRec r ++ rest) :=
  frameRec_eq r ▸ Biff.notCont_frameRec r.typ r.data r.cont rest h.1 h.2.1

theorem nextRecord_frame (r : Rec) (rest : Bytes) (h : plainRec r) (hr : noCont rest) :
    nextRecord (frameRec r ++ rest) = some (.ok (r, rest)) := by
  obtain ⟨typ, data, cont⟩ := r
  obtain ⟨ht, _, hd, hc⟩ := h
  cases hc
  exact Biff.nextRecord_plain typ data rest ht hd hr

theorem frame_cons (r : Rec) (rs : List Rec) : frame (r :: rs) = frameRec r ++ frame rs := rfl

theorem noCont_frame_append (rs : List Rec) (tail : Bytes) (h : ∀ r ∈ rs, plainRec r) (ht : noCont tail) :
    noCont (frame rs ++ tail) :=
  Biff.notCont_flatMap frameRec rs tail (fun r hr X => noCont_frame r X (h r hr)) ht

theorem itemsF_frame_tail (tail : Bytes) (ht : noCont tail) (fuel : Nat) : ∀ (rs : List Rec), (∀ r ∈ rs, plainRec r) →
    itemsF (rs.length + fuel) (frame rs ++ tail) = rs.map .record ++ itemsF fuel tail
  | [], _ => by rw [List.length_nil, Nat.zero_add]; rfl
  | r :: rs, h => by
    have h' : ∀ x ∈ rs, plainRec x := fun x hx => h x (List.mem_cons_of_mem _ hx)
    rw [List.length_cons, Nat.add_right_comm, frame_cons, List.append_assoc, itemsF,
      nextRecord_frame r _ (h r List.mem_cons_self) (noCont_frame_append rs tail h' ht)]
    exact congrArg (Item.record r :: ·) (itemsF_frame_tail tail ht fuel rs h')

theorem frame_length_ge (rs : List Rec) : 4 * rs.length ≤ (frame rs).length := by
  induction rs with
  | nil => exact Nat.le_refl 0
  | cons r rs ih =>
    have : 4 ≤ (frameRec r).length := by simp [frameRec]; omega
    rw [frame_cons, List.length_append, List.length_cons]; omega

theorem items_frame_tail (rs : List Rec) (tail : Bytes) (h : ∀ r ∈ rs, plainRec r) (ht : noCont tail) :
    ∃ fuel, items (frame rs ++ tail) = rs.map .record ++ itemsF (fuel + 1) tail := by
  have := frame_length_ge rs
  refine ⟨(frame rs ++ tail).length / 4 - rs.length, ?_⟩
  rw [← itemsF_frame_tail tail ht _ rs h, items]
  congr 1
  rw [List.length_append]; omega

theorem items_frame (rs : List Rec) (h : ∀ r ∈ rs, plainRec r) : items (frame rs) = rs.map .record := by
  obtain ⟨fuel, hf⟩ := items_frame_tail rs [] h noCont_nil
  rw [List.append_nil] at hf
  rw [hf, show itemsF (fuel + 1) [] = [] from rfl, List.append_nil]

theorem frame_length_plain : ∀ (rs : List Rec), (∀ r ∈ rs, plainRec r) → (frame rs).length = (rs.map recCost).sum
  | [], _ => rfl
  | r :: rs, h => by
    rw [frame_cons, List.length_append, frame_length_plain rs (fun x hx => h x (List.mem_cons_of_mem _ hx)),
      frameRec_plain r (h r List.mem_cons_self)]
    simp only [List.length_append, le16_length, List.map_cons, List.sum_cons, recCost]; omega

end BiffCells
