import CalVerif.Model.GeometryXls
import CalVerif.Lemmas.Geometry
/-! The xls sheet loop at workbook level: over framed records the `RecordIter` item loop is the record loop of
    `Model/Geometry.lean`; the sheet map answers a name with the regions of the last sheet bearing it. -/
namespace Geometry
open BiffCells (Item)

theorem sheetMergeItems_records (d : Bytes) (c : List Bytes) (tail : List Item) (recs : List Biff.Rec) :
    sheetMergeItems (recs.map Item.record ++ Item.record ⟨0x000A, d, c⟩ :: tail) =
      sheetMergeCells (recs.map (fun r => (r.typ, r.data)) ++ (0x000A, []) :: []) := by
  induction recs with
  | nil => rfl
  | cons r rs ih =>
    rw [List.map_cons, List.map_cons, List.cons_append, List.cons_append, sheetMergeItems, sheetMergeCells, ih]
    rfl

theorem lookup_mapInsert_same {κ : Type} [DecidableEq κ] (m : List (κ × List Rect)) (k : κ) (v : List Rect) :
    xlsWorksheetMergeCells (mapInsert m k v) k = some v :=
  congrArg (Option.map Prod.snd) (find?_append_key Prod.fst k _ [] (k, v) rfl
    (fun x hx => of_decide_eq_true (List.mem_filter.mp hx).2))

theorem lookup_mapInsert_other {κ : Type} [DecidableEq κ] (k k' : κ) (v : List Rect) (h : k' ≠ k)
    (m : List (κ × List Rect)) : xlsWorksheetMergeCells (mapInsert m k v) k' = xlsWorksheetMergeCells m k' := by
  rw [xlsWorksheetMergeCells, mapInsert, List.find?_append,
    ListLoops.find?_filter_of_imp _ _ m (fun a _ ha => decide_eq_true (of_decide_eq_true ha ▸ h)),
    List.find?_cons_of_neg (fun hd => h (of_decide_eq_true hd).symm), List.find?_nil, Option.or_none]
  rfl

/-- the sheet loop fills the map so that a name yields the regions of the substream at the offset of the
    *last* sheet bearing it; names not in the list keep what the map held -/
theorem xlsSheetsMerges_lookup {κ : Type} [DecidableEq κ] (stream : Bytes) (sheets : List (Nat × κ)) :
    ∀ (acc : List (κ × List Rect)),
      (∀ s ∈ sheets, s.1 ≤ stream.length ∧ ∃ ds, sheetMergeItems (BiffCells.items (stream.drop s.1)) = .ok ds) →
      ∃ map, xlsSheetsMerges stream sheets acc = .ok map ∧
        (∀ pre pos name post, sheets = pre ++ (pos, name) :: post → (∀ s ∈ post, s.2 ≠ name) →
          ∃ ds, sheetMergeItems (BiffCells.items (stream.drop pos)) = .ok ds ∧
            xlsWorksheetMergeCells map name = some ds) ∧
        (∀ name, (∀ s ∈ sheets, s.2 ≠ name) → xlsWorksheetMergeCells map name = xlsWorksheetMergeCells acc name) := by
  induction sheets with
  | nil =>
    intro acc _
    exact ⟨acc, rfl, fun pre _ _ _ h => absurd h (List.ne_nil_of_length_pos (by
      rw [List.length_append, List.length_cons]; omega)).symm, fun _ _ => rfl⟩
  | cons s rest ih =>
    intro acc h
    obtain ⟨p, n⟩ := s
    obtain ⟨⟨hp, ds, hds⟩, hrest⟩ := List.forall_mem_cons.mp h
    obtain ⟨map, hmap, hA, hB⟩ := ih (mapInsert acc n ds) hrest
    refine ⟨map, ?_, ?_, ?_⟩
    · rw [xlsSheetsMerges, if_neg (Nat.not_lt.mpr hp), hds]
      exact hmap
    · intro pre pos name post hsplit hpost
      cases pre with
      | nil =>
        injection hsplit with h1 h2
        injection h1 with hpos hname
        subst hpos hname h2
        exact ⟨ds, hds, (hB _ hpost).trans (lookup_mapInsert_same acc _ ds)⟩
      | cons x pre' =>
        injection hsplit with _ h2
        exact hA pre' pos name post h2 hpost
    · intro name hname
      obtain ⟨hn, hrest⟩ := List.forall_mem_cons.mp hname
      rw [hB name hrest]
      exact lookup_mapInsert_other n name ds (Ne.symm hn) acc

end Geometry
