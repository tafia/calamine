import CalVerif.Lemmas.BiffSteps
import CalVerif.Lemmas.Range
import CalVerif.Lemmas.ListLoops
/-! C02: from a logical sheet to what the worksheet loop reads. `Reads env rs cs`: what the loop makes of a list of
    records whatever its state (`runRecs` appends the cells `cs`, every record is framed on its own), closed under `++`,
    proved for the records of a cell, of a MULRK group and of a whole encoded sheet (`Reads.encode`). The loop's second
    `from_sparse` call, on its `formulas` vector, always returns (`withFormulaRange_eq`), so only the cells matter;
    `textOk`, `PCok`, `cellOk`, defined here, occur in the statements of Props/C02 (`cellOk` / `textOk` are the
    hypotheses of its sheet theorems). -/

namespace BiffCells
open Biff

-- 4000 units: a round bound under which a LABEL / STRING payload (`3 + 2·units`, plus the 6-byte cell header) fits the
-- 16-bit length field and BIFF8's 8224-byte record limit; any bound with `3 + 2n < 65530` would carry the proofs
def textOk (s : List Nat) : Prop := validText s ∧ (toUnits s).length ≤ 4000

/-- the value the reader shows for a record choice under the XF `xf`; the `.formula` arm is `cachedVal` of Props/C02,
    which is written out there for the statement of `formula_cached_value` -/
def physVal (env : Env) (xf : Nat) : Phys → Val
  | .number x => fmtF64 x env.fmts[xf]? env.is1904
  | .rk w => fmtNum (rkNum env.ops w) env.fmts[xf]? env.is1904
  | .label _ s => .str s
  | .labelSst i => .str (env.strings[i]?.getD [])
  | .bool b => .bool b
  | .err k => .error k
  | .formula c _ =>
    match c with
    | .num x => fmtF64 x env.fmts[xf]? env.is1904
    | .str _ s _ => .str s
    | .bool b => .bool b
    | .err k => .error k
    | .blank => .str []

def pcVal (env : Env) (p : PC) : Val := physVal env p.xf p.phys

def pcCell (env : Env) (p : PC) : Cell := (p.row, p.col, pcVal env p)

/-- a planned cell the encoder can represent -/
def PCok (env : Env) (p : PC) : Prop :=
  p.row < 65536 ∧ p.col < 256 ∧ p.xf < 65536 ∧ (∀ r ∈ p.before, ignorable r = true) ∧
  match p.phys with
  | .number x => x < 18446744073709551616
  | .rk w => w < 4294967296
  | .label _ s => textOk s
  | .labelSst i => i < 4294967296 ∧ ∃ s, env.strings[i]? = some s
  | .bool _ => True
  | .err _ => True
  | .formula c rgce => rgce.length ≤ 255 ∧
    match c with
    | .num x => x < 18446744073709551616 ∧ x / 281474976710656 ≠ 65535
    | .str _ s btw => textOk s ∧ ∀ r ∈ btw, ignorable r = true
    | _ => True

/-- the last conjunct of `PCok`, which writes this `match` out again (it stands in the statement of
    `formula_cached_value`): the two are edited together, `planCell_ok` passes one for the other by unfolding -/
def physOk (env : Env) (ph : Phys) : Prop :=
  match ph with
  | .number x => x < 18446744073709551616
  | .rk w => w < 4294967296
  | .label _ s => textOk s
  | .labelSst i => i < 4294967296 ∧ ∃ s, env.strings[i]? = some s
  | .bool _ => True
  | .err _ => True
  | .formula c rgce => rgce.length ≤ 255 ∧
    match c with
    | .num x => x < 18446744073709551616 ∧ x / 281474976710656 ≠ 65535
    | .str _ s btw => textOk s ∧ ∀ r ∈ btw, ignorable r = true
    | _ => True

/-- `step` folded over records (none of which is EOF) -/
def runRecs (env : Env) : List Rec → St → Res St
  | [], st => .ok st
  | r :: rs, st =>
    match step env st r with
    | .ok st' => runRecs env rs st'
    | .err e => .err e
    | .panic s => .panic s
    | .outOfFuel => .outOfFuel

theorem runRecs_append (env : Env) : ∀ (rs rs' : List Rec) (st st1 : St), runRecs env rs st = .ok st1 →
    runRecs env (rs ++ rs') st = runRecs env rs' st1
  | [], _, st, st1, h => by cases h; rfl
  | r :: rs, rs', st, st1, h => by
    rw [List.cons_append, runRecs]
    rw [runRecs] at h
    cases hs : step env st r with
    | ok st' => rw [hs] at h; exact runRecs_append env rs rs' st' st1 h
    | _ => rw [hs] at h; cases h

theorem runRecs_one {env : Env} {st st' : St} {r : Rec} (h : step env st r = .ok st') :
    runRecs env [r] st = .ok st' := by rw [runRecs, h]; rfl

theorem runRecs_skip (env : Env) (st : St) (ign rs : List Rec) (h : ∀ r ∈ ign, ignorable r = true) :
    runRecs env (ign ++ rs) st = runRecs env rs st :=
  ListLoops.skip_append (f := fun rs => runRecs env rs st)
    (fun r rest hr => by rw [runRecs, step_ignorable env st r hr]) ign rs h

theorem runRecs_ignorable (env : Env) (st : St) (rs : List Rec) (h : ∀ r ∈ rs, ignorable r = true) :
    runRecs env rs st = .ok st := by
  rw [← List.append_nil rs, runRecs_skip env st rs [] h]; rfl

theorem textOk_len {s : List Nat} (h : textOk s) : (toUnits s).length < 65536 :=
  Nat.lt_of_le_of_lt h.2 (by decide)

/-- a chain of adjacent RK cells of one row with nothing between them (what `chunk` groups) -/
def isRun : List PC → Prop
  | [] => True
  | [_] => True
  | p :: q :: g => isRk p = true ∧ isRk q = true ∧ q.before = [] ∧ q.row = p.row ∧ q.col = p.col + 1 ∧ isRun (q :: g)

theorem chunk_flatten : ∀ (ps : List PC), (chunk ps).flatten = ps
  | [] => rfl
  | p :: rest => by
    have ih := chunk_flatten rest
    rw [chunk]
    cases hc : chunk rest with
    | nil => rw [hc] at ih; rw [← ih]; rfl
    | cons g gs =>
      rw [hc] at ih
      dsimp only
      split <;> rw [← ih] <;> rfl

theorem chunk_groups : ∀ (ps : List PC), ∀ g ∈ chunk ps, g ≠ [] ∧ isRun g
  | [] => nofun
  | p :: rest => by
    have ih := chunk_groups rest
    rw [chunk]
    cases hc : chunk rest with
    | nil => intro g hg; cases List.mem_singleton.mp hg; exact ⟨List.cons_ne_nil _ _, trivial⟩
    | cons g0 gs =>
      rw [hc] at ih
      dsimp only
      split
      next hj =>
        intro g hg
        rcases List.mem_cons.mp hg with rfl | hg
        · refine ⟨List.cons_ne_nil _ _, ?_⟩
          obtain ⟨hne, hrun⟩ := ih g0 List.mem_cons_self
          cases g0 with
          | nil => exact absurd rfl hne
          | cons q g' =>
            simp only [joinable, Bool.and_eq_true, beq_iff_eq, List.isEmpty_iff] at hj
            -- the `&&` chain of `joinable` nests to the left: isRk p, isRk q, q.join, q.before = [], row, column
            obtain ⟨⟨⟨⟨⟨h1, h2⟩, _⟩, h4⟩, h5⟩, h6⟩ := hj
            exact ⟨h1, h2, h4, h5, h6, hrun⟩
        · exact ih g (List.mem_cons_of_mem _ hg)
      next =>
        intro g hg
        rcases List.mem_cons.mp hg with rfl | hg
        · exact ⟨List.cons_ne_nil _ _, trivial⟩
        · exact ih g hg

theorem isRun_allRk : ∀ (p q : PC) (g : List PC), isRun (p :: q :: g) → ∀ x ∈ p :: q :: g, isRk x = true
  | p, q, [], h, x, hx => by
    rcases List.mem_cons.mp hx with rfl | hx
    · exact h.1
    · cases List.mem_singleton.mp hx; exact h.2.1
  | p, q, r :: g, h, x, hx => by
    obtain ⟨hp, _, _, _, _, hrest⟩ := h
    rcases List.mem_cons.mp hx with rfl | hx
    · exact hp
    · exact isRun_allRk q r g hrest x hx

theorem phys_of_isRk {p : PC} (h : isRk p = true) : p.phys = .rk (rkWord p) := by
  unfold isRk at h
  unfold rkWord
  cases hp : p.phys with
  | rk w => rfl
  | _ => rw [hp] at h; cases h

theorem runVal_eq (env : Env) (q : PC) (h : isRk q = true) : runVal env q = pcVal env q := by
  rw [pcVal, phys_of_isRk h]; rfl

theorem runCells_eq (env : Env) : ∀ (p : PC) (g : List PC), (∀ x ∈ p :: g, isRk x = true) → isRun (p :: g) →
    runCells env p.row p.col (p :: g) = (p :: g).map (pcCell env)
  | p, [], hk, _ => by rw [runCells, runVal_eq env p (hk p List.mem_cons_self)]; rfl
  | p, q :: g, hk, hr => by
    obtain ⟨_, _, _, hrow, hcol, hrest⟩ := hr
    have ih := runCells_eq env q g (fun x hx => hk x (List.mem_cons_of_mem _ hx)) hrest
    rw [hrow, hcol] at ih
    rw [runCells, ih, runVal_eq env p (hk p List.mem_cons_self)]; rfl


theorem isRun_span : ∀ (p : PC) (g : List PC), isRun (p :: g) → (∀ x ∈ p :: g, x.col < 256) →
    p.col + (p :: g).length ≤ 256
  | p, [], _, h => by have := h p List.mem_cons_self; rw [List.length_singleton]; omega
  | p, q :: g, hr, h => by
    obtain ⟨_, _, _, _, hcol, hrest⟩ := hr
    have ih := isRun_span q g hrest (fun x hx => h x (List.mem_cons_of_mem _ hx))
    simp only [List.length_cons] at ih ⊢; omega

theorem PCok.rk {env : Env} {p : PC} (h : PCok env p) (hk : isRk p = true) :
    p.xf < 65536 ∧ rkWord p < 4294967296 := by
  obtain ⟨_, _, hx, _, hp⟩ := h
  rw [phys_of_isRk hk] at hp
  exact ⟨hx, hp⟩

theorem sheetLoop_records (env : Env) : ∀ (rs : List Rec) (rest : List Item) (st st' : St),
    (∀ r ∈ rs, r.typ ≠ 0x000A) → runRecs env rs st = .ok st' →
    sheetLoop env (rs.map .record ++ rest) st = sheetLoop env rest st'
  | [], _, st, st', _, h => by cases h; rfl
  | r :: rs, rest, st, st', hne, h => by
    rw [runRecs] at h
    rw [List.map_cons, List.cons_append, sheetLoop, if_neg (hne r List.mem_cons_self)]
    cases hs : step env st r with
    | ok st1 =>
      rw [hs] at h
      exact sheetLoop_records env rs rest st1 st' (fun x hx => hne x (List.mem_cons_of_mem _ hx)) h
    | _ => rw [hs] at h; cases h


/-- what the framing and the loop need of an emitted record -/
def goodRec (r : Rec) : Prop := plainRec r ∧ r.typ ≠ 0x000A

theorem ignorable_good (r : Rec) (h : ignorable r = true) : goodRec r := by
  obtain ⟨h1, h2, h3, h4⟩ := (ignorable_iff r).mp h
  have hn : r.typ ≠ 0x3C ∧ r.typ ≠ 0x0A := by
    rcases h4 with h4 | ⟨h4, _⟩
    · exact ⟨fun heq => h4 (heq ▸ by decide), fun heq => h4 (heq ▸ by decide)⟩
    · omega
  exact ⟨⟨h1, hn.1, by omega, h3⟩, hn.2⟩

theorem goodRec_of_bounds (t : Nat) (d : Bytes) (ht : t < 65536) (h3c : t ≠ 0x3C) (ha : t ≠ 0x0A) (hd : d.length < 65536) :
    goodRec ⟨t, d, []⟩ := ⟨⟨ht, h3c, hd, rfl⟩, ha⟩

/-- a cell record: `65530` is the 16-bit length field less the 6-byte cell header -/
theorem goodRec_cell (t : Nat) (p : PC) (pay : Bytes) (ht : t < 65536 ∧ t ≠ 0x3C ∧ t ≠ 0x0A)
    (hl : pay.length < 65530) : goodRec ⟨t, cellHdr p ++ pay, []⟩ :=
  ⟨⟨ht.1, ht.2.1, by rw [List.length_append, cellHdr_length]; omega, rfl⟩, ht.2.2⟩

theorem bofRec_ignorable : ignorable bofRec = true := by decide

theorem u16At_lt (b : Bytes) (i : Nat) : u16At b i < 65536 := by
  rw [u16At_eq]; exact LittleEndian.rd_lt 2 b i

theorem formulaCells_lt : ∀ (its : List Item), ∀ c ∈ formulaCells its, c.1 < 65536 ∧ c.2.1 < 65536
  | [], _, h => nomatch h
  | .fail _ :: _, _, h => nomatch h
  | .record r :: rest, c, h => by
    rw [formulaCells] at h
    split at h
    · cases h
    · split at h
      · rcases List.mem_cons.mp h with rfl | h
        · exact ⟨u16At_lt _ _, u16At_lt _ _⟩
        · exact formulaCells_lt rest c h
      · exact formulaCells_lt rest c h

/-- `from_sparse` takes cells in any order (fix D40) and the coordinates of a FORMULA record are 16-bit: the second
    `from_sparse` call of the sheet loop, on its `formulas` vector, always returns -/
theorem withFormulaRange_eq (its : List Item) (r : Res (Range.Rng Val)) : withFormulaRange its r = r := by
  obtain ⟨fr, hfr⟩ := Range.fromSparse_of_pre (α := Nat) _
    (Range.sparsePre_of_lt 65536 65536 (by decide) (by decide) _ (formulaCells_lt its))
  unfold withFormulaRange
  rw [hfr]
  cases r <;> rfl

/-- whatever the state, the loop reads the records `rs` as the cells `cs` (appended in order); each record is framed
    on its own and none is EOF -/
structure Reads (env : Env) (rs : List Rec) (cs : List Cell) : Prop where
  good : ∀ r ∈ rs, goodRec r
  run : ∀ st, ∃ f, runRecs env rs st = .ok ⟨st.cells ++ cs, f⟩

namespace Reads
variable {env : Env}

theorem nil : Reads env [] [] :=
  ⟨fun _ h => (nomatch h), fun st => ⟨st.fmla, by rw [List.append_nil]; rfl⟩⟩

theorem append {a b : List Rec} {ca cb : List Cell}
    (ha : Reads env a ca) (hb : Reads env b cb) : Reads env (a ++ b) (ca ++ cb) where
  good r hr := (List.mem_append.mp hr).elim (ha.good r) (hb.good r)
  run st := by
    obtain ⟨f, hf⟩ := ha.run st
    obtain ⟨f', hf'⟩ := hb.run ⟨st.cells ++ ca, f⟩
    exact ⟨f', by rw [runRecs_append env _ _ _ _ hf, hf', List.append_assoc]⟩

theorem skip {rs : List Rec} (h : ∀ r ∈ rs, ignorable r = true) : Reads env rs [] where
  good r hr := ignorable_good r (h r hr)
  run st := ⟨st.fmla, by rw [runRecs_ignorable env st rs h, List.append_nil]⟩

theorem single {r : Rec} {cs : List Cell} (hg : goodRec r)
    (h : ∀ st, ∃ f, step env st r = .ok ⟨st.cells ++ cs, f⟩) : Reads env [r] cs where
  good r' hr := by cases List.mem_singleton.mp hr; exact hg
  run st := let ⟨f, hs⟩ := h st; ⟨f, runRecs_one hs⟩

theorem phys (p : PC) (h : PCok env p) :
    Reads env (physRecs p) [pcCell env p] := by
  obtain ⟨hr, hc, hx, _, hp⟩ := h
  have hc' : p.col < 65536 := by omega
  unfold physRecs pcCell pcVal physVal
  cases hph : p.phys with
  | number x =>
    rw [hph] at hp
    exact single (goodRec_cell _ p _ (by decide) (show (8 : Nat) < 65530 by decide))
      fun st => ⟨_, step_number (parseNumber_enc env p.row p.col p.xf x hr hc' hx hp)⟩
  | rk w =>
    rw [hph] at hp
    exact single (goodRec_cell _ p _ (by decide) (show (4 : Nat) < 65530 by decide))
      fun st => ⟨_, step_rk (parseRk_enc env p.row p.col p.xf w hr hc' hx hp)⟩
  | label wide s =>
    rw [hph] at hp
    have := xlString_length_le wide s; have := hp.2
    exact single (goodRec_cell _ p _ (by decide) (by omega))
      fun st => ⟨_, step_label (parseLabel_of p.row p.col p.xf _ s hr hc' (parse_xlString wide s hp.1 (textOk_len hp)))⟩
  | labelSst i =>
    rw [hph] at hp
    obtain ⟨hi, s, hs⟩ := hp
    refine single (goodRec_cell _ p _ (by decide) (show (4 : Nat) < 65530 by decide))
      fun st => ⟨st.fmla, (step_labelSst (parseLabelSst_enc env p.row p.col p.xf i s hr hc' hi hs)).trans ?_⟩
    simp only [hs, Option.getD_some]
  | bool b =>
    exact single (goodRec_cell _ p _ (by decide) (show (2 : Nat) < 65530 by decide))
      fun st => ⟨_, step_boolerr (parseBoolErr_bool p.row p.col p.xf b hr hc')⟩
  | err k =>
    exact single (goodRec_cell _ p _ (by decide) (show (2 : Nat) < 65530 by decide))
      fun st => ⟨_, step_boolerr (parseBoolErr_err p.row p.col p.xf k hr hc')⟩
  | formula c rgce =>
    rw [hph] at hp
    obtain ⟨hg, hcv⟩ := hp
    obtain ⟨_, _, hl, _⟩ :=
      cell_reads p.row p.col p.xf (cachedBytes c ++ (le16 0 ++ (le32 0 ++ (le16 rgce.length ++ rgce)))) hr hc'
    have hgood : goodRec ⟨0x0006, fmlaData p.row p.col p.xf (cachedBytes c) rgce, []⟩ :=
      goodRec_of_bounds _ _ (by decide) (by decide) (by decide) (by
        rw [fmlaData, hl]; simp only [List.length_append, cachedBytes_length, le16_length, le32_length]; omega)
    have hstep := fun st => step_formula_enc env st p.row p.col p.xf (cachedBytes c) rgce _ (cachedBytes_length c) hr hc' hx
      (parseFormulaValue_enc _ _ c rfl (by cases c with | num x => exact hcv | _ => trivial))
    cases c with
    | str wide s btw =>
      -- FORMULA sets `fmla_pos`, the ignorable records keep it, STRING puts the text there
      have := xlString_length_le wide s; have := hcv.1.2
      have hs : goodRec ⟨0x0207, xlString wide s, []⟩ :=
        goodRec_of_bounds _ _ (by decide) (by decide) (by decide) (by omega)
      refine ⟨?_, fun st => ⟨(p.row, p.col), ?_⟩⟩
      · intro r hr
        rcases List.mem_cons.mp hr with rfl | hr
        · exact hgood
        · rcases List.mem_append.mp hr with hr | hr
          · exact ignorable_good r (hcv.2 r hr)
          · cases List.mem_singleton.mp hr; exact hs
      · show runRecs env ([⟨0x0006, fmlaData p.row p.col p.xf (cachedBytes (.str wide s btw)) rgce, []⟩] ++ (btw ++ [_])) st
          = _
        rw [runRecs_append env _ _ _ _ (runRecs_one (hstep st)), runRecs_skip env _ btw _ hcv.2]
        exact runRecs_one (step_string (parse_xlString wide s hcv.1.1 (textOk_len hcv.1)))
    | _ => exact single hgood fun st => ⟨_, hstep st⟩

theorem group (g : List PC) (hne : g ≠ []) (hrun : isRun g) (hok : ∀ p ∈ g, PCok env p) :
    Reads env (groupRecs g) (g.map (pcCell env)) := by
  match g, hne, hrun, hok with
  | [p], _, _, hok =>
    have hp := hok p List.mem_cons_self
    exact (skip hp.2.2.2.1).append (phys p hp)
  | p :: q :: g', _, hrun, hok =>
    have hp := hok p List.mem_cons_self
    have hall := isRun_allRk p q g' hrun
    have hspan := isRun_span p (q :: g') hrun (fun x hx => (hok x hx).2.1)
    have hpm := parseMulRk_run env p.row p.col (p :: q :: g') (List.cons_ne_nil _ _) hp.1
      (Nat.le_trans hspan (by decide)) (fun x hx => (hok x hx).rk (hall x hx))
    rw [runCells_eq env p (q :: g') hall hrun] at hpm
    have hgood : goodRec ⟨0x00BD, mulRkData p.row p.col (p :: q :: g'), []⟩ :=
      goodRec_of_bounds _ _ (by decide) (by decide) (by decide) (by
        simp only [mulRkData, List.length_append, le16_length, runBody_length]; omega)
    exact (skip hp.2.2.2.1).append (single hgood fun st => ⟨st.fmla, step_mulrk hpm⟩)

theorem groups : ∀ (gs : List (List PC)), (∀ g ∈ gs, g ≠ [] ∧ isRun g) → (∀ g ∈ gs, ∀ p ∈ g, PCok env p) →
    Reads env (gs.flatMap groupRecs) (gs.flatten.map (pcCell env))
  | [], _, _ => nil
  | g :: gs, h1, h2 => by
    have h := (group g (h1 g List.mem_cons_self).1 (h1 g List.mem_cons_self).2 (h2 g List.mem_cons_self)).append
      (groups gs (fun x hx => h1 x (List.mem_cons_of_mem _ hx)) (fun x hx => h2 x (List.mem_cons_of_mem _ hx)))
    rwa [← List.map_append] at h

theorem encode (ps : List PC) (hok : ∀ p ∈ ps, PCok env p) :
    Reads env ((chunk ps).flatMap groupRecs) (ps.map (pcCell env)) := by
  have h := groups (chunk ps) (chunk_groups ps) (fun g hg p hp => hok p (chunk_flatten ps ▸ List.mem_flatten_of_mem hg hp))
  rwa [chunk_flatten] at h

end Reads

def lvalOk : LVal → Prop
  | .num x => x < 18446744073709551616
  | .str s => textOk s
  | _ => True

/-- a logical cell inside the BIFF8 grid with a representable value -/
def cellOk (c : LCell) : Prop := c.row < 65536 ∧ c.col < 256 ∧ lvalOk c.val

theorem filter_ignorable (l : List Rec) : ∀ r ∈ l.filter ignorable, ignorable r = true := by
  intro r hr; exact (List.mem_filter.mp hr).2

theorem choose_ok (env : Env) (v : LVal) (e : Enc) (hv : lvalOk v) : physOk env (choose env v e) := by
  unfold choose
  split
  · -- a number under an RK word: RK if the word denotes it, else NUMBER
    split
    · next h => exact h.1
    · exact hv
  · -- a number as a FORMULA result: NUMBER if its last two bytes are `FF FF`
    split
    · exact hv
    · next h => exact ⟨List.length_take_le 255 _, hv, h⟩
  · exact hv -- a number under any other entry: NUMBER
  · exact hv -- a string under LABEL
  · -- a string under LABELSST: the index if it names the string, else a 16-bit LABEL
    split
    · next h => exact ⟨h.1, _, h.2⟩
    · exact hv
  · -- a string as a FORMULA result: type 3 for the empty string if asked, else type 0 and a STRING record
    split
    · exact ⟨List.length_take_le 255 _, trivial⟩
    · exact ⟨List.length_take_le 255 _, hv, filter_ignorable _⟩
  · exact hv -- a string under any other entry: 16-bit LABEL
  -- booleans and errors: FORMULA result or BOOLERR
  · exact ⟨List.length_take_le 255 _, trivial⟩
  · trivial
  · exact ⟨List.length_take_le 255 _, trivial⟩
  · trivial

theorem planCell_ok (env : Env) (c : LCell) (l : Lay) (h : cellOk c) : PCok env (planCell env c l) :=
  ⟨h.1, h.2.1, Nat.mod_lt _ (by decide), filter_ignorable _, choose_ok env c.val l.enc h.2.2⟩

theorem fmtNum_typeNum (n : Num) (fmt : Option CellFormat) (d : Bool) : fmtNum n fmt d = typeNum fmt d n := by
  cases n <;> (cases fmt with | none => rfl | some f => cases f <;> rfl)

theorem fmtF64_typeNum (x : Nat) (fmt : Option CellFormat) (d : Bool) : fmtF64 x fmt d = typeNum fmt d (.float x) :=
  fmtNum_typeNum (.float x) fmt d

theorem numOf_typeNum (fmt : Option CellFormat) (d : Bool) (n : Num) : numOf (typeNum fmt d n) = some (numBits n) := by
  cases n <;> (cases fmt with | none => rfl | some f => cases f <;> rfl)

theorem typeNum_of_plain (fmt : Option CellFormat) (d : Bool) (n : Num) (h1 : fmt ≠ some .dateTime)
    (h2 : fmt ≠ some .timeDelta) : typeNum fmt d n = match n with | .int v => .int v | .float b => .float b := by
  unfold typeNum
  cases fmt with
  | none => rfl
  | some f => cases f with
    | other => rfl
    | dateTime => exact absurd rfl h1
    | timeDelta => exact absurd rfl h2

theorem expectVal_rk (env : Env) (c : LCell) (l : Lay) (x w : Nat) (n : Num) (hv : c.val = .num x)
    (he : l.enc = .num (.rk w)) (hw : w < 4294967296) (hs : rkNum env.ops w = n) (hb : numBits n = x)
    (h1 : env.fmts[l.xf % 65536]? ≠ some .dateTime) (h2 : env.fmts[l.xf % 65536]? ≠ some .timeDelta) :
    expectVal env c l = match (motive := Num → Val) n with | .int v => .int v | .float b => .float b := by
  rw [rkNum_eq_rkSpec] at hs
  simp only [expectVal, hv, he, numContent, hs, hb, hw, and_self, if_true]
  exact typeNum_of_plain _ _ n h1 h2

theorem numContent_other (env : Env) (x : Nat) (e : Enc) (h : ∀ w, e = .num (.rk w) → False) :
    numContent env x e = .float x := by
  unfold numContent
  split
  · next w => exact (h w rfl).elim
  · rfl

theorem choose_expect (env : Env) (v : LVal) (e : Enc) (xf : Nat) :
    physVal env xf (choose env v e) =
      match v with
      | .num x => typeNum env.fmts[xf]? env.is1904 (numContent env x e)
      | v => v.toVal := by
  unfold choose
  split
  · -- a number under an RK word: the RkNumber reading if the word denotes it, else the double
    simp only [numContent]
    split
    · exact (fmtNum_typeNum _ _ _).trans (by rw [rkNum_eq_rkSpec])
    · exact fmtF64_typeNum _ _ _
  · split <;> exact fmtF64_typeNum _ _ _ -- a number as a FORMULA result or the NUMBER fallback
  · -- a number under any other entry
    next x h _ => exact (fmtF64_typeNum _ _ _).trans (congrArg (typeNum _ _) (numContent_other env x e h).symm)
  · rfl -- a string under LABEL
  · -- a string under LABELSST: the table entry is the string
    split
    · next h => exact congrArg Val.str (by rw [h.2]; rfl)
    · rfl
  · -- a string as a FORMULA result: type 3 stands for the empty string
    split
    · next h => exact congrArg Val.str h.1.symm
    · rfl
  all_goals rfl -- strings elsewhere, booleans, errors: the value itself

theorem planCell_expect (env : Env) (c : LCell) (l : Lay) :
    pcVal env (planCell env c l) = expectVal env c l :=
  choose_expect env c.val l.enc (l.xf % 65536)

theorem plan_getElem (env : Env) : ∀ (S : List LCell) (lays : List Lay) (i : Nat),
    (plan env S lays)[i]? = S[i]?.map (fun c => planCell env c (lays[i]?.getD default))
  | [], _, _ => rfl
  | _ :: _, [], 0 => rfl
  | _ :: cs, [], i + 1 => plan_getElem env cs [] i
  | _ :: _, _ :: _, 0 => rfl
  | _ :: cs, _ :: ls, i + 1 => plan_getElem env cs ls i

theorem plan_ok (env : Env) (S : List LCell) (lays : List Lay) (hS : ∀ c ∈ S, cellOk c) :
    ∀ p ∈ plan env S lays, PCok env p := by
  intro p hp
  obtain ⟨i, hi⟩ := List.getElem?_of_mem hp
  rw [plan_getElem] at hi
  obtain ⟨c, hc, rfl⟩ := Option.map_eq_some_iff.mp hi
  exact planCell_ok env c _ (hS c (List.mem_of_getElem? hc))

theorem plan_pos (env : Env) : ∀ (S : List LCell) (lays : List Lay),
    (plan env S lays).map (fun p => (p.row, p.col)) = S.map (fun c => (c.row, c.col))
  | [], _ => rfl
  | c :: cs, [] => congrArg ((c.row, c.col) :: ·) (plan_pos env cs [])
  | c :: cs, _ :: ls => congrArg ((c.row, c.col) :: ·) (plan_pos env cs ls)

theorem pairwise_inj : ∀ (S : List LCell), S.Pairwise cellLt → ∀ a ∈ S, ∀ b ∈ S,
    a.row = b.row → a.col = b.col → a = b :=
  fun _ hp _ ha _ hb hr hc =>
    ListLoops.eq_of_pairwise_not (R := fun a b => a.row = b.row ∧ a.col = b.col) (fun _ _ h => ⟨h.1.symm, h.2.symm⟩)
      (hp.imp fun hlt he => by unfold cellLt at hlt; omega) ha hb ⟨hr, hc⟩

end BiffCells
