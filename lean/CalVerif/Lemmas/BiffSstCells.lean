import CalVerif.Lemmas.BiffSteps
/-! C12 ∘ C02: the shared-string table read by the globals loop of `parse_workbook` (C12's `Biff.parseSst`)
    is the table the worksheet loop indexes for LABELSST cells (C02's `BiffCells.parseLabelSst`,
    `env.strings[i]`). This file composes the two models and proves that the cells see the stored text under
    every legal SST layout.

    `wbStrings` mirrors, of `parse_workbook`'s globals loop (`for record in RecordIter { match r.typ … }`), exactly
    what concerns the variable `strings`: it is assigned by the SST arm (`strings = parse_sst(&mut r, &encoding)?`)
    and by no other arm, the EOF record breaks the loop, a framing or parser error ends the open. What the other
    arms do (code page, formats, sheet table, names …) is the parameter `arm`: it can fail, it cannot touch
    `strings`. `workbookSheet` then hands the table to the worksheet loop of C02 (`sheetRange`, on
    `stream.get(pos..)`); everything else the worksheet loop reads from the globals (formats, 1904 flag — C10 /
    C16 own them) is the parameter `env0`, of which only the field `strings` is replaced.

    Unlike the definitions under `Model/`, `wbStrings` / `workbookSheet` and the encoder `wbStream` are run by no driver:
    their parts (`Biff.parseSst`, `BiffCells.sheetRange`) are tied to the code by C12's and C02's runs, the few lines that
    compose them by reading only. -/

namespace BiffWorkbook
open Biff (Bytes Rec)

/-- the globals loop as far as `strings` goes; `fuel` bounds the number of records -/
def wbStrings (arm : Rec → Res Unit) : Nat → Bytes → List (List Nat) → Res (List (List Nat))
  | 0, _, _ => .outOfFuel
  | fuel + 1, s, strs =>
    match Biff.nextRecord s with
    | none => .ok strs
    | some x => do
      let (r, rest) ← x
      if r.typ = 0x000A then .ok strs
      else if r.typ = 0x00FC then do
        let ss ← Biff.parseSst r
        wbStrings arm fuel rest ss
      else do
        arm r
        wbStrings arm fuel rest strs

/-- `parse_workbook` for the sheet whose BoundSheet8 offset is `pos`: the strings of the globals loop, then
    the worksheet loop over `stream.get(pos..)` -/
def workbookSheet (arm : Rec → Res Unit) (env0 : BiffCells.Env) (stream : Bytes) (pos : Nat) :
    Res (Range.Rng BiffCells.Val) := do
  let strs ← wbStrings arm (stream.length + 1) stream []
  if stream.length < pos then .err "EoStream:sheet substream offset"
  else BiffCells.sheetRange { env0 with strings := strs } (stream.drop pos)

/-- records without CONTINUE, as stream bytes -/
def framePlain : List (Nat × Bytes) → Bytes
  | [] => []
  | (t, d) :: rs => Biff.frameRec t d [] ++ framePlain rs

/-- a globals record other than SST / EOF / CONTINUE that fits the framing and whose arm succeeds -/
def inertRec (arm : Rec → Res Unit) (p : Nat × Bytes) : Prop :=
  p.1 < 65536 ∧ p.1 ≠ 0x3C ∧ p.1 ≠ 0xFC ∧ p.1 ≠ 0x0A ∧ p.2.length < 65536 ∧ arm ⟨p.1, p.2, []⟩ = .ok ()

theorem notCont_framePlain (arm : Rec → Res Unit) (rs : List (Nat × Bytes)) (X : Bytes)
    (h : ∀ p ∈ rs, inertRec arm p) (hX : Biff.notCont X) : Biff.notCont (framePlain rs ++ X) := by
  cases rs with
  | nil => simpa [framePlain] using hX
  | cons p rs =>
    obtain ⟨t, d⟩ := p
    have hp := h (t, d) (by simp)
    simp only [framePlain, List.append_assoc]
    exact Biff.notCont_frameRec t d [] _ hp.1 hp.2.1

theorem wbStrings_skip (arm : Rec → Res Unit) : ∀ (rs : List (Nat × Bytes)) (X : Bytes) (strs : List (List Nat))
    (fuel : Nat), (∀ p ∈ rs, inertRec arm p) → Biff.notCont X →
    wbStrings arm (rs.length + fuel) (framePlain rs ++ X) strs = wbStrings arm fuel X strs
  | [], X, strs, fuel, _, _ => by rw [List.length_nil, Nat.zero_add]; rfl
  | (t, d) :: rs, X, strs, fuel, h, hX => by
    obtain ⟨ht, h3c, hfc, h0a, hd, harm⟩ := h (t, d) List.mem_cons_self
    have hrest : ∀ p ∈ rs, inertRec arm p := fun p hp => h p (List.mem_cons_of_mem _ hp)
    rw [List.length_cons, Nat.succ_add, framePlain, List.append_assoc, wbStrings,
      Biff.nextRecord_plain t d (framePlain rs ++ X) ht hd (notCont_framePlain arm rs X hrest hX)]
    simp only [Res.bind_ok, h0a, hfc, if_false, harm]
    exact wbStrings_skip arm rs X strs fuel hrest hX

theorem framePlain_length_ge (rs : List (Nat × Bytes)) : rs.length ≤ (framePlain rs).length := by
  induction rs with
  | nil => exact Nat.le_refl _
  | cons p rs ih =>
    obtain ⟨t, d⟩ := p
    rw [framePlain, Biff.frameRec, List.length_append, List.length_append, List.length_append, Biff.recHdr_length,
      List.length_cons]
    omega

/-- the workbook stream: globals (inert records, the SST under layout `lys`, inert records, EOF) then `after` -/
def wbStream (cstTotal : Nat) (table : List Biff.Entry) (lys : List Biff.EntryLayout)
    (pre post : List (Nat × Bytes)) (after : Bytes) : Bytes :=
  framePlain pre ++ (Biff.frameSst (Biff.encodeSst cstTotal table lys) ++
    (framePlain post ++ (Biff.frameRec 0x0A [] [] ++ after)))

theorem wbStream_length_ge (cstTotal : Nat) (table : List Biff.Entry) (lys : List Biff.EntryLayout)
    (pre post : List (Nat × Bytes)) (after : Bytes) :
    pre.length + post.length + 4 ≤ (wbStream cstTotal table lys pre post after).length := by
  have h1 := framePlain_length_ge pre
  have h2 := framePlain_length_ge post
  have h3 : (Biff.frameRec 0x0A [] [] ++ after).length = 4 + after.length := by rw [List.length_append]; rfl
  rw [wbStream, List.length_append, List.length_append, List.length_append, h3]
  omega

theorem wbStrings_encode (arm : Rec → Res Unit) (cstTotal : Nat) (table : List Biff.Entry)
    (lys : List Biff.EntryLayout) (h : Biff.Legal cstTotal table lys)
    (pre post : List (Nat × Bytes)) (hpre : ∀ p ∈ pre, inertRec arm p) (hpost : ∀ p ∈ post, inertRec arm p)
    (after : Bytes) (hafter : Biff.notCont after) (init : List (List Nat)) (fuel : Nat)
    (hfuel : pre.length + post.length + 2 ≤ fuel) :
    wbStrings arm fuel (wbStream cstTotal table lys pre post after) init
      = .ok (table.map fun e => Biff.decodeUtf16 e.units) := by
  obtain ⟨k, rfl⟩ : ∃ k, fuel = pre.length + ((post.length + (k + 1)) + 1) :=
    ⟨fuel - (pre.length + post.length + 2), by omega⟩
  have hEof : Biff.notCont (Biff.frameRec 0x0A [] [] ++ after) := Biff.notCont_frameRec 0x0A [] [] after (by decide) (by decide)
  have hPost : Biff.notCont (framePlain post ++ (Biff.frameRec 0x0A [] [] ++ after)) :=
    notCont_framePlain arm post _ hpost hEof
  have hSst : Biff.notCont (Biff.frameSst (Biff.encodeSst cstTotal table lys) ++
      (framePlain post ++ (Biff.frameRec 0x0A [] [] ++ after))) :=
    Biff.notCont_frameRec 0xFC _ _ _ (by decide) (by decide)
  rw [wbStream, wbStrings_skip arm pre _ init _ hpre hSst, wbStrings,
    Biff.nextRecord_encodeSst cstTotal table lys h.entries
      (fun f hf => Nat.lt_of_le_of_lt (h.sizes f hf) (by decide)) _ hPost]
  simp only [Res.bind_ok, Biff.parseSst_encode cstTotal table lys h.entries h.count 0xFC,
    show ¬ (252 : Nat) = 10 by decide, if_false, if_true]
  rw [wbStrings_skip arm post _ _ _ hpost hEof, wbStrings,
    Biff.nextRecord_plain 0x0A [] after (by decide) (Nat.zero_lt_succ _) hafter]
  rfl

theorem workbookSheet_encode (arm : Rec → Res Unit) (env0 : BiffCells.Env) (cstTotal : Nat) (table : List Biff.Entry)
    (lys : List Biff.EntryLayout) (h : Biff.Legal cstTotal table lys)
    (pre post : List (Nat × Bytes)) (hpre : ∀ p ∈ pre, inertRec arm p) (hpost : ∀ p ∈ post, inertRec arm p)
    (after : Bytes) (hafter : Biff.notCont after) (pos : Nat)
    (hpos : pos ≤ (wbStream cstTotal table lys pre post after).length) :
    workbookSheet arm env0 (wbStream cstTotal table lys pre post after) pos =
      BiffCells.sheetRange { env0 with strings := table.map fun e => Biff.decodeUtf16 e.units }
        ((wbStream cstTotal table lys pre post after).drop pos) := by
  have hlen := wbStream_length_ge cstTotal table lys pre post after
  rw [workbookSheet, wbStrings_encode arm cstTotal table lys h pre post hpre hpost after hafter [] _ (by omega)]
  simp only [Res.bind_ok]
  rw [if_neg (Nat.not_lt.mpr hpos)]

/-- payload of a LABELSST record: row, column, ixfe, index into the shared-string table -/
def labelSstData (row col xf i : Nat) : Bytes := Biff.le16 row ++ (Biff.le16 col ++ (Biff.le16 xf ++ Biff.le32 i))

/-- `s` the empty string included, since fix b90dd43 -/
theorem parseLabelSst_entry (env : BiffCells.Env) (row col xf i : Nat) (s : List Nat)
    (hr : row < 65536) (hc : col < 65536) (hi : i < 4294967296) (hs : env.strings[i]? = some s) :
    BiffCells.parseLabelSst env (labelSstData row col xf i) =
      .ok (some (row, col, BiffCells.Val.str s)) :=
  -- C02 nests the header to the left and writes it with its own `le16`: both spellings unfold to the same six bytes
  -- consed on the payload
  BiffCells.parseLabelSst_enc env row col xf i s hr hc hi hs

theorem wbStream_append (cstTotal : Nat) (table : List Biff.Entry) (lys : List Biff.EntryLayout)
    (pre post : List (Nat × Bytes)) (after : Bytes) :
    wbStream cstTotal table lys pre post after = wbStream cstTotal table lys pre post [] ++ after := by
  unfold wbStream; simp only [List.append_assoc, List.append_nil]

theorem wbStream_drop (cstTotal : Nat) (table : List Biff.Entry) (lys : List Biff.EntryLayout)
    (pre post : List (Nat × Bytes)) (after : Bytes) (k : Nat) :
    (wbStream cstTotal table lys pre post after).drop ((wbStream cstTotal table lys pre post []).length + k)
      = after.drop k := by
  rw [wbStream_append cstTotal table lys pre post after, ← List.drop_drop, List.drop_left' rfl]

theorem parseLabel_text (row col xf : Nat) (wide : Bool) (us : List Nat) (trail : Bytes)
    (hr : row < 65536) (hc : col < 65536)
    (hlt : ∀ u ∈ us, u < 65536) (hcch : us.length < 65536) (hpack : wide = false → ∀ u ∈ us, u < 256) :
    BiffCells.parseLabel (Biff.le16 row ++ (Biff.le16 col ++ (Biff.le16 xf ++ (Biff.xlUnicodeString wide us ++ trail))))
      = .ok (row, col, BiffCells.Val.str (Biff.decodeUtf16 us)) :=
  BiffCells.parseLabel_of row col xf _ _ hr hc (Biff.parseString_roundtrip wide us trail hlt hcch hpack)

end BiffWorkbook
