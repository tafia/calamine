import CalVerif.Spec.OvbaContainer
import CalVerif.Lemmas.LittleEndian
import CalVerif.Lemmas.DivMod
/-! C18, MS-OVBA decompression: the bit fields of chunk headers and copy tokens, and the chunked copy loop of
    `decompress_stream` against the byte-by-byte copy of the specification. -/
namespace Ovba

/-- `(4..16).find(|i| POWER_2[*i] >= d)` finds the least `i` from 4 on with `d ≤ 2 ^ i` -/
theorem bitCount?_eq_some {d bc : Nat} : bitCount? d = some bc ↔
    d ≤ 2 ^ bc ∧ (4 ≤ bc ∧ bc < 16) ∧ ∀ j, 4 ≤ j → j < bc → 2 ^ j < d := by
  unfold bitCount?
  rw [List.find?_range'_eq_some]
  simp only [List.mem_range'_1, decide_eq_true_eq, Bool.not_eq_true', decide_eq_false_iff_not, ge_iff_le,
    Nat.not_le, Nat.reduceAdd]

theorem bitCount?_least {d : Nat} (h : d ≤ 4096) :
    ∃ bc, bitCount? d = some bc ∧ 4 ≤ bc ∧ bc ≤ 12 ∧ d ≤ 2 ^ bc ∧ (bc = 4 ∨ 2 ^ (bc - 1) < d) := by
  cases hb : bitCount? d with
  | none =>
    have := List.find?_range'_eq_none.1 hb 12 (by omega) (by omega)
    simp only [ge_iff_le, Bool.not_eq_true', decide_eq_false_iff_not, Nat.not_le, Nat.reducePow] at this
    omega
  | some bc =>
    obtain ⟨h1, ⟨h4, h16⟩, hmin⟩ := bitCount?_eq_some.1 hb
    refine ⟨bc, rfl, h4, Nat.le_of_not_lt fun hlt => ?_, h1, ?_⟩
    · have := hmin 12 (by omega) hlt
      omega
    · by_cases h : bc = 4
      · exact .inl h
      · exact .inr (hmin (bc - 1) (by omega) (by omega))

theorem bitfield (h s w : Nat) : (h &&& ((2 ^ w - 1) <<< s)) >>> s = h / 2 ^ s % 2 ^ w := by
  rw [Nat.shiftRight_and_distrib, Nat.shiftLeft_shiftRight, Nat.and_two_pow_sub_one_eq_mod, Nat.shiftRight_eq_div_pow]

/-! the header of a compressed chunk, `0xB000 + x = 11 * 4096 + x`: size field `x`, signature `11 % 8`, flag `11 / 8` -/
theorem hdr_size (x : Nat) (h : x < 4096) : (0xB000 + x) &&& 0x0FFF = x := by
  rw [show 0x0FFF = 2 ^ 12 - 1 from rfl, Nat.and_two_pow_sub_one_eq_mod]
  exact (DivMod.divmod_mul_add (q := 11) h).2
theorem hdr_sig (x : Nat) (h : x < 4096) : ((0xB000 + x) &&& 0x7000) >>> 12 = 3 := by
  rw [show 0x7000 = (2 ^ 3 - 1) <<< 12 from rfl, bitfield]
  exact congrArg (· % 8) (DivMod.divmod_mul_add (q := 11) h).1
theorem hdr_flag (x : Nat) (h : x < 4096) : ((0xB000 + x) &&& 0x8000) >>> 15 = 1 := by
  rw [show 0x8000 = (2 ^ 1 - 1) <<< 15 from rfl, bitfield, show 2 ^ 15 = 4096 * 8 from rfl, ← Nat.div_div_eq_div_mul]
  exact congrArg (· / 8 % 2) (DivMod.divmod_mul_add (q := 11) h).1

theorem lenMask_eq (bc : Nat) (h : bc ≤ 16) : 0xFFFF >>> bc = 2 ^ (16 - bc) - 1 := by
  apply Nat.eq_of_testBit_eq
  intro i
  rw [Nat.testBit_shiftRight, show 0xFFFF = 2 ^ 16 - 1 from rfl, Nat.testBit_two_pow_sub_one,
    Nat.testBit_two_pow_sub_one]
  exact decide_eq_decide.2 (by omega)

theorem high_bits (tok k : Nat) (h : tok < 2 ^ 16) :
    (tok &&& ((2 ^ 16 - 1) ^^^ (2 ^ k - 1))) >>> k = tok / 2 ^ k := by
  rw [← Nat.shiftRight_eq_div_pow]
  apply Nat.eq_of_testBit_eq
  intro i
  simp only [Nat.testBit_shiftRight, Nat.testBit_and, Nat.testBit_xor, Nat.testBit_two_pow_sub_one]
  by_cases h16 : k + i < 16
  · simp [h16]
  · have : tok.testBit (k + i) = false := by
      apply Nat.testBit_lt_two_pow
      calc tok < 2 ^ 16 := h
        _ ≤ 2 ^ (k + i) := Nat.pow_le_pow_right (by omega) (by omega)
    simp [this]

theorem unpack_eq (tok bc : Nat) (h : tok < 65536) (hb : bc ≤ 16) :
    (tok &&& (0xFFFF >>> bc)) = tok % 2 ^ (16 - bc) ∧
    ((tok &&& (0xFFFF ^^^ (0xFFFF >>> bc))) >>> (16 - bc)) = tok / 2 ^ (16 - bc) := by
  rw [lenMask_eq bc hb]
  exact ⟨Nat.and_two_pow_sub_one_eq_mod _ _, high_bits tok (16 - bc) h⟩

/-- the specification writes the top byte of a field without `% 256` -/
theorem u16le_bytes (w : Nat) (h : w < 65536) : u16le (UInt8.ofNat (w % 256)) (UInt8.ofNat (w / 256)) = w := by
  rw [← UInt8.ofNat_mod_size' (x := w / 256)]
  exact (LittleEndian.bytes2 w).trans (Nat.mod_eq_of_lt h)

theorem pack_facts (d off len : Nat) (h1 : 1 ≤ off) (h2 : off ≤ d) (h3 : 3 ≤ len) (h4 : len ≤ maxLen d)
    (h5 : d ≤ 4096) :
    ∃ bc, bitCount? d = some bc ∧ 4 ≤ bc ∧ bc ≤ 12 ∧ packCopy d off len < 65536 ∧
      packCopy d off len % 2 ^ (16 - bc) + 3 = len ∧ packCopy d off len / 2 ^ (16 - bc) + 1 = off := by
  obtain ⟨bc, hbc, hb4, hb12, hd, _⟩ := bitCount?_least h5
  refine ⟨bc, hbc, hb4, hb12, ?_⟩
  unfold maxLen lengthMask at h4
  unfold packCopy
  rw [bitCount, hbc, Option.getD_some] at h4 ⊢
  have hM : 2 ^ bc * 2 ^ (16 - bc) = 65536 := by rw [← Nat.pow_add, Nat.add_sub_cancel' (by omega)]
  have hpos := Nat.two_pow_pos (16 - bc)
  generalize 2 ^ (16 - bc) = M at h4 hM hpos ⊢
  generalize 2 ^ bc = B at hd hM
  have hy : len - 3 < M := by omega
  have hlt := DivMod.mul_add_lt_mul hy (show off - 1 < B by omega)
  obtain ⟨e2, e1⟩ := DivMod.divmod_mul_add (q := off - 1) hy
  rw [e1, e2]
  exact ⟨hM ▸ hlt, Nat.sub_add_cancel h3, Nat.sub_add_cancel h1⟩

/-- byte-by-byte copy on the reversed buffer -/
def copyRev (off : Nat) : Nat → Bytes → Bytes
  | 0, out => out
  | n + 1, out => copyRev off n (out.getD (off - 1) 0 :: out)

theorem copyRev_add (off a b : Nat) (out : Bytes) :
    copyRev off (a + b) out = copyRev off b (copyRev off a out) := by
  induction a generalizing out with
  | zero => rw [Nat.zero_add]; rfl
  | succ a ih => rw [Nat.succ_add]; exact ih _

theorem copyRev_length (off n : Nat) (out : Bytes) : (copyRev off n out).length = out.length + n := by
  induction n generalizing out with
  | zero => simp [copyRev]
  | succ n ih => simp only [copyRev]; rw [ih]; simp; omega

theorem copyRev_block (off k : Nat) (out : Bytes) (h2 : off ≤ out.length) (hk : k ≤ off) :
    copyRev off k out = (out.drop (off - k)).take k ++ out := by
  induction k generalizing out with
  | zero => rfl
  | succ k ih =>
    have hlt : off - (k + 1) < out.length := by omega
    rw [copyRev, ih _ (by rw [List.length_cons]; omega) (by omega),
      show off - k = (off - (k + 1)) + 1 by omega, List.drop_succ_cons,
      List.take_succ_eq_append_getElem (by rw [List.length_drop]; omega), List.append_assoc, List.getElem_drop,
      List.getD_eq_getElem?_getD, List.getElem?_eq_getElem (by omega)]
    simp only [show off - (k + 1) + k = off - 1 by omega, Option.getD_some, List.singleton_append]

theorem copyLoop_eq (off : Nat) (h1 : 1 ≤ off) : ∀ (fuel len : Nat) (out : Bytes) (olen : Nat),
    off ≤ out.length → len < fuel → copyLoop off fuel len out olen = .ok (copyRev off len out, olen + len)
  | 0, _, _, _, _, hf => by omega
  | fuel + 1, len, out, olen, h2, hlen => by
    rw [copyLoop]
    by_cases hgt : len > off
    · obtain ⟨m, rfl⟩ := Nat.exists_eq_add_of_le (Nat.le_of_lt hgt)
      rw [if_pos hgt, Nat.add_sub_cancel_left, copyLoop_eq off h1 fuel m _ _
          (Nat.le_trans h2 (List.length_append ▸ Nat.le_add_left _ _)) (by omega),
        copyRev_add, copyRev_block off off out h2 (Nat.le_refl _), Nat.sub_self, List.drop_zero, Nat.add_assoc]
    · rw [if_neg hgt, copyRev_block off len out h2 (Nat.le_of_not_lt hgt)]

theorem copyRev_append (off n : Nat) (c p : Bytes) (h1 : 1 ≤ off) (h2 : off ≤ c.length) :
    copyRev off n (c ++ p) = copyRev off n c ++ p := by
  induction n generalizing c with
  | zero => simp [copyRev]
  | succ n ih =>
    simp only [copyRev]
    have : (c ++ p).getD (off - 1) 0 = c.getD (off - 1) 0 := by
      simp only [List.getD_eq_getElem?_getD]
      rw [List.getElem?_append_left (Nat.lt_of_lt_of_le (Nat.sub_lt h1 Nat.one_pos) h2)]
    rw [this, ← List.cons_append]
    exact ih _ (Nat.le_succ_of_le h2)

theorem copyRev_reverse (off n : Nat) (out : Bytes) (h1 : 1 ≤ off) (h2 : off ≤ out.length) :
    (copyRev off n out).reverse = copySpec off n out.reverse := by
  induction n generalizing out with
  | zero => simp [copyRev, copySpec]
  | succ n ih =>
    simp only [copyRev, copySpec]
    rw [ih (_ :: out) (Nat.le_succ_of_le h2)]
    congr 1
    simp only [List.reverse_cons, List.length_reverse]
    congr 2
    simp only [List.getD_eq_getElem?_getD]
    rw [List.getElem?_reverse (by omega)]
    congr 2
    omega

/-- copy on the global reversed buffer = the spec's chunk-local byte copy -/
theorem copyRev_spec (off n : Nat) (cur prev : Bytes) (h1 : 1 ≤ off) (h2 : off ≤ cur.length) :
    copyRev off n (cur.reverse ++ prev) = (copySpec off n cur).reverse ++ prev := by
  rw [copyRev_append off n _ _ h1 (by simpa using h2)]
  congr 1
  have := copyRev_reverse off n cur.reverse h1 (by simpa using h2)
  rw [List.reverse_reverse] at this
  rw [← this, List.reverse_reverse]

theorem copySpec_length (off n : Nat) (res : Bytes) : (copySpec off n res).length = res.length + n := by
  induction n generalizing res with
  | zero => simp [copySpec]
  | succ n ih => simp only [copySpec]; rw [ih]; simp; omega

end Ovba
