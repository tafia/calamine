import CalVerif.Model.Formats
import CalVerif.Spec.NumFmt
import CalVerif.Prim.Utf8
/-! The scanner of `Model/Formats.lean` against the grammar of `Spec/NumFmt.lean`: `step` is characterised once, by
    state and class of character (`step_escaped` … `step_letter`); everything about runs over rendered tokens
    rewrites with those equations. -/
namespace Formats
open NumFmt

/-- where the scanner stands after the characters `l` (or how it left the loop inside `l`) -/
def run : St → List Char → Step
  | st, [] => .cont st
  | st, c :: cs =>
    match step st c with
    | .cont st' => run st' cs
    | r => r

/-- how the scan ends after one step or one run: continue with `k` from the new state, or return what the loop returned -/
def finish (k : St → Res CellFormat) : Step → Res CellFormat
  | .cont st => k st
  | .ret f => .ok f

theorem scan_nil (st : St) : scan st [] = .ok .other := rfl

theorem scan_cons (st : St) (c : Char) (cs : List Char) :
    scan st (c :: cs) = finish (fun st' => scan st' cs) (step st c) := by
  simp only [scan, scanWith, finish]
  cases step st c <;> rfl

theorem scan_append (st : St) (l t : List Char) :
    scan st (l ++ t) = finish (fun st' => scan st' t) (run st l) := by
  induction l generalizing st with
  | nil => rfl
  | cons c cs ih =>
    rw [List.cons_append, scan_cons, run]
    cases h : step st c with
    | cont st' => exact ih st'
    | ret f => rfl

theorem run_append (st : St) (l t : List Char) :
    run st (l ++ t) = match run st l with
      | .cont st' => run st' t
      | r => r := by
  induction l generalizing st with
  | nil => rfl
  | cons c cs ih =>
    rw [List.cons_append, run, run]
    cases h : step st c with
    | cont st' => exact ih st'
    | ret f => rfl

theorem run_append_cont {st st' : St} {l : List Char} (t : List Char) (h : run st l = .cont st') :
    run st (l ++ t) = run st' t := by rw [run_append, h]

theorem run_append_ret {st : St} {l : List Char} {f : CellFormat} (t : List Char) (h : run st l = .ret f) :
    run st (l ++ t) = .ret f := by rw [run_append, h]

theorem run_cons_cont {st st' : St} {c : Char} (cs : List Char) (h : step st c = .cont st') :
    run st (c :: cs) = run st' cs := by simp only [run, h]

theorem run_cons_ret {st : St} {c : Char} {f : CellFormat} (cs : List Char) (h : step st c = .ret f) :
    run st (c :: cs) = .ret f := by simp only [run, h]

/-- outside quoted text and not right after an escape character -/
def Out (st : St) : Prop := st.escaped = false ∧ st.isQuote = false

/-- characters without a role of their own outside quotes: not a bracket, `;`, `"` or an escape character
    (what may stand inside `[ ]`). This is `!NumFmt.isStructural c` in the scanner's own vocabulary (`isEscChar`), see
    `isBodyChar_of_not_structural`; the `step_*` equations are stated with it, the grammar side with `isStructural`. -/
def isBodyChar (c : Char) : Bool := !(c == '[' || c == ']' || c == ';' || c == '"' || isEscChar c)

theorem step_escaped (st : St) (he : st.escaped = true) (c : Char) :
    step st c = .cont { st with escaped := false, prev := c } := by
  simp only [step, he, if_true]

theorem step_in_quote (st : St) (he : st.escaped = false) (hq : st.isQuote = true) (c : Char) :
    step st c = if c = '"' then .cont { st with isQuote := false, prev := c } else .cont { st with prev := c } := by
  simp only [step, he, hq, and_true, Bool.false_eq_true, if_false, if_true]

theorem step_out (st : St) (h : Out st) (c : Char) :
    step st c = if isEscChar c = true then .cont { st with escaped := true, prev := c } else stepTail st c := by
  simp only [step, h.1, h.2, Bool.false_eq_true, and_false, if_false]

theorem step_esc (st : St) (h : Out st) (e : Char) (he : isEscChar e = true) :
    step st e = .cont { st with escaped := true, prev := e } := by
  rw [step_out st h, if_pos he]

theorem step_quote (st : St) (h : Out st) : step st '"' = .cont { st with isQuote := true, prev := '"' } := by
  rw [step_out st h]; rfl

theorem step_semicolon (st : St) (h : Out st) : step st ';' = .ret .other := by
  rw [step_out st h]; rfl

theorem step_open (st : St) (h : Out st) :
    step st '[' = .cont { st with brackets := st.brackets + 1, prev := '[' } := by
  rw [step_out st h]; rfl

theorem step_close (st : St) (h : Out st) :
    step st ']' = if st.brackets = 1 ∧ st.hms = true then .ret .timeDelta
      else .cont { st with brackets := st.brackets - 1, prev := ']' } := by
  rw [step_out st h]
  simp [stepTail, isEscChar]

/-- the equation of `step` for its last four arms; it holds for EVERY character without a structural role (digits,
    blanks, `*`, `/`, non-ASCII), not only letters -/
theorem step_letter (st : St) (h : Out st) (c : Char) (hc : isBodyChar c = true) :
    step st c =
      if isAChar c = true ∧ st.ap = false ∧ st.brackets = 0 then .cont { st with ap := true, prev := c }
      else if isPmChar c = true ∧ st.ap = true ∧ st.brackets = 0 then .ret .dateTime
      else if isDateChar c = true ∧ st.ap = false ∧ st.brackets = 0 then .ret .dateTime
      else .cont { st with
        hms := if st.hms = true ∧ eqIgnoreAsciiCase c st.prev = true then st.hms else (st.prev == '[' && isHmsChar c)
        prev := c } := by
  simp only [isBodyChar, Bool.not_eq_true', Bool.or_eq_false_iff, beq_eq_false_iff_ne] at hc
  obtain ⟨⟨⟨⟨hopen, hclose⟩, hsemi⟩, hquote⟩, hesc⟩ := hc
  -- the arms of `stepTail` in source order: `"`, `;`, `[`, the two `]` arms
  rw [step_out st h, if_neg (by rw [hesc]; decide), stepTail, if_neg hquote, if_neg hsemi, if_neg hopen,
    if_neg (fun h => hclose h.1), if_neg hclose]

theorem run_in_quote (st : St) (s : List Char) (he : st.escaped = false) (hq : st.isQuote = true)
    (hs : ∀ c ∈ s, c ≠ '"') : ∃ p, run st s = .cont { st with prev := p } := by
  induction s generalizing st with
  | nil => exact ⟨st.prev, rfl⟩
  | cons c cs ih =>
    have h1 : step st c = .cont { st with prev := c } := by
      rw [step_in_quote st he hq, if_neg (hs c List.mem_cons_self)]
    rw [run_cons_cont cs h1]
    exact ih { st with prev := c } he hq (fun d hd => hs d (List.mem_cons_of_mem _ hd))

theorem run_lit (st : St) (s : List Char) (h : Out st) (hs : ∀ c ∈ s, c ≠ '"') :
    run st ('"' :: (s ++ ['"'])) = .cont { st with prev := '"' } := by
  obtain ⟨e, q, b, p0, hm, a⟩ := st
  obtain ⟨rfl, rfl⟩ : e = false ∧ q = false := h
  rw [run_cons_cont _ (step_quote _ ⟨rfl, rfl⟩)]
  obtain ⟨p, hp⟩ := run_in_quote ⟨false, true, b, '"', hm, a⟩ s rfl rfl hs
  rw [run_append_cont _ hp, run_cons_cont _ (step_in_quote ⟨false, true, b, p, hm, a⟩ rfl rfl _)]
  rfl

theorem run_esc (st : St) (e c : Char) (h : Out st) (he : isEscChar e = true) :
    run st [e, c] = .cont { st with prev := c } := by
  obtain ⟨e', q, b, p0, hm, a⟩ := st
  obtain ⟨rfl, rfl⟩ : e' = false ∧ q = false := h
  rw [run_cons_cont _ (step_esc _ ⟨rfl, rfl⟩ e he), run_cons_cont _ (step_escaped ⟨true, false, b, e, hm, a⟩ rfl c)]
  rfl

/-- not escaped, not in quotes, no open bracket, no pending elapsed-unit flag. `ap = false` is NOT part of it and is
    taken separately (`hap`) by the lemmas that need it: after the keyword `General` the scanner is quiet with `ap = true`
    (`run_general`), and the text tail after it (`scan_text_toks`) needs `Out` only. -/
structure Quiet (st : St) : Prop where
  esc : st.escaped = false
  quo : st.isQuote = false
  brk : st.brackets = 0
  hms : st.hms = false

theorem Quiet.out {st : St} (h : Quiet st) : Out st := ⟨h.esc, h.quo⟩

theorem Quiet.setPrev {st : St} (h : Quiet st) (p : Char) : Quiet { st with prev := p } :=
  ⟨h.esc, h.quo, h.brk, h.hms⟩

theorem quiet_init : Quiet St.init := ⟨rfl, rfl, rfl, rfl⟩

/-- characters no arm reacts to while `ap = false`, `brackets = 0` -/
def isPlain (c : Char) : Bool :=
  !(c == '"' || c == ';' || c == '[' || c == ']' || isEscChar c || isAChar c || isDateChar c)

theorem isPlain_iff (c : Char) :
    isPlain c = true ↔ isBodyChar c = true ∧ isAChar c = false ∧ isDateChar c = false := by
  simp only [isPlain, isBodyChar, Bool.not_eq_true', Bool.or_eq_false_iff]
  -- the same seven comparisons; `isPlain` lists `" ; [ ]`, `isBodyChar` lists `[ ] ; "`
  exact ⟨fun ⟨⟨⟨⟨⟨⟨hquote, hsemi⟩, hopen⟩, hclose⟩, hesc⟩, ha⟩, hd⟩ => ⟨⟨⟨⟨⟨hopen, hclose⟩, hsemi⟩, hquote⟩, hesc⟩, ha, hd⟩,
    fun ⟨⟨⟨⟨⟨hopen, hclose⟩, hsemi⟩, hquote⟩, hesc⟩, ha, hd⟩ => ⟨⟨⟨⟨⟨⟨hquote, hsemi⟩, hopen⟩, hclose⟩, hesc⟩, ha⟩, hd⟩⟩

theorem isHmsChar_of_not_date (c : Char) (h : isDateChar c = false) : isHmsChar c = false := by
  simp only [isDateChar, Bool.or_eq_false_iff] at h
  simp only [isHmsChar, h, Bool.or_false]

theorem step_inert (st : St) (hq : Quiet st) (c : Char) (hb : isBodyChar c = true)
    (ha : ¬(isAChar c = true ∧ st.ap = false)) (hp : ¬(isPmChar c = true ∧ st.ap = true))
    (hd : ¬(isDateChar c = true ∧ st.ap = false)) (hh : isHmsChar c = false) :
    step st c = .cont { st with prev := c } := by
  obtain ⟨e, q, b, p0, hm, a⟩ := st
  obtain ⟨rfl, rfl, rfl, rfl⟩ : e = false ∧ q = false ∧ b = 0 ∧ hm = false := ⟨hq.esc, hq.quo, hq.brk, hq.hms⟩
  rw [step_letter _ ⟨rfl, rfl⟩ c hb, if_neg (fun h => ha ⟨h.1, h.2.1⟩), if_neg (fun h => hp ⟨h.1, h.2.1⟩),
    if_neg (fun h => hd ⟨h.1, h.2.1⟩), hh]
  simp only [Bool.and_false, Bool.false_eq_true, false_and, if_false]

theorem step_plain (st : St) (hq : Quiet st) (hap : st.ap = false) (c : Char) (hc : isPlain c = true) :
    step st c = .cont { st with prev := c } := by
  obtain ⟨hb, ha, hd⟩ := (isPlain_iff c).mp hc
  exact step_inert st hq c hb (fun h => Bool.eq_false_iff.mp ha h.1) (fun h => Bool.eq_false_iff.mp hap h.2)
    (fun h => Bool.eq_false_iff.mp hd h.1) (isHmsChar_of_not_date c hd)

theorem run_plain (st : St) (hq : Quiet st) (hap : st.ap = false) (c : Char) (hc : isPlain c = true) :
    run st [c] = .cont { st with prev := c } := by
  rw [run_cons_cont _ (step_plain st hq hap c hc)]; rfl

/-- `prev` is read by the last arm only, and there only next to an elapsed-unit letter, which the date arm takes first -/
theorem stepTail_prev (st : St) (hq : Quiet st) (hap : st.ap = false) (p c : Char) :
    stepTail { st with prev := p } c = stepTail st c := by
  unfold stepTail
  -- seven arms (`"`, `;`, `[`, `]` twice, `a`, `p m /`) do not read `prev`; the eighth is the date arm
  iterate 7 refine ite_congr rfl (fun _ => rfl) fun _ => ?_
  refine ite_congr rfl (fun _ => rfl) fun hnd => ?_
  have hd : isDateChar c = false := by
    cases h : isDateChar c
    · rfl
    · exact absurd ⟨h, hap, hq.brk⟩ hnd
  simp only [hq.hms, isHmsChar_of_not_date c hd, Bool.and_false, Bool.false_eq_true, false_and, if_false]

theorem scan_prev_irrelevant (st : St) (hq : Quiet st) (hap : st.ap = false) (p : Char) (l : List Char) :
    scan { st with prev := p } l = scan st l := by
  cases l with
  | nil => rfl
  | cons c cs =>
    rw [scan_cons, scan_cons, step_out _ (show Out { st with prev := p } from hq.out), step_out st hq.out,
      stepTail_prev st hq hap]

theorem ne_open_of_isBodyChar (c : Char) (h : isBodyChar c = true) : c ≠ '[' := by
  intro e; subst e; exact absurd h (by decide)

/-- the `hms` flag after the characters of a bracket body, from flag `h` and previous character `p` -/
def bodyHms (h : Bool) (p : Char) : List Char → Bool
  | [] => h
  | c :: cs => bodyHms (if h = true ∧ eqIgnoreAsciiCase c p = true then h else (p == '[' && isHmsChar c)) c cs

theorem step_body (st : St) (ho : Out st) (hb : st.brackets = 1) (c : Char) (hc : isBodyChar c = true) :
    step st c = .cont { st with
      hms := if st.hms = true ∧ eqIgnoreAsciiCase c st.prev = true then st.hms else (st.prev == '[' && isHmsChar c)
      prev := c } := by
  have h0 : st.brackets ≠ 0 := by rw [hb]; decide
  rw [step_letter st ho c hc, if_neg (fun h => h0 h.2.2), if_neg (fun h => h0 h.2.2), if_neg (fun h => h0 h.2.2)]

theorem run_body (st : St) (body : List Char) (ho : Out st) (hb : st.brackets = 1)
    (hc : ∀ c ∈ body, isBodyChar c = true) :
    ∃ p, run st body = .cont { st with hms := bodyHms st.hms st.prev body, prev := p } := by
  induction body generalizing st with
  | nil => exact ⟨st.prev, rfl⟩
  | cons c cs ih =>
    rw [run_cons_cont cs (step_body st ho hb c (hc c List.mem_cons_self))]
    exact ih _ ho hb (fun d hd => hc d (List.mem_cons_of_mem _ hd))

theorem asciiLower_toNat (d : Char) :
    (asciiLower d).toNat = if 65 ≤ d.toNat ∧ d.toNat ≤ 90 then d.toNat + 32 else d.toNat := by
  unfold asciiLower
  split
  · exact Utf8.toNat_ofNat_valid _ (Or.inl (by omega))
  · rfl

theorem lower_eq_iff (d lo up : Nat) (h1 : 97 ≤ lo) (h2 : lo ≤ 122) (h3 : up + 32 = lo) :
    (if 65 ≤ d ∧ d ≤ 90 then d + 32 else d) = lo ↔ d = lo ∨ d = up := by
  constructor
  · intro h
    split at h
    · exact Or.inr (Nat.add_right_cancel (h.trans h3.symm))
    · exact Or.inl h
  · rintro (rfl | rfl)
    · exact if_neg (by omega)
    · rw [if_pos (by omega)]; exact h3

/-- `lo` is a lower-case ASCII letter and `up` its upper-case form -/
def Letter (lo up : Char) : Prop := 97 ≤ lo.toNat ∧ lo.toNat ≤ 122 ∧ up.toNat + 32 = lo.toNat

theorem eqIgnoreAsciiCase_letter {lo up : Char} (hl : Letter lo up) (p d : Char) (hp : p = lo ∨ p = up) :
    eqIgnoreAsciiCase d p = (d == lo || d == up) := by
  obtain ⟨h1, h2, h3⟩ := hl
  have hlow : (asciiLower p).toNat = lo.toNat := by
    rw [asciiLower_toNat]
    exact (lower_eq_iff p.toNat lo.toNat up.toNat h1 h2 h3).mpr (hp.imp (congrArg _) (congrArg _))
  rw [Bool.eq_iff_iff]
  simp only [eqIgnoreAsciiCase, beq_iff_eq, Bool.or_eq_true, ← Char.toNat_inj, hlow, asciiLower_toNat]
  exact lower_eq_iff d.toNat lo.toNat up.toNat h1 h2 h3

theorem bodyHms_false (p : Char) (cs : List Char) (hp : p ≠ '[') (hc : ∀ c ∈ cs, isBodyChar c = true) :
    bodyHms false p cs = false := by
  induction cs generalizing p with
  | nil => rfl
  | cons c cs ih =>
    rw [bodyHms, if_neg (fun h => Bool.false_ne_true h.1), beq_eq_false_iff_ne.mpr hp, Bool.false_and]
    exact ih c (ne_open_of_isBodyChar c (hc c List.mem_cons_self)) (fun d hd => hc d (List.mem_cons_of_mem _ hd))

theorem bodyHms_true {lo up : Char} (hl : Letter lo up) (p : Char) (hpp : p = lo ∨ p = up) (hpb : p ≠ '[')
    (cs : List Char) (hc : ∀ c ∈ cs, isBodyChar c = true) :
    bodyHms true p cs = cs.all (fun d => d == lo || d == up) := by
  induction cs generalizing p with
  | nil => rfl
  | cons c cs ih =>
    have hcb := ne_open_of_isBodyChar c (hc c List.mem_cons_self)
    have hcs : ∀ d ∈ cs, isBodyChar d = true := fun d hd => hc d (List.mem_cons_of_mem _ hd)
    rw [bodyHms, List.all_cons, eqIgnoreAsciiCase_letter hl p c hpp]
    cases h : (c == lo || c == up)
    · rw [if_neg (fun h => Bool.false_ne_true h.2), beq_eq_false_iff_ne.mpr hpb, Bool.false_and, Bool.false_and]
      exact bodyHms_false c cs hcb hcs
    · rw [if_pos ⟨rfl, rfl⟩, Bool.true_and]
      exact ih c (by simpa using h) hcb hcs

theorem letter_h : Letter 'h' 'H' := ⟨by decide, by decide, rfl⟩
theorem letter_m : Letter 'm' 'M' := ⟨by decide, by decide, rfl⟩
theorem letter_s : Letter 's' 'S' := ⟨by decide, by decide, rfl⟩

theorem runOf_cons_eq {lo up : Char} (hl : Letter lo up) (hlo : isHmsChar lo = true) (hup : isHmsChar up = true)
    (c : Char) (hcb : c ≠ '[') (cs : List Char) (hc : ∀ d ∈ cs, isBodyChar d = true) :
    runOf lo up (c :: cs) = ((c == lo || c == up) && bodyHms (isHmsChar c) c cs) := by
  rw [runOf, List.isEmpty_cons, Bool.not_false, Bool.true_and, List.all_cons]
  cases h : (c == lo || c == up)
  · rfl
  · have hcc : c = lo ∨ c = up := by simpa using h
    rw [show isHmsChar c = true by rcases hcc with rfl | rfl <;> assumption, bodyHms_true hl c hcc hcb cs hc]

theorem bodyHms_eq_isElapsedBody (body : List Char) (hc : ∀ c ∈ body, isBodyChar c = true) :
    bodyHms false '[' body = isElapsedBody body := by
  cases body with
  | nil => rfl
  | cons c cs =>
    have hcb := ne_open_of_isBodyChar c (hc c List.mem_cons_self)
    have hcs : ∀ d ∈ cs, isBodyChar d = true := fun d hd => hc d (List.mem_cons_of_mem _ hd)
    have h0 : bodyHms false '[' (c :: cs) = bodyHms (isHmsChar c) c cs := by
      rw [bodyHms, if_neg (fun h => Bool.false_ne_true h.1)]; rfl
    have hB : isHmsChar c = false → bodyHms (isHmsChar c) c cs = false := fun h => by
      rw [h]; exact bodyHms_false c cs hcb hcs
    rw [h0, isElapsedBody, runOf_cons_eq letter_h rfl rfl c hcb cs hcs, runOf_cons_eq letter_m rfl rfl c hcb cs hcs,
      runOf_cons_eq letter_s rfl rfl c hcb cs hcs]
    -- what is left is propositional in the six comparisons of `isHmsChar c` and the flag
    generalize bodyHms (isHmsChar c) c cs = B at hB ⊢
    unfold isHmsChar at hB
    generalize (c == 'h') = x1, (c == 'H') = x2, (c == 'm') = x3, (c == 'M') = x4, (c == 's') = x5, (c == 'S') = x6 at hB ⊢
    revert x1 x2 x3 x4 x5 x6 B
    decide

theorem run_bracket (st : St) (hq : Quiet st) (body : List Char) (hc : ∀ c ∈ body, isBodyChar c = true) :
    run st ('[' :: (body ++ [']'])) =
      if isElapsedBody body = true then .ret .timeDelta else .cont { st with prev := ']' } := by
  obtain ⟨e, q, b, p0, hm, a⟩ := st
  obtain ⟨rfl, rfl, rfl, rfl⟩ : e = false ∧ q = false ∧ b = 0 ∧ hm = false := ⟨hq.esc, hq.quo, hq.brk, hq.hms⟩
  rw [run_cons_cont _ (step_open _ ⟨rfl, rfl⟩)]
  obtain ⟨p, hp⟩ := run_body ⟨false, false, 0 + 1, '[', false, a⟩ body ⟨rfl, rfl⟩ rfl hc
  rw [run_append_cont _ hp, bodyHms_eq_isElapsedBody body hc, run,
    step_close ⟨false, false, 0 + 1, p, isElapsedBody body, a⟩ ⟨rfl, rfl⟩]
  cases isElapsedBody body <;> rfl

theorem isBodyChar_of_not_structural (c : Char) (h : isStructural c = false) : isBodyChar c = true := by
  simp only [isStructural, Bool.or_eq_false_iff] at h
  simp only [isBodyChar, isEscChar, h, Bool.or_false, Bool.not_false]

theorem mem_of_runOf (lo up : Char) (s : List Char) (h : runOf lo up s = true) : ∀ c ∈ s, c = lo ∨ c = up := by
  simp only [runOf, Bool.and_eq_true, List.all_eq_true, Bool.or_eq_true, beq_iff_eq] at h
  exact h.2

theorem isBodyChar_of_elapsed (body : List Char) (h : isElapsedBody body = true) : ∀ c ∈ body, isBodyChar c = true := by
  intro c hc
  simp only [isElapsedBody, Bool.or_eq_true] at h
  rcases h with (h | h) | h <;> rcases mem_of_runOf _ _ _ h c hc with rfl | rfl <;> decide

theorem head_of_runOf (lo up : Char) (s : List Char) (h : runOf lo up s = true) :
    ∃ c cs, s = c :: cs ∧ (c = lo ∨ c = up) := by
  cases s with
  | nil => exact absurd h Bool.false_ne_true
  | cons c cs => exact ⟨c, cs, rfl, mem_of_runOf lo up _ h c List.mem_cons_self⟩

theorem isDateChar_facts (c : Char) (h : isDateChar c = true) : isBodyChar c = true ∧ isAChar c = false := by
  have hall : ∀ d ∈ ['d', 'm', 'h', 'y', 's', 'D', 'M', 'H', 'Y', 'S'], isBodyChar d = true ∧ isAChar d = false := by
    decide
  apply hall
  simpa only [isDateChar, Bool.or_eq_true, beq_iff_eq, or_assoc, List.mem_cons, List.mem_nil_iff, or_false] using h

theorem step_date (st : St) (hq : Quiet st) (hap : st.ap = false) (c : Char) (hc : isDateChar c = true) :
    step st c = .ret .dateTime := by
  obtain ⟨hb, ha⟩ := isDateChar_facts c hc
  rw [step_letter st hq.out c hb, if_neg (fun h => Bool.eq_false_iff.mp ha h.1),
    if_neg (fun h => Bool.eq_false_iff.mp hap h.2.1), if_pos ⟨hc, hap, hq.brk⟩]

theorem step_a (st : St) (hq : Quiet st) (hap : st.ap = false) (c : Char) (hc : isAChar c = true) :
    step st c = .cont { st with ap := true, prev := c } := by
  have hb : isBodyChar c = true := by
    simp only [isAChar, Bool.or_eq_true, beq_iff_eq] at hc
    rcases hc with rfl | rfl <;> decide
  rw [step_letter st hq.out c hb, if_pos ⟨hc, hap, hq.brk⟩]

theorem step_pm (st : St) (hq : Quiet st) (hap : st.ap = true) (c : Char) (hb : isBodyChar c = true)
    (ha : isAChar c = false) (hc : isPmChar c = true) : step st c = .ret .dateTime := by
  rw [step_letter st hq.out c hb, if_neg (fun h => Bool.eq_false_iff.mp ha h.1), if_pos ⟨hc, hap, hq.brk⟩]

theorem run_dateTok (st : St) (hq : Quiet st) (hap : st.ap = false) (s : List Char)
    (h : (isDateRun s || isAmPm s) = true) : run st s = .ret .dateTime := by
  rw [Bool.or_eq_true] at h
  rcases h with h | h
  · simp only [isDateRun, Bool.or_eq_true] at h
    have : ∃ c cs, s = c :: cs ∧ isDateChar c = true := by
      rcases h with (((h | h) | h) | h) | h <;> obtain ⟨c, cs, rfl, hc⟩ := head_of_runOf _ _ _ h <;>
        exact ⟨c, cs, rfl, by rcases hc with rfl | rfl <;> decide⟩
    obtain ⟨c, cs, rfl, hc⟩ := this
    exact run_cons_ret _ (step_date st hq hap c hc)
  · have : ∃ a x r, s = a :: x :: r ∧ isAChar a = true ∧ (x = 'm' ∨ x = 'M' ∨ x = '/') := by
      unfold isAmPm at h
      split at h
      · rename_i a m sl p m'
        simp only [Bool.and_eq_true, Bool.or_eq_true, beq_iff_eq] at h
        exact ⟨a, m, _, rfl, by simp [isAChar, h.1.1.1.1], by rcases h.1.1.1.2 with h | h <;> simp [h]⟩
      · rename_i a sl p
        simp only [Bool.and_eq_true, Bool.or_eq_true, beq_iff_eq] at h
        exact ⟨a, sl, _, rfl, by simp [isAChar, h.1.1], by simp [h.1.2]⟩
      · exact absurd h (by simp)
    obtain ⟨a, x, r, rfl, ha, hx⟩ := this
    rw [run_cons_cont _ (step_a st hq hap a ha)]
    have hq' : Quiet { st with ap := true, prev := a } := ⟨hq.esc, hq.quo, hq.brk, hq.hms⟩
    rcases hx with rfl | rfl | rfl <;> exact run_cons_ret _ (step_pm _ hq' rfl _ rfl rfl rfl)

theorem scan_dateTok (st : St) (hq : Quiet st) (hap : st.ap = false) (s : List Char)
    (h : (isDateRun s || isAmPm s) = true) (post : List Char) : scan st (s ++ post) = .ok .dateTime := by
  rw [scan_append, run_dateTok st hq hap s h]; rfl

theorem scan_elapsed (st : St) (hq : Quiet st) (b : List Char) (h : isElapsedBody b = true) (post : List Char) :
    scan st ('[' :: (b ++ [']']) ++ post) = .ok .timeDelta := by
  rw [scan_append, run_bracket st hq b (isBodyChar_of_elapsed b h), if_pos h]; rfl

theorem isPlain_of_nonAscii (c : Char) (h : 128 ≤ c.toNat) : isPlain c = true := by
  have ne : ∀ k : Char, k.toNat < 128 → (c == k) = false := by
    intro k hk
    rw [beq_eq_false_iff_ne]
    intro e; subst e; omega
  simp only [isPlain, isEscChar, isAChar, isDateChar]
  rw [ne '"' (by decide), ne ';' (by decide), ne '[' (by decide), ne ']' (by decide), ne '_' (by decide),
      ne '\\' (by decide), ne 'a' (by decide), ne 'A' (by decide), ne 'd' (by decide), ne 'm' (by decide),
      ne 'h' (by decide), ne 'y' (by decide), ne 's' (by decide), ne 'D' (by decide), ne 'M' (by decide),
      ne 'H' (by decide), ne 'Y' (by decide), ne 'S' (by decide)]
  rfl

theorem isPlain_of_isNumChar (c : Char) (h : isNumChar c = true) : isPlain c = true := by
  have hall : ∀ d ∈ numChars, isPlain d = true := by
    unfold numChars
    rw [String.toList_ofList]
    decide +kernel
  rw [isNumChar, Bool.or_eq_true, List.contains_iff_mem, decide_eq_true_eq] at h
  exact h.elim (hall c) (isPlain_of_nonAscii c)

/-- tokens that carry no date meaning -/
def isNeutralTok : Tok → Bool
  | .lit _ | .esc _ | .pad _ | .fill _ | .brk _ | .num _ => true
  | _ => false

theorem run_text_tok (st : St) (ho : Out st) (t : Tok) (hwf : wfTok t = true) (ht : isTextTok t = true) :
    ∃ p, run st (renderTok t) = .cont { st with prev := p } := by
  cases t with
  | lit s =>
    refine ⟨'"', run_lit st s ho fun c hc hcq => ?_⟩
    subst hcq
    simp [wfTok, hc] at hwf
  | esc c => exact ⟨c, run_esc st '\\' c ho rfl⟩
  | pad c => exact ⟨c, run_esc st '_' c ho rfl⟩
  | _ => exact absurd ht Bool.false_ne_true

theorem run_neutral_tok (st : St) (hq : Quiet st) (hap : st.ap = false) (t : Tok) (hwf : wfTok t = true)
    (hn : isNeutralTok t = true) : ∃ p, run st (renderTok t) = .cont { st with prev := p } := by
  cases t with
  | lit s => exact run_text_tok st hq.out _ hwf rfl
  | esc c => exact run_text_tok st hq.out _ hwf rfl
  | pad c => exact run_text_tok st hq.out _ hwf rfl
  | fill c =>
    refine ⟨c, ?_⟩
    rw [show renderTok (.fill c) = ['*'] ++ [c] from rfl, run_append_cont _ (run_plain st hq hap '*' rfl),
      run_plain _ (hq.setPrev '*') hap c (isPlain_of_isNumChar c hwf)]
  | brk b =>
    simp only [wfTok, Bool.and_eq_true, List.all_eq_true, Bool.not_eq_true'] at hwf
    have := run_bracket st hq b fun c hc => isBodyChar_of_not_structural c (hwf.1 c hc)
    rw [hwf.2] at this
    exact ⟨']', this⟩
  | num c => exact ⟨c, run_plain st hq hap c (isPlain_of_isNumChar c hwf)⟩
  | _ => exact absurd hn Bool.false_ne_true

theorem scan_neutral_tok (st : St) (hq : Quiet st) (hap : st.ap = false) (t : Tok) (hwf : wfTok t = true)
    (hn : isNeutralTok t = true) (post : List Char) : scan st (renderTok t ++ post) = scan st post := by
  obtain ⟨p, hp⟩ := run_neutral_tok st hq hap t hwf hn
  rw [scan_append, hp]
  exact scan_prev_irrelevant st hq hap p post

/-- the keyword switches the scanner into its AM/PM mode (through the letter `a`) and does nothing else -/
theorem run_general (st : St) (hq : Quiet st) (hap : st.ap = false) (s : List Char) (hs : isGeneralWord s = true) :
    ∃ p, run st s = .cont { st with ap := true, prev := p } := by
  unfold isGeneralWord at hs
  split at hs
  · rename_i g e n e' r a l
    simp only [Bool.and_eq_true, Bool.or_eq_true, beq_iff_eq] at hs
    obtain ⟨⟨⟨⟨⟨⟨hg, he⟩, hn⟩, he'⟩, hr⟩, ha⟩, hl⟩ := hs
    have pg : isPlain g = true := by rcases hg with rfl | rfl <;> decide
    have pe : isPlain e = true := by rcases he with rfl | rfl <;> decide
    have pn : isPlain n = true := by rcases hn with rfl | rfl <;> decide
    have pe' : isPlain e' = true := by rcases he' with rfl | rfl <;> decide
    have pr : isPlain r = true := by rcases hr with rfl | rfl <;> decide
    have aa : isAChar a = true := by rcases ha with rfl | rfl <;> decide
    -- `l` after the `a`: not one of `p m /`, so the AM/PM arm does not fire
    have hl' : isBodyChar l = true ∧ isPmChar l = false ∧ isHmsChar l = false := by
      rcases hl with rfl | rfl <;> exact ⟨rfl, rfl, rfl⟩
    have hq' : Quiet { st with ap := true, prev := a } := ⟨hq.esc, hq.quo, hq.brk, hq.hms⟩
    refine ⟨l, ?_⟩
    rw [run_cons_cont _ (step_plain st hq hap g pg),
        run_cons_cont _ (step_plain _ (hq.setPrev g) hap e pe),
        run_cons_cont _ (step_plain _ (hq.setPrev e) hap n pn),
        run_cons_cont _ (step_plain _ (hq.setPrev n) hap e' pe'),
        run_cons_cont _ (step_plain _ (hq.setPrev e') hap r pr),
        run_cons_cont _ (step_a _ (hq.setPrev r) hap a aa),
        run_cons_cont _ (step_inert _ hq' l hl'.1 (fun h => Bool.noConfusion h.2)
          (fun h => Bool.eq_false_iff.mp hl'.2.1 h.1) (fun h => Bool.noConfusion h.2) hl'.2.2)]
    rfl
  · exact absurd hs Bool.false_ne_true

/-- what may follow the first section: the end of the text, or `;` and anything at all -/
def Stops (post : List Char) : Prop := post = [] ∨ ∃ r, post = ';' :: r

theorem scan_stops (st : St) (ho : Out st) (post : List Char) (hs : Stops post) : scan st post = .ok .other := by
  rcases hs with rfl | ⟨r, rfl⟩
  · rfl
  · rw [scan_cons, step_semicolon st ho]; rfl

/-- from any state outside quotes (after `General`: `ap` is set) -/
theorem scan_text_toks (ts : List Tok) (hwf : ∀ t ∈ ts, wfTok t = true) (ht : ∀ t ∈ ts, isTextTok t = true)
    (st : St) (ho : Out st) (post : List Char) (hs : Stops post) :
    scan st (renderSection ts ++ post) = .ok (classifySection ts) := by
  induction ts generalizing st with
  | nil => exact scan_stops st ho post hs
  | cons t ts ih =>
    obtain ⟨p, hp⟩ := run_text_tok st ho t (hwf t List.mem_cons_self) (ht t List.mem_cons_self)
    have ih' := ih (fun t h => hwf t (List.mem_cons_of_mem _ h)) (fun t h => ht t (List.mem_cons_of_mem _ h))
      { st with prev := p } ho
    rw [renderSection, List.append_assoc, scan_append, hp]
    cases t <;> first | exact ih' | exact nomatch ht _ List.mem_cons_self

/-- a section of well-formed tokens which, if it uses the keyword, has the shape `brk* General text*`: neutral tokens
    are passed over, the first date token / elapsed unit decides, `General` leaves literal text only -/
theorem scan_section (ts : List Tok) (hwf : ∀ t ∈ ts, wfTok t = true)
    (hshape : ts.any isGeneral = true → generalShape ts = true)
    (st : St) (hq : Quiet st) (hap : st.ap = false) (post : List Char) (hs : Stops post) :
    scan st (renderSection ts ++ post) = .ok (classifySection ts) := by
  induction ts with
  | nil => exact scan_stops st hq.out post hs
  | cons t ts ih =>
    have hw := hwf t List.mem_cons_self
    have ih' := ih fun t h => hwf t (List.mem_cons_of_mem _ h)
    rw [renderSection, List.append_assoc]
    cases t with
    | dateTok s => exact scan_dateTok st hq hap s hw _
    | elapsed b => exact scan_elapsed st hq b hw _
    | general s =>
      obtain ⟨p, hp⟩ := run_general st hq hap s hw
      rw [scan_append, show renderTok (.general s) = s from rfl, hp]
      exact scan_text_toks ts (fun t h => hwf t (List.mem_cons_of_mem _ h)) (List.all_eq_true.mp (hshape rfl))
        { st with ap := true, prev := p } hq.out post hs
    | brk b => rw [scan_neutral_tok st hq hap _ hw rfl]; exact ih' hshape
    | _ => rw [scan_neutral_tok st hq hap _ hw rfl]; exact ih' fun ha => nomatch hshape ha

theorem scan_wf_section (ts : List Tok) (hwf : wfSection ts = true) (post : List Char) (hs : Stops post) :
    scan St.init (renderSection ts ++ post) = .ok (classifySection ts) := by
  simp only [wfSection, Bool.and_eq_true, List.all_eq_true] at hwf
  exact scan_section ts hwf.1 (fun ha => by simpa only [if_pos ha] using hwf.2) St.init quiet_init rfl post hs

/-! ### the loop never panics: no arm can (the bracket counter is a `usize`, see `St.brackets`) -/

theorem scan_total (st : St) (l : List Char) : ∃ c, scan st l = .ok c := by
  induction l generalizing st with
  | nil => exact ⟨.other, rfl⟩
  | cons c cs ih =>
    rw [scan_cons]
    cases step st c with
    | cont st' => exact ih st'
    | ret f => exact ⟨f, rfl⟩

theorem stops_renderRest (rest : List (List Tok)) : Stops (renderRest rest) := by
  cases rest with
  | nil => exact Or.inl rfl
  | cons s ss => exact Or.inr ⟨_, rfl⟩

end Formats
