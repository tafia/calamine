import CalVerif.Model.HeaderRow
import CalVerif.Lemmas.Range
import CalVerif.Lemmas.ListLoops
/-! Header-row windowing: `lastAt` under filtering, the kept cells `K0` (non-default) and `Kn` (non-default, row
    ≥ n), sheet coordinates `InSheet`, and the list the lazy readers hand to `from_sparse` (`keepLazy_row`).
    `RowSorted` is a hypothesis of `lazy_no_panic` and `lazy_eager_agree` (Props/C08) that no proof uses. -/
namespace HeaderRow
open Range
set_option linter.unusedSectionVars false
variable {α : Type} [Inhabited α] [DecidableEq α]

theorem lastAt_filter (l : List (Nat × Nat × α)) (f : Nat × Nat × α → Bool) (p q : Nat)
    (h : ∀ c ∈ l, c.1 = p → c.2.1 = q → f c = true) : lastAt (l.filter f) p q = lastAt l p q := by
  unfold lastAt
  rw [← List.filter_reverse, ListLoops.find?_filter_of_imp _ _ _ fun c hc hpos =>
    h c (List.mem_reverse.mp hc) (of_decide_eq_true hpos).1 (of_decide_eq_true hpos).2]

theorem lastAt_cons_default (l : List (Nat × Nat × α)) (a b p q : Nat) :
    (lastAt ((a, b, default) :: l) p q).getD default = (lastAt l p q).getD default := by
  rw [lastAt_cons]
  cases lastAt l p q with
  | some x => rfl
  | none => rw [Option.none_or]; split <;> rfl

/-- rows are non-decreasing in document order (what a well-formed sheet part gives); since `from_sparse` takes cells
    in any order no proof needs it -/
def RowSorted (cells : List (Nat × Nat × α)) : Prop := cells.Pairwise (fun a b => a.1 ≤ b.1)

/-- the cells the lazy readers keep under the default option, and under `Row(n)`: the two filters `keepLazy` writes
    out inline -/
abbrev K0 (cells : List (Nat × Nat × α)) := cells.filter (fun c => c.2.2 ≠ default)
abbrev Kn (cells : List (Nat × Nat × α)) (n : Nat) := cells.filter (fun c => c.2.2 ≠ default ∧ c.1 ≥ n)

theorem mem_K0 {cells : List (Nat × Nat × α)} {c : Nat × Nat × α} :
    c ∈ K0 cells ↔ c ∈ cells ∧ c.2.2 ≠ default := by
  simp only [List.mem_filter, decide_eq_true_eq]

theorem mem_Kn {cells : List (Nat × Nat × α)} {n : Nat} {c : Nat × Nat × α} :
    c ∈ Kn cells n ↔ c ∈ cells ∧ c.2.2 ≠ default ∧ n ≤ c.1 := by
  simp only [List.mem_filter, decide_eq_true_eq, ge_iff_le]

theorem Kn_eq (cells : List (Nat × Nat × α)) (n : Nat) :
    Kn cells n = (K0 cells).filter (fun c => decide (c.1 ≥ n)) := by
  simp only [Kn, K0, List.filter_filter]
  congr 1; funext c; simp [Bool.and_comm]

theorem Kn_eq_nil_iff {cells : List (Nat × Nat × α)} {n : Nat} :
    Kn cells n = [] ↔ ∀ c ∈ cells, c.2.2 ≠ default → c.1 < n := by
  rw [List.eq_nil_iff_forall_not_mem]
  constructor
  · intro h c hc hnd
    exact Nat.lt_of_not_le (fun hle => h c (mem_Kn.mpr ⟨hc, hnd, hle⟩))
  · intro h c hc
    obtain ⟨h1, h2, h3⟩ := mem_Kn.mp hc
    exact Nat.not_le_of_lt (h c h1 h2) h3

theorem lastAt_Kn (cells : List (Nat × Nat × α)) (n p q : Nat) (hp : n ≤ p) :
    lastAt (Kn cells n) p q = lastAt (K0 cells) p q := by
  rw [Kn_eq]
  exact lastAt_filter _ _ p q (fun c _ h1 _ => decide_eq_true (by rw [h1]; exact hp))

/-- coordinates of a real sheet: rows < 2^20, columns < 2^14 (`MAX_ROWS`, `MAX_COLUMNS`) -/
def InSheet (cells : List (Nat × Nat × α)) : Prop := ∀ c ∈ cells, c.1 < 1048576 ∧ c.2.1 < 16384

/-- the list the lazy readers hand to `from_sparse` under `Row(n)`: the kept cells, behind an empty anchor cell in row
    `n` (in the first kept cell's column) unless the first kept cell is in row `n` itself. Either way some cell of the
    list sits in row `n` (the second component on the left, the anchor on the right): that is what makes the range
    start exactly at row `n` (`lazy_window_any_order`). -/
theorem keepLazy_row (cells : List (Nat × Nat × α)) (n : Nat) :
    (keepLazy cells (.row n) = Kn cells n ∧ (Kn cells n ≠ [] → ∃ x ∈ Kn cells n, x.1 = n)) ∨
    ∃ c ∈ Kn cells n, keepLazy cells (.row n) = (n, c.2.1, default) :: Kn cells n := by
  cases hk : Kn cells n with
  | nil =>
    -- `hk` in the spelling of `keepLazy`, which cannot use `Kn`
    have h' : cells.filter (fun c => decide (c.2.2 ≠ default ∧ c.1 ≥ n)) = [] := hk
    exact Or.inl ⟨by simp only [keepLazy, h'], fun h => absurd rfl h⟩
  | cons c rest =>
    have h' : cells.filter (fun c => decide (c.2.2 ≠ default ∧ c.1 ≥ n)) = c :: rest := hk
    have e : keepLazy cells (.row n) = if c.1 ≠ n then (n, c.2.1, default) :: c :: rest else c :: rest := by
      simp only [keepLazy, h']
    by_cases hc : c.1 ≠ n
    · exact Or.inr ⟨c, List.mem_cons_self .., by rw [e, if_pos hc]⟩
    · exact Or.inl ⟨by rw [e, if_neg hc], fun _ => ⟨c, List.mem_cons_self .., Classical.not_not.mp hc⟩⟩

theorem windowLazy_row_nil (cells : List (Nat × Nat × α)) (n : Nat) (h : Kn cells n = []) :
    windowLazy cells (.row n) = .ok empty := by
  rcases keepLazy_row cells n with ⟨e, _⟩ | ⟨c, hc, _⟩
  · rw [windowLazy, e, h]; rfl
  · rw [h] at hc; cases hc

theorem keepLazy_inSheet (cells : List (Nat × Nat × α)) (hb : InSheet cells) (h : Hdr) :
    InSheet (keepLazy cells h) := by
  cases h with
  | firstNonEmpty => exact fun c hc => hb c (mem_K0.mp hc).1
  | row n =>
    have hK : InSheet (Kn cells n) := fun c hc => hb c (mem_Kn.mp hc).1
    rcases keepLazy_row cells n with ⟨e, _⟩ | ⟨c, hc, e⟩ <;> rw [e]
    · exact hK
    · intro x hx
      rcases List.mem_cons.mp hx with rfl | hx'
      · exact ⟨Nat.lt_of_le_of_lt (mem_Kn.mp hc).2.2 (hK c hc).1, (hK c hc).2⟩
      · exact hK x hx'

end HeaderRow
