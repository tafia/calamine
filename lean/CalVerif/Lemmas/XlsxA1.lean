import CalVerif.Model.XlsxCells
import CalVerif.Spec.XlsxSheet
import CalVerif.Lemmas.ResReturns
/-! `get_row_and_optional_column` on references: what it reads from digits and letters (`getRowCol_digits_letters`),
    hence from the names `column_number_to_name` / decimal text write; `atoi` on decimal text (`atoiUsize_dec`);
    `get_dimension` on a written rectangle; and that none of `getRowCol`, `getRowColumn`, `getRow`, `mapParts`, `getDimension` panics. -/
namespace XlsxCells

theorem satAdd_eq {a b : Nat} (h : a + b < U32) : satAdd a b = a + b := by simp [satAdd, h]
theorem satMul_eq {a b : Nat} (h : a * b < U32) : satMul a b = a * b := by simp [satMul, h]

/-! the grid A1..XFD1048576 lies well inside the `u32` arithmetic of the reference parser and of the cursors -/
theorem grid_row {r : Nat} (hr : r < 1048576) : 10 * (r + 1) < U32 := by simp only [U32]; omega
theorem grid_col {c : Nat} (hc : c < 16384) : 26 * (c + 1) < U32 := by simp only [U32]; omega
theorem satAdd_one {a : Nat} (h : a < 1048576) : satAdd a 1 = a + 1 := satAdd_eq (by simp only [U32]; omega)

/-- value of decimal digits given least-significant first -/
def valLE10 : Bytes → Nat
  | [] => 0
  | d :: ds => (d - 48) + 10 * valLE10 ds

/-- value of bijective base-26 letters (offset `off` = code of `A` or `a`) given least-significant first -/
def valLE26 (off : Nat) : Bytes → Nat
  | [] => 0
  | d :: ds => (d - off + 1) + 26 * valLE26 off ds

/-- one more digit `x` (base `b`, weight `pow`) in front of digits of value `v` -/
theorem digit_sum (b x v pow : Nat) : (x + b * v) * pow = x * pow + v * (pow * b) := by
  rw [Nat.add_mul, Nat.mul_comm pow b, ← Nat.mul_assoc, Nat.mul_comm v b]

theorem weight_succ (b pow n : Nat) : pow * b ^ (n + 1) = pow * b * b ^ n := by
  rw [Nat.pow_succ, Nat.mul_comm (b ^ n) b, Nat.mul_assoc]

/-- a positional run, least-significant digit first: each digit `d` adds `w d * pow` and multiplies `pow` by `b`
    (saturating); inside the stated bounds nothing saturates and the run adds the value of the digits -/
theorem horner_run {γ : Type} (b : Nat) (hb : 0 < b) (w : Nat → Nat) (val : Bytes → Nat) (run : Bytes → Nat → Nat → γ)
    (ok : Nat → Prop) (hnil : val [] = 0) (hcons : ∀ d ds, val (d :: ds) = w d + b * val ds)
    (hstep : ∀ d cs acc pow, ok d → run (d :: cs) acc pow = run cs (satAdd acc (satMul (w d) pow)) (satMul pow b))
    (ds rest : Bytes) (acc pow : Nat) (hd : ∀ d ∈ ds, ok d)
    (h1 : acc + val ds * pow < U32) (h2 : pow * b ^ ds.length < U32) :
    run (ds ++ rest) acc pow = run rest (acc + val ds * pow) (pow * b ^ ds.length) := by
  induction ds generalizing acc pow with
  | nil => simp only [hnil, List.nil_append, Nat.zero_mul, Nat.add_zero, List.length_nil, Nat.pow_zero, Nat.mul_one]
  | cons d ds ih =>
    have e1 := digit_sum b (w d) (val ds) pow
    have e2 := weight_succ b pow ds.length
    simp only [hcons, List.length_cons] at h1 h2 ⊢
    rw [e1] at h1 ⊢
    rw [e2] at h2 ⊢
    have hC : pow * b < U32 := Nat.lt_of_le_of_lt (Nat.le_mul_of_pos_right _ (Nat.pow_pos hb)) h2
    rw [List.cons_append, hstep d _ _ _ (hd d List.mem_cons_self), satMul_eq (by omega), satAdd_eq (by omega),
      satMul_eq hC, ih _ _ (fun x hx => hd x (List.mem_cons_of_mem _ hx)) (by omega) h2, Nat.add_assoc]

theorem a1Loop_digits (ds rest : Bytes) (row col pow : Nat)
    (hd : ∀ d ∈ ds, 48 ≤ d ∧ d ≤ 57)
    (h1 : row + valLE10 ds * pow < U32) (h2 : pow * 10 ^ ds.length < U32) :
    a1Loop (ds ++ rest) row col pow true =
      a1Loop rest (row + valLE10 ds * pow) col (pow * 10 ^ ds.length) true :=
  horner_run 10 (by decide) (· - 48) valLE10 (fun l acc pow => a1Loop l acc col pow true) (fun d => 48 ≤ d ∧ d ≤ 57)
    rfl (fun _ _ => rfl) (fun d cs acc pow h => by rw [a1Loop, if_pos h, if_pos rfl]) ds rest row pow hd h1 h2

theorem a1Loop_letter (off : Nat) (hoff : off = 65 ∨ off = 97) (l : Nat) (hl : off ≤ l ∧ l ≤ off + 25)
    (cs : Bytes) (row col pow : Nat) :
    a1Loop (l :: cs) row col pow false =
      a1Loop cs row (satAdd col (satMul (l - off + 1) pow)) (satMul pow 26) false := by
  rw [a1Loop, if_neg (by omega)]
  rcases hoff with rfl | rfl
  · rw [if_pos (by omega), if_neg Bool.false_ne_true]
  · rw [if_neg (by omega), if_pos (by omega), if_neg Bool.false_ne_true]

theorem a1Loop_first_letter (off : Nat) (hoff : off = 65 ∨ off = 97) (l : Nat) (hl : off ≤ l ∧ l ≤ off + 25)
    (cs : Bytes) (row col pow : Nat) (hrow : row ≠ 0) :
    a1Loop (l :: cs) row col pow true = a1Loop (l :: cs) row col 1 false := by
  rw [a1Loop_letter off hoff l hl, a1Loop, if_neg (by omega)]
  rcases hoff with rfl | rfl
  · rw [if_pos (by omega), if_pos rfl, if_neg hrow]
  · rw [if_neg (by omega), if_pos (by omega), if_pos rfl, if_neg hrow]

theorem a1Loop_letters (off : Nat) (hoff : off = 65 ∨ off = 97) (ls rest : Bytes) (row col pow : Nat)
    (hd : ∀ d ∈ ls, off ≤ d ∧ d ≤ off + 25)
    (h1 : col + valLE26 off ls * pow < U32) (h2 : pow * 26 ^ ls.length < U32) :
    a1Loop (ls ++ rest) row col pow false =
      a1Loop rest row (col + valLE26 off ls * pow) (pow * 26 ^ ls.length) false :=
  horner_run 26 (by decide) (· - off + 1) (valLE26 off) (fun l acc pow => a1Loop l row acc pow false)
    (fun d => off ≤ d ∧ d ≤ off + 25) rfl (fun _ _ => rfl)
    (fun d cs acc pow h => a1Loop_letter off hoff d h cs row acc pow) ls rest col pow hd h1 h2

theorem decLE_digits (n : Nat) : ∀ d ∈ decLE n, 48 ≤ d ∧ d ≤ 57 := by
  fun_induction decLE n with
  | case1 n h => intro d hd; simp at hd; omega
  | case2 n h ih =>
    intro d hd
    simp only [List.mem_cons] at hd
    rcases hd with rfl | hd
    · omega
    · exact ih d hd

theorem valLE10_decLE (n : Nat) : valLE10 (decLE n) = n := by
  fun_induction decLE n with
  | case1 n h => simp [valLE10]
  | case2 n h ih => simp only [valLE10, ih]; omega

theorem pow_len_decLE (n : Nat) (hn : 1 ≤ n) : 10 ^ (decLE n).length ≤ 10 * n := by
  fun_induction decLE n with
  | case1 n h => simp; omega
  | case2 n h ih =>
    have := ih (by omega)
    simp only [List.length_cons, Nat.pow_succ]
    omega

theorem decLE_ne_nil (n : Nat) : decLE n ≠ [] := by
  rw [decLE]; split <;> simp

theorem foldl_dec (l : Bytes) : l.reverse.foldl (fun acc c => acc * 10 + (c - 48)) 0 = valLE10 l := by
  induction l with
  | nil => rfl
  | cons d ds ih =>
    rw [List.reverse_cons, List.foldl_append, ih, valLE10, Nat.add_comm, Nat.mul_comm]; rfl

theorem decLE_length_le (k n : Nat) (hk : 1 ≤ k) (h : n < 10 ^ k) : (decLE n).length ≤ k := by
  by_cases h0 : n = 0
  · subst h0; rw [decLE]; exact hk
  · have := pow_len_decLE n (by omega)
    have : 10 ^ (decLE n).length < 10 ^ (k + 1) := by rw [Nat.pow_succ]; omega
    exact Nat.le_of_lt_succ ((Nat.pow_lt_pow_iff_right (by decide)).mp this)

open XlsxSheet in
/-- `n < 10 ^ 19`: at most 19 digits, so the text passes `atoi`'s length test (≤ 20) and its value is below 2^64. This
    hypothesis is where the bounds `idx < 10 ^ 19` of `Content.Ok` (Spec/XlsxSheet.lean) and `si < 10 ^ 19` of `SCell.Ok`
    (Spec/SharedSheet.lean) come from; it is not `usize::MAX`. -/
theorem atoiUsize_dec (n : Nat) (h : n < 10 ^ 19) : atoiUsize (dec n) = some n := by
  have hlen := decLE_length_le 19 n (by omega) h
  have hne := decLE_ne_nil n
  have hpos : 0 < (decLE n).length := List.length_pos_iff.mpr hne
  unfold atoiUsize dec
  have hall : (decLE n).reverse.all (fun c => decide (48 ≤ c ∧ c ≤ 57)) = true := by
    rw [List.all_eq_true]; intro x hx
    have := decLE_digits n x (List.mem_reverse.mp hx)
    simpa using this
  simp only [List.length_reverse, hall]
  rw [if_neg (by
    intro h
    rcases h with h | h | h
    · omega
    · omega
    · exact h trivial)]
  rw [foldl_dec, valLE10_decLE, if_pos (by omega)]

theorem colLE_letters (n : Nat) : ∀ d ∈ colLE n, 65 ≤ d ∧ d ≤ 90 := by
  fun_induction colLE n with
  | case1 => intro d hd; simp at hd
  | case2 n h ih =>
    intro d hd
    simp only [List.mem_cons] at hd
    rcases hd with rfl | hd
    · omega
    · exact ih d hd

theorem valLE26_colLE (n : Nat) : valLE26 65 (colLE n) = n := by
  fun_induction colLE n with
  | case1 => simp [valLE26]
  | case2 n h ih => simp only [valLE26, ih]; omega

theorem pow_len_colLE (n : Nat) (hn : 1 ≤ n) : 26 ^ (colLE n).length ≤ 26 * n := by
  fun_induction colLE n with
  | case1 => omega
  | case2 n h ih =>
    simp only [List.length_cons, Nat.pow_succ]
    by_cases h0 : (n - 1) / 26 = 0
    · rw [h0]; rw [colLE]; simp; omega
    · have := ih (by omega)
      omega

theorem colLE_ne_nil (n : Nat) (hn : 1 ≤ n) : colLE n ≠ [] := by
  rw [colLE]; split
  · omega
  · simp

theorem valLE26_lower (ls : Bytes) (h : ∀ d ∈ ls, 65 ≤ d ∧ d ≤ 90) :
    valLE26 97 (ls.map (· + 32)) = valLE26 65 ls := by
  induction ls with
  | nil => rfl
  | cons d ds ih =>
    have := h d List.mem_cons_self
    simp only [List.map_cons, valLE26, ih (fun x hx => h x (List.mem_cons_of_mem _ hx))]
    omega

/-- a reference made of digits `D` (value `n`) and then letters `L` of one case (value `m`), both given
    least-significant first, so the reference is `L.reverse ++ D.reverse`, reads as row `n` and column `m`, 1-based;
    without letters there is no column -/
theorem getRowCol_digits_letters (off : Nat) (hoff : off = 65 ∨ off = 97) (D L : Bytes)
    (hD : ∀ d ∈ D, 48 ≤ d ∧ d ≤ 57) (hL : ∀ d ∈ L, off ≤ d ∧ d ≤ off + 25) (n m : Nat) (hn : valLE10 D = n)
    (hm : valLE26 off L = m) (h0 : n ≠ 0) (h1 : n < U32) (h2 : 10 ^ D.length < U32) (h3 : m < U32)
    (h4 : 26 ^ L.length < U32) :
    getRowCol (L.reverse ++ D.reverse) = .ok (n - 1, if L = [] then none else some (m - 1)) := by
  subst hn hm
  unfold getRowCol
  rw [List.reverse_append, List.reverse_reverse, List.reverse_reverse,
    a1Loop_digits D L 0 0 1 hD (by rw [Nat.zero_add, Nat.mul_one]; exact h1) (by rw [Nat.one_mul]; exact h2), Nat.zero_add, Nat.mul_one, Nat.one_mul]
  cases L with
  | nil => simp only [a1Loop, if_neg h0, if_true]
  | cons l ls =>
    have hl := hL l List.mem_cons_self
    have := a1Loop_letters off hoff (l :: ls) [] (valLE10 D) 0 1 hL (by rw [Nat.zero_add, Nat.mul_one]; exact h3)
      (by rw [Nat.one_mul]; exact h4)
    rw [List.append_nil, Nat.zero_add, Nat.mul_one] at this
    rw [a1Loop_first_letter off hoff l hl ls _ _ _ h0, this]
    have hc : valLE26 off (l :: ls) ≠ 0 := by simp only [valLE26]; omega
    simp only [a1Loop, if_neg h0, if_neg hc, reduceCtorEq, if_false]

open XlsxSheet in
/-- the hypotheses are what keeps the loop's `pow` below 2^32: it runs one position past the last digit / letter, and
    `10 ^ digits ≤ 10 * (r + 1)`, `26 ^ letters ≤ 26 * (c + 1)` (`pow_len_decLE`, `pow_len_colLE`) -/
theorem getRowCol_refName (lower : Bool) (r c : Nat) (hr : 10 * (r + 1) < U32) (hc : 26 * (c + 1) < U32) :
    getRowCol (refName lower r c) = .ok (r, some c) := by
  have h1 : r + 1 < U32 := by omega
  have h2 := Nat.lt_of_le_of_lt (pow_len_decLE (r + 1) (Nat.succ_pos r)) hr
  have h3 : c + 1 < U32 := by omega
  have h4 := Nat.lt_of_le_of_lt (pow_len_colLE (c + 1) (Nat.succ_pos c)) hc
  have hne := colLE_ne_nil (c + 1) (Nat.succ_pos c)
  cases lower with
  | false =>
    exact (getRowCol_digits_letters 65 (.inl rfl) _ _ (decLE_digits _) (colLE_letters _) _ _ (valLE10_decLE _)
      (valLE26_colLE _) (Nat.succ_ne_zero r) h1 h2 h3 h4).trans (by rw [if_neg hne]; rfl)
  | true =>
    have := getRowCol_digits_letters 97 (.inr rfl) (decLE (r + 1)) ((colLE (c + 1)).map (· + 32)) (decLE_digits _)
      (fun d hd => by
        obtain ⟨x, hx, rfl⟩ := List.mem_map.mp hd
        have := colLE_letters _ x hx; omega)
      _ _ (valLE10_decLE _) ((valLE26_lower _ (colLE_letters _)).trans (valLE26_colLE _)) (Nat.succ_ne_zero r) h1 h2 h3
      (by rw [List.length_map]; exact h4)
    rw [if_neg (by simpa using hne), ← List.map_reverse] at this
    exact this

open XlsxSheet in
theorem getRowCol_dec (r : Nat) (hr : 10 * (r + 1) < U32) : getRowCol (dec (r + 1)) = .ok (r, none) :=
  getRowCol_digits_letters 65 (.inl rfl) (decLE (r + 1)) [] (decLE_digits _) (fun _ h => nomatch h) _ 0
    (valLE10_decLE _) rfl (Nat.succ_ne_zero r) (by omega)
    (Nat.lt_of_le_of_lt (pow_len_decLE (r + 1) (Nat.succ_pos r)) hr) (by decide) (by decide)

theorem a1Loop_returns (l : Bytes) (row col pow : Nat) (rr : Bool) : (a1Loop l row col pow rr).Returns := by
  induction l generalizing row col pow rr with
  | nil => exact .ok _
  | cons c cs ih =>
    rw [a1Loop]
    -- the `if`s of `a1Loop` in its order: digit (reading the row or not), upper-case letter, lower-case letter (each:
    -- still reading the row — with row 0 or not —, or not), else
    exact .ite (.ite (ih ..) (.err _))
      (.ite (.ite (.ite (.err _) (ih ..)) (ih ..)) (.ite (.ite (.ite (.err _) (ih ..)) (ih ..)) (.err _)))

theorem getRowCol_returns (s : Bytes) : (getRowCol s).Returns := by
  unfold getRowCol
  exact (a1Loop_returns s.reverse 0 0 1 true).elim (fun _ => .ite (.err _) (.ok _)) .err

theorem getRowColumn_returns (s : Bytes) : (getRowColumn s).Returns := by
  unfold getRowColumn
  rcases getRowCol_returns s with ⟨⟨row, _ | c⟩, h⟩ | ⟨e, h⟩ <;> rw [h]
  · exact .err _
  · exact .ok _
  · exact .err _

theorem getRow_returns (s : Bytes) : (getRow s).Returns := by
  unfold getRow
  exact (getRowCol_returns s).elim (fun _ => .ok _) .err

theorem mapParts_returns (ps : List Bytes) : (mapParts ps).Returns := by
  induction ps with
  | nil => exact .ok _
  | cons p ps ih =>
    rw [mapParts]
    exact (getRowColumn_returns p).elim (fun _ => ih.elim (fun _ => .ok _) .err) .err

theorem getDimension_returns (s : Bytes) : (getDimension s).Returns := by
  unfold getDimension
  refine (mapParts_returns (splitColon s)).elim (fun v => ?_) .err
  match v with
  | [] => exact .err _
  | [p] => exact .ok _
  | [p, q] => exact .ok _
  | _ :: _ :: _ :: _ => exact .err _

/-- a qualified name is looked at from its first colon on: nothing is cut from a name without one … -/
theorem localName_no_colon (n : Bytes) (h : ∀ x ∈ n, x ≠ 58) : localName n = n := by
  have hnil := List.dropWhile_append_of_pos (l₂ := []) (fun x hx => decide_eq_true (h x hx))
  rw [List.append_nil] at hnil
  rw [localName, hnil]
  rfl

/-- … and a prefix without one is cut with its colon -/
theorem localName_append (pre n : Bytes) (h : ∀ x ∈ pre, x ≠ 58) : localName (pre ++ 58 :: n) = n := by
  rw [localName, List.dropWhile_append_of_pos (fun x hx => decide_eq_true (h x hx))]
  rfl

theorem splitColon_no_colon (l : Bytes) (h : ∀ x ∈ l, x ≠ 58) : splitColon l = [l] := by
  induction l with
  | nil => rfl
  | cons c cs ih =>
    have hc := h c List.mem_cons_self
    rw [splitColon, if_neg hc, ih (fun x hx => h x (List.mem_cons_of_mem _ hx))]

theorem splitColon_append (a b : Bytes) (h : ∀ x ∈ a, x ≠ 58) :
    splitColon (a ++ 58 :: b) = a :: splitColon b := by
  induction a with
  | nil => simp [splitColon]
  | cons c cs ih =>
    have hc := h c List.mem_cons_self
    simp only [List.cons_append]
    rw [splitColon, if_neg hc, ih (fun x hx => h x (List.mem_cons_of_mem _ hx))]

open XlsxSheet in
theorem refName_no_colon (lower : Bool) (r c : Nat) : ∀ x ∈ refName lower r c, x ≠ 58 := by
  intro x hx
  simp only [refName, colLetters, dec, List.mem_append, List.mem_reverse] at hx
  rcases hx with hx | hx
  · cases lower with
    | false =>
      simp only [Bool.false_eq_true, if_false, List.mem_reverse] at hx
      have := colLE_letters _ x hx; omega
    | true =>
      simp only [if_true, List.mem_map, List.mem_reverse] at hx
      obtain ⟨y, hy, rfl⟩ := hx
      have := colLE_letters _ y hy; omega
  · have := decLE_digits _ x hx; omega

open XlsxSheet in
theorem getRowColumn_refName (lower : Bool) (r c : Nat) (hr : 10 * (r + 1) < U32) (hc : 26 * (c + 1) < U32) :
    getRowColumn (refName lower r c) = .ok (r, c) := by
  unfold getRowColumn; rw [getRowCol_refName lower r c hr hc]

open XlsxSheet in
theorem getRow_dec (r : Nat) (hr : 10 * (r + 1) < U32) : getRow (dec (r + 1)) = .ok r := by
  unfold getRow; rw [getRowCol_dec r hr]

open XlsxSheet in
theorem getDimension_dimRef (d : Dims) (h1 : 10 * (d.sr + 1) < U32) (h2 : 26 * (d.sc + 1) < U32)
    (h3 : 10 * (d.er + 1) < U32) (h4 : 26 * (d.ec + 1) < U32) : getDimension (dimRef d) = .ok d := by
  unfold getDimension dimRef
  rw [splitColon_append _ _ (refName_no_colon _ _ _), splitColon_no_colon _ (refName_no_colon _ _ _)]
  simp only [mapParts, getRowColumn_refName false _ _ h1 h2, getRowColumn_refName false _ _ h3 h4]

open XlsxSheet in
theorem getDimension_dimRef_grid (d : Dims) (h : d.sr < 1048576 ∧ d.sc < 16384 ∧ d.er < 1048576 ∧ d.ec < 16384) :
    getDimension (dimRef d) = .ok d :=
  getDimension_dimRef d (grid_row h.1) (grid_col h.2.1) (grid_row h.2.2.1) (grid_col h.2.2.2)

end XlsxCells
