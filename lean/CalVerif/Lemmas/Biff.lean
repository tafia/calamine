import CalVerif.Model.Biff
import CalVerif.Spec.BiffEnc
import CalVerif.Lemmas.BiffStrings
/-! C02: error codes, RK words (`rk_num` against the specification), little-endian read-after-write, and
    `parse_string` on what `xlString` writes. `Spec/BiffEnc` and `Spec/SstEnc` each have their own `byte`, `le16`,
    `le32` (the same terms): the facts about them are those of `Lemmas/BiffFraming`. -/

namespace BiffCells
open Biff

theorem parseErr_code (k : ErrKind) : parseErr (errCode k) = .ok (.error k) := by cases k <;> rfl

theorem errCode_lt (k : ErrKind) : errCode k < 256 := by cases k <;> decide

theorem parseErr_cases (e : Nat) :
    (∃ k, e = errCode k ∧ parseErr e = .ok (.error k)) ∨
    ((∀ k, e ≠ errCode k) ∧ parseErr e = .err "Unrecognized:error") := by
  by_cases h0 : e = 0x00; · exact .inl ⟨.null, h0, h0 ▸ rfl⟩
  by_cases h1 : e = 0x07; · exact .inl ⟨.div0, h1, h1 ▸ rfl⟩
  by_cases h2 : e = 0x0F; · exact .inl ⟨.value, h2, h2 ▸ rfl⟩
  by_cases h3 : e = 0x17; · exact .inl ⟨.ref, h3, h3 ▸ rfl⟩
  by_cases h4 : e = 0x1D; · exact .inl ⟨.name, h4, h4 ▸ rfl⟩
  by_cases h5 : e = 0x24; · exact .inl ⟨.num, h5, h5 ▸ rfl⟩
  by_cases h6 : e = 0x2A; · exact .inl ⟨.na, h6, h6 ▸ rfl⟩
  by_cases h7 : e = 0x2B; · exact .inl ⟨.gettingData, h7, h7 ▸ rfl⟩
  refine .inr ⟨fun k => by cases k <;> assumption, ?_⟩
  simp only [parseErr, if_neg h0, if_neg h1, if_neg h2, if_neg h3, if_neg h4, if_neg h5, if_neg h6, if_neg h7]

/-- the three masks `rk_num` applies to `rk[2]`, as arithmetic (all 256 bytes checked by the kernel) -/
theorem byte_masks : ∀ b, b < 256 →
    ((b &&& 1) != 0) = decide (b % 2 = 1) ∧ ((b &&& 2) != 0) = decide (b / 2 % 2 = 1) ∧ b &&& 0xFC = b / 4 * 4 := by
  decide +kernel

/-- Rust's truncating `%`/`/` in the integer arm agree with exact division by 100 -/
theorem rkNum_int_arm (ops : FOps) (v : Int) (d : Bool) :
    (if (d && (Int.tmod v 100 != 0)) = true then Num.float (ops.div100 (i2f v))
      else Num.int (if d = true then Int.tdiv v 100 else v))
    = (if d = true then (if v % 100 = 0 then Num.int (v / 100) else Num.float (ops.div100 (i2f v)))
      else Num.int v) := by
  cases d
  · simp
  · by_cases h : v % 100 = 0
    · have hd : (100 : Int) ∣ v := Int.dvd_of_emod_eq_zero h
      have h0 : Int.tmod v 100 = 0 := Int.tmod_eq_zero_of_dvd hd
      simp [h0, h, Int.tdiv_eq_ediv_of_dvd hd]
    · have h0 : Int.tmod v 100 ≠ 0 := fun h0 => h (Int.emod_eq_zero_of_dvd (Int.dvd_of_tmod_eq_zero h0))
      simp [h0, h]

theorem rkNum_eq_rkSpec (ops : FOps) (w : Nat) : rkNum ops w = rkSpec ops w := by
  obtain ⟨h1, h2, h3⟩ := byte_masks (w % 256) (Nat.mod_lt _ (by decide))
  have hd : ((w % 256 &&& 1) != 0) = decide (w % 2 = 1) := by
    rw [h1, Nat.mod_mod_of_dvd w (by decide : 2 ∣ 256)]
  have hI : ((w % 256 &&& 2) != 0) = decide (w / 2 % 2 = 1) := by
    rw [h2, Nat.mod_mul_right_div_self w 2 128, Nat.mod_mod_of_dvd _ (by decide : 2 ∣ 128)]
  have hm : (w % 256 &&& 0xFC) + 256 * (w / 256) = 4 * (w / 4) := by rw [h3]; omega
  -- `read_i32(..) >> 2` is the sign-extended 30-bit field
  have hv : (if 4 * (w / 4) < 2147483648 then ((4 * (w / 4) : Nat) : Int) else ((4 * (w / 4) : Nat) : Int) - 4294967296) >>> 2
      = (if w / 4 < 536870912 then ((w / 4 : Nat) : Int) else ((w / 4 : Nat) : Int) - 1073741824) := by
    rw [Int.shiftRight_eq_div_pow]
    split <;> split <;> omega
  have hb : 4 * (w / 4) * 4294967296 = w / 4 * 17179869184 := by omega
  simp only [rkNum, rkSpec]
  rw [hd, hI, hm, hv, hb, rkNum_int_arm]
  simp only [decide_eq_true_eq]

/-- [MS-XLS] 2.5.217 on a word given by its fields: `f / 2` is `fInt`, `f % 2` is `fX100` -/
theorem rkSpec_word (ops : FOps) (num f : Nat) (hf : f < 4) :
    rkSpec ops (num * 4 + f) =
      if f / 2 = 1 then
        let v : Int := if num < 536870912 then (num : Int) else (num : Int) - 1073741824
        if f % 2 = 1 then (if v % 100 = 0 then .int (v / 100) else .float (ops.div100 (i2f v))) else .int v
      else .float (if f % 2 = 1 then ops.div100 (num * 17179869184) else num * 17179869184) := by
  have h4 : num * 4 = 2 * (2 * num) := by omega
  have hf2 : f / 2 < 2 := by omega
  have e1 : (num * 4 + f) % 2 = f % 2 := by rw [h4, Nat.mul_add_mod]
  have e2 : (num * 4 + f) / 2 % 2 = f / 2 := by
    rw [h4, Nat.mul_add_div (by decide), Nat.mul_add_mod, Nat.mod_eq_of_lt hf2]
  have e3 : (num * 4 + f) / 4 = num := (DivMod.divmod_mul_add hf).1
  simp only [rkSpec, e1, e2, e3]

theorem rkSpec_int (ops : FOps) (num : Nat) (x100 : Bool) :
    rkSpec ops (num * 4 + 2 + (if x100 then 1 else 0)) =
      let v : Int := if num < 536870912 then (num : Int) else (num : Int) - 1073741824
      if x100 then (if v % 100 = 0 then .int (v / 100) else .float (ops.div100 (i2f v))) else .int v := by
  cases x100
  · exact rkSpec_word ops num 2 (by decide)
  · exact rkSpec_word ops num 3 (by decide)

theorem rkSpec_float (ops : FOps) (num : Nat) (x100 : Bool) :
    rkSpec ops (num * 4 + (if x100 then 1 else 0)) =
      .float (if x100 then ops.div100 (num * 17179869184) else num * 17179869184) := by
  cases x100
  · exact rkSpec_word ops num 0 (by decide)
  · exact rkSpec_word ops num 1 (by decide)

theorem sext30 (v : Int) (h1 : -536870912 ≤ v) (h2 : v < 536870912) :
    (if (v % 1073741824).toNat < 536870912 then (((v % 1073741824).toNat : Nat) : Int)
      else (((v % 1073741824).toNat : Nat) : Int) - 1073741824) = v := by
  split <;> omega

/-! `byte_toNat`, `u16_le16'`, `u32_le32'` restate `Biff.byte_toNat`, `Biff.u16_le16_mod`, `Biff.u32_le32_mod`
    (Lemmas/BiffFraming.lean) for the writers of Spec/BiffEnc, which an unqualified name means inside `BiffCells`. -/

theorem byte_toNat (n : Nat) : (byte n).toNat = n % 256 := Biff.byte_toNat n

theorem byte_toNat_lt {n : Nat} (h : n < 256) : (byte n).toNat = n := by
  rw [byte_toNat, Nat.mod_eq_of_lt h]

@[simp] theorem le16_length (n : Nat) : (le16 n).length = 2 := rfl
@[simp] theorem le32_length (n : Nat) : (le32 n).length = 4 := rfl
@[simp] theorem le64_length (n : Nat) : (le64 n).length = 8 := rfl

theorem u16_le16' (n : Nat) (rest : Bytes) : u16 (le16 n ++ rest) = n % 65536 := Biff.u16_le16_mod n rest

theorem u32_le32' (n : Nat) (rest : Bytes) : u32 (le32 n ++ rest) = n % 4294967296 := Biff.u32_le32_mod n rest

/-! The writers and readers of C02 are the little-endian fields of Lemmas/LittleEndian.lean: what follows reads a field
    "at the offset it was written at" off that library. -/

theorem le32_eq (v : Nat) : le32 v = LittleEndian.le 4 v := Biff.le32_eq v

theorem le64_eq (v : Nat) : le64 v = LittleEndian.le 8 v := by
  rw [le64, le32_eq, le32_eq, LittleEndian.le_add 4 4]

theorem u16At_eq (b : Bytes) (i : Nat) : u16At b i = LittleEndian.rd 2 b i := by
  rw [u16At, Biff.u16_eq, LittleEndian.rd_drop, Nat.add_zero]

theorem u32At_eq (b : Bytes) (i : Nat) : u32At b i = LittleEndian.rd 4 b i := by
  rw [u32At, Biff.u32_eq, LittleEndian.rd_drop, Nat.add_zero]

theorem u64At_eq (b : Bytes) (i : Nat) : u64At b i = LittleEndian.rd 8 b i := by
  rw [u64At, u32At_eq, u32At_eq, LittleEndian.rd_add 4 4]

theorem u16At_append_right (a b : Bytes) (i : Nat) (h : a.length ≤ i) : u16At (a ++ b) i = u16At b (i - a.length) := by
  rw [u16At_eq, u16At_eq, ← LittleEndian.rd_skip 2 a b a.length _ rfl, Nat.add_sub_cancel' h]

theorem u32At_append_right (a b : Bytes) (i : Nat) (h : a.length ≤ i) : u32At (a ++ b) i = u32At b (i - a.length) := by
  rw [u32At_eq, u32At_eq, ← LittleEndian.rd_skip 4 a b a.length _ rfl, Nat.add_sub_cancel' h]

theorem byteAt_append_right (a b : Bytes) (i : Nat) (h : a.length ≤ i) : byteAt (a ++ b) i = byteAt b (i - a.length) := by
  simp [byteAt, List.getD_eq_getElem?_getD, List.getElem?_append_right h]

theorem u16At_le16 (pre : Bytes) (n : Nat) (rest : Bytes) (i : Nat) (hi : pre.length = i) (hn : n < 65536) :
    u16At (pre ++ (le16 n ++ rest)) i = n := by
  rw [u16At_eq]; exact LittleEndian.rd_le_at 2 n pre rest i hi hn

theorem u32At_le32 (pre : Bytes) (n : Nat) (rest : Bytes) (i : Nat) (hi : pre.length = i) (hn : n < 4294967296) :
    u32At (pre ++ (le32 n ++ rest)) i = n := by
  rw [u32At_eq, le32_eq]; exact LittleEndian.rd_le_at 4 n pre rest i hi hn

theorem u64At_le64 (pre : Bytes) (x : Nat) (rest : Bytes) (i : Nat) (hi : pre.length = i)
    (hx : x < 18446744073709551616) : u64At (pre ++ (le64 x ++ rest)) i = x := by
  rw [u64At_eq, le64_eq]; exact LittleEndian.rd_le_at 8 x pre rest i hi hx

theorem cellHdr_length (p : PC) : (cellHdr p).length = 6 := rfl

/-- what every cell parser reads first of `row, col, ixfe`, then the payload -/
theorem cell_reads (row col xf : Nat) (pay : Bytes) (hr : row < 65536) (hc : col < 65536) :
    u16At (le16 row ++ le16 col ++ le16 xf ++ pay) 0 = row ∧ u16At (le16 row ++ le16 col ++ le16 xf ++ pay) 2 = col ∧
    (le16 row ++ le16 col ++ le16 xf ++ pay).length = 6 + pay.length ∧
    (le16 row ++ le16 col ++ le16 xf ++ pay).drop 6 = pay :=
  ⟨u16At_le16 [] row (le16 col ++ le16 xf ++ pay) 0 rfl hr, u16At_le16 (le16 row) col (le16 xf ++ pay) 2 rfl hc,
    by rw [List.length_append]; rfl, rfl⟩

theorem cell_xf (row col xf : Nat) (pay : Bytes) (hx : xf < 65536) :
    u16At (le16 row ++ le16 col ++ le16 xf ++ pay) 4 = xf :=
  u16At_le16 (le16 row ++ le16 col) xf pay 4 rfl hx

/-- Unicode scalar values -/
def validText (s : List Nat) : Prop := ∀ c ∈ s, c < 0xD800 ∨ (0xE000 ≤ c ∧ c < 0x110000)

theorem toUnits_eq (cs : List Nat) : toUnits cs = Utf16.units cs := by
  induction cs with
  | nil => rfl
  | cons c cs ih => rw [toUnits, ih]; rfl

theorem toUnits_roundtrip : ∀ (cs : List Nat), validText cs → decodeUtf16 (toUnits cs) = cs :=
  fun cs h => by rw [decodeUtf16_eq, toUnits_eq]; exact Utf16.decode_units_self cs h

theorem toUnits_lt : ∀ (cs : List Nat), validText cs → ∀ u ∈ toUnits cs, u < 65536 :=
  fun cs h => by rw [toUnits_eq]; exact Utf16.units_lt cs h

theorem xlString_eq (wide : Bool) (s : List Nat) :
    xlString wide s = xlUnicodeString (wide || !((toUnits s).all (· < 256))) (toUnits s) := by
  simp only [xlString, xlUnicodeString, encUnits, flagByte]
  generalize (wide || !((toUnits s).all (· < 256))) = w
  cases w <;> rfl

theorem parse_xlString (wide : Bool) (s : List Nat) (hs : validText s) (hl : (toUnits s).length < 65536) :
    parseStringWith 3 (xlString wide s) true = .ok s := by
  rw [xlString_eq, ← List.append_nil (xlUnicodeString _ _)]
  -- 8-bit packing is chosen only when every unit fits
  refine (parseString_roundtrip _ _ [] (toUnits_lt s hs) hl fun hw => ?_).trans
    (congrArg Res.ok (toUnits_roundtrip s hs))
  simp only [Bool.or_eq_false_iff, Bool.not_eq_false', List.all_eq_true, decide_eq_true_eq] at hw
  exact hw.2

theorem xlString_length_le (wide : Bool) (s : List Nat) : (xlString wide s).length ≤ 3 + 2 * (toUnits s).length := by
  rw [xlString_eq, xlUnicodeString, List.length_append, List.length_cons, encUnits_length]
  have : (Biff.le16 (toUnits s).length).length = 2 := rfl
  split <;> omega

end BiffCells
