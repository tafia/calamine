import CalVerif.Model.OdsCount
/-! Count lexing: `IsDigit` and `valOf` (used in the statements of C04), `parseDigits` on digits, and `trim` /
    `stripPlus` on a spelling `[white space][+]digits[white space]`. -/
namespace OdsCount

/-- a decimal digit character -/
def IsDigit (c : Char) : Prop := 48 ≤ c.toNat ∧ c.toNat ≤ 57

/-- the number a list of decimal digits denotes (leading zeros allowed) -/
def valOf (ds : List Char) : Nat := ds.foldl (fun a c => a * 10 + (c.toNat - 48)) 0

theorem parseDigits_digits : ∀ (ds : List Char) (acc : Nat), (∀ c ∈ ds, IsDigit c) →
    parseDigits ds acc = some (ds.foldl (fun a c => a * 10 + (c.toNat - 48)) acc)
  | [], _, _ => rfl
  | c :: r, acc, h => by
    have hc : IsDigit c := h c (by simp)
    have hc' : (48 ≤ c.toNat ∧ c.toNat ≤ 57) := hc
    simp only [parseDigits, digitVal, List.foldl_cons, if_pos hc']
    exact parseDigits_digits r _ (fun x hx => h x (by simp [hx]))

theorem isWs_digit (c : Char) (h : IsDigit c) : isWs c = false := by
  obtain ⟨h1, h2⟩ := h
  simp only [isWs]
  have : c.toNat ≠ 32 ∧ c.toNat ≠ 0x85 ∧ c.toNat ≠ 0xA0 ∧ c.toNat ≠ 0x1680 ∧ c.toNat ≠ 0x2028 ∧ c.toNat ≠ 0x2029 ∧
      c.toNat ≠ 0x202F ∧ c.toNat ≠ 0x205F ∧ c.toNat ≠ 0x3000 := by omega
  simp [this]
  -- left: the two intervals of `isWs`, `9 ≤ n → 13 < n` and `0x2000 ≤ n → 0x200A < n`
  omega

theorem isWs_plus : isWs '+' = false := by decide

theorem dropWhile_head_not (c : Char) (r : List Char) (h : isWs c = false) :
    (c :: r).dropWhile isWs = c :: r := by
  simp [h]

theorem trim_core (pre core post : List Char) (hpre : ∀ c ∈ pre, isWs c = true) (hpost : ∀ c ∈ post, isWs c = true)
    (a z : Char) (mid : List Char) (hcore : core = a :: mid) (hlast : core.getLast? = some z)
    (ha : isWs a = false) (hz : isWs z = false) : trim (pre ++ core ++ post) = core := by
  unfold trim
  rw [List.append_assoc, List.dropWhile_append_of_pos hpre]
  have hd : (core ++ post).dropWhile isWs = core ++ post := by subst hcore; simp [ha]
  rw [hd, List.reverse_append, List.dropWhile_append_of_pos (fun c hc => hpost c (by simpa using hc))]
  obtain ⟨init, rfl⟩ := List.getLast?_eq_some_iff.1 hlast
  simp [hz]

theorem trim_spelling (pre post ds : List Char) (plus : Bool) (hpre : ∀ c ∈ pre, isWs c = true)
    (hpost : ∀ c ∈ post, isWs c = true) (hne : ds ≠ []) (hd : ∀ c ∈ ds, IsDigit c) :
    trim (pre ++ ((if plus then ['+'] else []) ++ ds) ++ post) = (if plus then ['+'] else []) ++ ds := by
  obtain ⟨c0, r0, rfl⟩ := List.exists_cons_of_ne_nil hne
  have hz : isWs ((c0 :: r0).getLast (List.cons_ne_nil _ _)) = false := isWs_digit _ (hd _ (List.getLast_mem _))
  cases plus
  · exact trim_core pre (c0 :: r0) post hpre hpost c0 _ r0 rfl
      (List.getLast?_eq_some_getLast (List.cons_ne_nil _ _)) (isWs_digit c0 (hd c0 List.mem_cons_self)) hz
  · exact trim_core pre ('+' :: c0 :: r0) post hpre hpost '+' _ (c0 :: r0) rfl
      (by rw [List.getLast?_cons_cons]; exact List.getLast?_eq_some_getLast (List.cons_ne_nil _ _)) isWs_plus hz

theorem digit_ne_sign (c : Char) (h : IsDigit c) : c ≠ '+' ∧ c ≠ '-' := by
  constructor <;> (intro e; subst e; exact absurd h.1 (by decide))

theorem stripPlus_spelling (ds : List Char) (plus : Bool) (hne : ds ≠ []) (hd : ∀ c ∈ ds, IsDigit c) :
    stripPlus ((if plus then ['+'] else []) ++ ds) = ds := by
  obtain ⟨c0, r0, rfl⟩ := List.exists_cons_of_ne_nil hne
  cases plus
  · show stripPlus (c0 :: r0) = c0 :: r0
    unfold stripPlus
    split
    · rename_i heq; exact absurd (List.cons.inj heq).1 (digit_ne_sign c0 (hd c0 List.mem_cons_self)).1
    · rfl
  · rfl

end OdsCount
