import CalVerif.Lemmas.PtgXls
import CalVerif.Lemmas.PtgXlsb
/-! The A1 text does not depend on how the context is represented: congruence of `renderA1` in the environment,
    and agreement of the decoders' environments with the spec-level one (`specEnv`). -/
namespace Formula
open Ptg

/-- the two environments give the same answer on what this token asks of them -/
def Tok.envAgree (e1 e2 : Env) : Tok → Prop
  | .ref3d _ i _ => e1.sheet i = e2.sheet i
  | .area3d _ i _ _ => e1.sheet i = e2.sheet i
  | .refErr3d _ i => e1.sheet i = e2.sheet i
  | .areaErr3d _ i => e1.sheet i = e2.sheet i
  | .name _ i => e1.name i = e2.name i
  | .num b => e1.fmtNum b = e2.fmtNum b
  | _ => True

mutual
theorem renderA1_congr (e1 e2 : Env) : ∀ (e : Expr), (∀ t ∈ toRpn e, t.envAgree e1 e2) →
    renderA1 e1 e = renderA1 e2 e
  | .ref .., _ | .area .., _ | .int _, _ | .str .., _ | .bool _, _ | .err _, _ | .missing, _ => rfl
  | .ref3d c i a, h => by rw [renderA1, renderA1, show e1.sheet i = e2.sheet i from h (.ref3d c i a) List.mem_cons_self]
  | .area3d c i a b, h => by
    rw [renderA1, renderA1, show e1.sheet i = e2.sheet i from h (.area3d c i a b) List.mem_cons_self]
  | .name c i, h => h (.name c i) List.mem_cons_self
  | .num b, h => h (.num b) List.mem_cons_self
  | .uplus e, h | .uminus e, h | .percent e, h | .paren e, h | .sum e, h | .inert _ e, h => by
    rw [renderA1, renderA1, renderA1_congr e1 e2 e (fun t ht => h t (List.mem_append_left _ ht))]
  | .bin op a b, h => by
    rw [renderA1, renderA1,
      renderA1_congr e1 e2 a (fun t ht => h t (List.mem_append_left _ (List.mem_append_left _ ht))),
      renderA1_congr e1 e2 b (fun t ht => h t (List.mem_append_left _ (List.mem_append_right _ ht)))]
  | .func _ _ args, h | .funcVar _ _ args, h => by
    rw [renderA1, renderA1, renderArgs_congr e1 e2 args (fun t ht => h t (List.mem_append_left _ ht))]
theorem renderArgs_congr (e1 e2 : Env) : ∀ (args : List Expr), (∀ t ∈ toRpnArgs args, t.envAgree e1 e2) →
    renderArgs e1 args = renderArgs e2 args
  | [], _ => rfl
  | [a], h => by
    rw [renderArgs, renderArgs]
    exact renderA1_congr e1 e2 a (fun t ht => h t (List.mem_append_left _ ht))
  | a :: b :: rest, h => by
    rw [renderArgs, renderArgs, renderA1_congr e1 e2 a (fun t ht => h t (List.mem_append_left _ ht)),
      renderArgs_congr e1 e2 (b :: rest) (fun t ht => h t (List.mem_append_right _ ht))]
end

/-- the context of a formula as the property describes it: a 3-D reference with index `ixti` designates the sheet
    whose index is the `itab_first` of the XTI entry; names by 0-based index -/
def specEnv (sheets names : List (List Char)) (xtis : List Int) (fmt : Nat → List Char) : Env :=
  ⟨fun ixti => match xtis[ixti]? with
      | some it => (sheets[it.toNat]?).getD []
      | none => [],
   fun i => (names[i]?).getD [], fmt⟩

/-- every sheet / name index of the token resolves -/
def Tok.refsOk (sheets names : List (List Char)) (xtis : List Int) : Tok → Prop
  | .ref3d _ i _ => ∃ it, xtis[i]? = some it ∧ 0 ≤ it ∧ it.toNat < sheets.length
  | .area3d _ i _ _ => ∃ it, xtis[i]? = some it ∧ 0 ≤ it ∧ it.toNat < sheets.length
  | .refErr3d _ i => ∃ it, xtis[i]? = some it ∧ 0 ≤ it ∧ it.toNat < sheets.length
  | .areaErr3d _ i => ∃ it, xtis[i]? = some it ∧ 0 ≤ it ∧ it.toNat < sheets.length
  | .name _ i => i < names.length
  | _ => True

theorem sheet_agree_xls (sheets names : List (List Char)) (xtis : List Int) (fmt : Nat → List Char) (i : Nat)
    (h : ∃ it, xtis[i]? = some it ∧ 0 ≤ it ∧ it.toNat < sheets.length) :
    (envOfXls ⟨sheets, names, xtis, fmt⟩).sheet i = (specEnv sheets names xtis fmt).sheet i := by
  obtain ⟨it, h1, h2, h3⟩ := h
  have hn : ¬ it < 0 := by omega
  simp [envOfXls, sheetXls, specEnv, h1, hn, h3]

theorem sheet_agree_xlsb (sheets names : List (List Char)) (xtis : List Int) (fmt : Nat → List Char) (i : Nat)
    (h : ∃ it, xtis[i]? = some it ∧ 0 ≤ it ∧ it.toNat < sheets.length) :
    (envOfXlsb ⟨resolveExtern sheets xtis, names, [], fmt⟩).sheet i = (specEnv sheets names xtis fmt).sheet i ∧
    i < (resolveExtern sheets xtis).length := by
  obtain ⟨it, h1, h2, h3⟩ := h
  have hi : i < xtis.length := (List.getElem?_eq_some_iff.mp h1).1
  have h2' : ¬ it = -2 := by omega
  have h1' : ¬ it = -1 := by omega
  constructor
  · have hs : sheets[it.toNat]? = some sheets[it.toNat] := List.getElem?_eq_getElem h3
    simp only [envOfXlsb, specEnv, resolveExtern, List.getElem?_map, h1, Option.map_some, h2', h1', h2, if_false,
      if_true, hs, Option.getD_some]
  · simp only [resolveExtern, List.length_map]; exact hi

theorem tok_agree_xls (sheets names : List (List Char)) (xtis : List Int) (fmt : Nat → List Char) (t : Tok)
    (h : t.refsOk sheets names xtis) :
    t.envAgree (envOfXls ⟨sheets, names, xtis, fmt⟩) (specEnv sheets names xtis fmt) := by
  cases t with
  | ref3d _ i _ | area3d _ i _ _ | refErr3d _ i | areaErr3d _ i => exact sheet_agree_xls sheets names xtis fmt i h
  | name c i =>
    have hi : i < names.length := h
    simp [Tok.envAgree, envOfXls, specEnv, hi]
  | _ => trivial

theorem tok_agree_xlsb (sheets names : List (List Char)) (xtis : List Int) (fmt : Nat → List Char) (t : Tok)
    (h : t.refsOk sheets names xtis) :
    t.envAgree (envOfXlsb ⟨resolveExtern sheets xtis, names, [], fmt⟩) (specEnv sheets names xtis fmt) ∧
    t.sheetOk (resolveExtern sheets xtis).length := by
  cases t with
  | ref3d _ i _ | area3d _ i _ _ | refErr3d _ i | areaErr3d _ i => exact sheet_agree_xlsb sheets names xtis fmt i h
  | name c i =>
    have hi : i < names.length := h
    simp [Tok.envAgree, Tok.sheetOk, envOfXlsb, specEnv, hi]
  | num b => exact ⟨rfl, trivial⟩
  | _ => exact ⟨trivial, trivial⟩

end Formula
