import CalVerif.Lemmas.Range
/-! `Range::from_sparse` on cells in strict row-major order (what a well-formed worksheet delivers): used by C02. -/

/-- the `∃` companion of core's `List.forall_mem_map` -/
theorem List.exists_mem_map {α β : Type} {f : α → β} {l : List α} {P : β → Prop} :
    (∃ i ∈ l.map f, P i) ↔ ∃ j ∈ l, P (f j) :=
  ⟨fun ⟨_, hi, h⟩ => let ⟨j, hj, e⟩ := List.mem_map.mp hi; ⟨j, hj, e ▸ h⟩, fun ⟨_, hj, h⟩ => ⟨_, List.mem_map_of_mem hj, h⟩⟩

namespace Range

variable {α : Type} [Inhabited α]

/-- strict row-major order of two positions -/
def posLt (a b : Nat × Nat) : Prop := a.1 < b.1 ∨ (a.1 = b.1 ∧ a.2 < b.2)

/-- the positions `ps` are kept as a list of their own, so that a caller may give them as the positions of whatever its
    cells were made from; `hb` is the BIFF8 grid -/
theorem fromSparse_sorted (cells : List (Nat × Nat × α)) (ps : List (Nat × Nat))
    (hpos : cells.map (fun c => (c.1, c.2.1)) = ps) (hs : ps.Pairwise posLt) (hb : ∀ z ∈ ps, z.1 < 65536 ∧ z.2 < 256) :
    ∃ r, fromSparse cells = .ok r ∧ (ps = [] → r.inner.length = 0) ∧
      (ps ≠ [] → r.inner.length ≠ 0 ∧
        (∀ z ∈ ps, r.sr ≤ z.1 ∧ z.1 ≤ r.er ∧ r.sc ≤ z.2 ∧ z.2 ≤ r.ec) ∧
        (∃ z ∈ ps, z.1 = r.sr) ∧ (∃ z ∈ ps, z.1 = r.er) ∧ (∃ z ∈ ps, z.2 = r.sc) ∧ (∃ z ∈ ps, z.2 = r.ec)) ∧
      (∀ c ∈ cells, r.valAt c.1 c.2.1 = c.2.2) ∧
      (∀ p q, (p, q) ∉ ps → r.valAt p q = default) := by
  subst hpos
  obtain ⟨r, hr⟩ := fromSparse_of_pre cells <| sparsePre_of_lt 65536 256 (by decide) (by decide) cells
    fun c hc => hb _ (List.mem_map_of_mem hc)
  obtain ⟨_, he, hm, ht, _, hd, hu⟩ := fromSparse_spec_all cells r hr
  have hdist := hd ((List.pairwise_map.mp hs).imp fun h e => by unfold posLt at h; omega)
  refine ⟨r, hr, fun h0 => he.mpr (List.map_eq_nil_iff.mp h0), fun hne => ?_, hdist,
    fun p q h => hu p q fun c hc e => h (List.mem_map.mpr ⟨c, hc, by rw [e.1, e.2]⟩)⟩
  have hne' : cells ≠ [] := fun h0 => hne (by rw [h0]; rfl)
  obtain ⟨t1, t2, t3, t4⟩ := ht hne'
  exact ⟨fun h0 => hne' (he.mp h0), List.forall_mem_map.mpr hm, List.exists_mem_map.mpr t1, List.exists_mem_map.mpr t2, List.exists_mem_map.mpr t3,
    List.exists_mem_map.mpr t4⟩

end Range
