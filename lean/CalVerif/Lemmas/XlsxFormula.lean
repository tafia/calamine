import CalVerif.Model.XlsxFormula
import CalVerif.Lemmas.XlsxSheet
/-! `next_formula` (`Model/XlsxFormula.lean`) run on the events the C01 encoder `XlsxSheet.renderSheet` produces:
    every cell comes back with the text of its `<f>` (`readFormulas_render`, for C14). The outer loop is that of
    `next_cell` (`rowsLoop`, an instance of `XlsxSheet.RowsLoop`: also what `Lemmas/SharedEvents.lean` (C15) runs its own
    encoder on); this file adds what `next_formula` does inside a `<c>` (`cellBody`). -/
namespace XlsxFormula
open XlsxCells XlsxSheet

theorem run_of_foldl (evs : List Ev) (st st' : St) (h : Res.foldl step st evs = .ok st') (hd : st'.mode = .done) :
    run evs st = .ok st'.out.reverse :=
  Res.run_of_foldl (run := run) (done := fun st => st.mode = .done) (fin := fun st => Res.ok st.out.reverse)
    (fun st hd => by simp only [run, hd, if_true]) (fun ev rest st st1 hs => by simp only [run, hs])
    (fun st _ hd => by obtain ⟨mode, row, col, out, tb⟩ := st; subst hd; rfl) h hd

/-- the table of shared groups `tb` is a parameter: the outer loop does not change it -/
theorem rowsLoop (tb : SharedFormula.Table) : RowsLoop step (fun r c out => ⟨.rows, r, c, out, tb⟩)
    (fun pos _ r out => ⟨.cell pos none, r, pos.2, out, tb⟩) (fun r c out => ⟨.done, r, c, out, tb⟩) where
  text _ _ _ _ := rfl
  other _ _ _ := rfl
  rowStart r c x p attrs := by
    simp only [step.eq_def, ln_row, if_true, refOr]
    cases getAttr attrs nR with
    | none => rfl
    | some ref => dsimp only; cases getRow ref <;> rfl
  rowStop r c x p := by simp only [step.eq_def, ln_row, if_true]
  cellStart r c x p attrs := by
    simp only [step.eq_def, ln_c, nC_ne_nRow, if_false, if_true, refOr]
    cases getAttr attrs nR with
    | none => rfl
    | some ref => dsimp only; cases getRowColumn ref <;> rfl
  dataStop r c x p := by simp only [step.eq_def, ln_sd, nSheetData_ne_nRow, if_false, if_true]
  done _ _ _ _ := rfl

/-- inside a `<c>` `next_formula` first asks every child start tag for `t="shared"`; the encoders of `Spec/XlsxSheet.lean`
    write their `<f>`, `<v>`, `<is>` without attributes -/
theorem no_shared_attr : (getAttr ([] : Attrs) nT = some tShared) = False := eq_false nofun

theorem steps_formula (p : Bool) (pos : Nat × Nat) (row col : Nat) (out : List (Nat × Nat × Bytes)) (tb : SharedFormula.Table) (f : Option Bytes) :
    Res.foldl step ⟨.cell pos none, row, col, out, tb⟩ (formulaEvents p f) = .ok ⟨.cell pos f, row, col, out, tb⟩ := by
  cases f with
  | none => rfl
  | some f =>
    by_cases hf : f = [] <;>
      simp only [formulaEvents, hf, if_true, if_false, List.cons_append, List.nil_append, List.append_nil, Res.foldl,
        step.eq_def, ln_f, no_shared_attr, or_true, not_true_eq_false]

theorem steps_pieces_skip (pos : Nat × Nat) (v : Option Bytes) (name : Bytes) (d : Nat) (row col : Nat)
    (out : List (Nat × Nat × Bytes)) (tb : SharedFormula.Table) (chunks : List Bytes) :
    Res.foldl step ⟨.skip pos v name d, row, col, out, tb⟩ (pieces chunks) = .ok ⟨.skip pos v name d, row, col, out, tb⟩ :=
  XlsxCells.steps_pieces step (fun _ => ⟨.skip pos v name d, row, col, out, tb⟩) (fun _ _ => rfl) (fun _ => rfl) chunks []

theorem steps_v (p : Bool) (pos : Nat × Nat) (v : Option Bytes) (row col : Nat) (out : List (Nat × Nat × Bytes))
    (tb : SharedFormula.Table) (chunks : List Bytes) :
    Res.foldl step ⟨.cell pos v, row, col, out, tb⟩ (vEvents p chunks) = .ok ⟨.cell pos v, row, col, out, tb⟩ := by
  simp only [vEvents, List.cons_append, List.nil_append, Res.foldl, step.eq_def, ln_v, no_shared_attr, nV_ne_nF, true_or, or_true,
    not_true_eq_false, if_false]
  rw [Res.foldl_append_ok (steps_pieces_skip ..)]
  simp only [Res.foldl, step.eq_def, if_true]

theorem steps_content (p : Bool) (sp : Bytes → List Bytes) (pos : Nat × Nat) (v : Option Bytes) (c : Content) (row col : Nat)
    (out : List (Nat × Nat × Bytes)) (tb : SharedFormula.Table) :
    Res.foldl step ⟨.cell pos v, row, col, out, tb⟩ (contentEvents p sp c).2 = .ok ⟨.cell pos v, row, col, out, tb⟩ := by
  cases c with
  | blank => rfl
  | inline s =>
    simp only [contentEvents, List.cons_append, List.nil_append, Res.foldl, step.eq_def, ln_is, no_shared_attr, q_eq, nT_ne_nIs, nIs_ne_nF,
      true_or, not_true_eq_false, if_false]
    rw [Res.foldl_append_ok (steps_pieces_skip ..)]
    simp only [Res.foldl, step.eq_def, q_eq, nT_ne_nIs, if_false, if_true]
  | _ => exact steps_v p pos v row col out tb _

/-- inside a `<c>`: `next_formula` keeps the text of its `<f>` (or `""`) and returns the cell at `</c>` -/
theorem cellBody (tb : SharedFormula.Table) : CellBody step (fun r c out => ⟨.rows, r, c, out, tb⟩)
    (fun pos _ r out => ⟨.cell pos none, r, pos.2, out, tb⟩) (fun _ => True)
    (fun r c cs out => (r, c, cs.formula.getD []) :: out) := by
  intro p sp _ r c attrs cs out _ _ _
  rw [Res.foldl_append_ok (steps_formula ..), Res.foldl_append_ok (steps_content ..)]
  simp only [Res.foldl, step.eq_def, ln_c, if_true]

def rowFormulas (r : Nat) (cells : List (Nat × CellSpec)) : List (Nat × Nat × Bytes) :=
  cells.map fun cell => (r, cell.1, cell.2.formula.getD [])

/-- the formula text of every stored cell of the sheet, row-major (`""` where the cell has no `<f>`) -/
def formulasOf (s : Sheet) : List (Nat × Nat × Bytes) :=
  s.flatMap fun row => rowFormulas row.1 row.2

/-- every `<c>` comes back with the text of its `<f>`, whatever the order of the rows and of the cells in a row -/
theorem readFormulas_render (s : Sheet) (lay : Layout) (hl : lay.Legal) (hg : s.InGrid) :
    readFormulas (renderSheet s lay) = .ok (formulasOf s) := by
  obtain ⟨row, h⟩ := (rowsLoop []).body_items (cellBody []) lay hl s hg fun _ _ _ _ => trivial
  simp only [readFormulas, readerNew_render s lay hl, run_of_foldl _ initSt _ h rfl, List.reverse_reverse]
  rfl

end XlsxFormula
