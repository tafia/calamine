import CalVerif.Lemmas.Ovba
import CalVerif.Lemmas.ResReturns
/-! `decompress_stream` on arbitrary input (properties C18 / C06). Every loop of the model either fails with an `Err`
    or returns, having only consumed input and having produced at most 2049 bytes per byte consumed
    (`Res.ReturnsWith`, `St.After`). One induction per loop thus gives at once that the fuel the model hands its loops is
    enough, that there is no panic, and the allocation bound. -/
namespace Ovba
open Res (ReturnsWith)

theorem copyLoop_returns (off : Nat) (h1 : 1 ≤ off) : ∀ (fuel len : Nat) (out : Bytes) (olen : Nat),
    len + 1 ≤ fuel → ReturnsWith (copyLoop off fuel len out olen) fun p => p.1.length ≤ out.length + len
  | 0, _, _, _, h => by omega
  | fuel + 1, len, out, olen, h => by
    rw [copyLoop]
    refine .ite (fun hgt => ?_) fun _ => ?_
    · refine (copyLoop_returns off h1 fuel (len - off) _ _ (by omega)).mono fun p hp => ?_
      rw [List.length_append, List.length_take] at hp
      exact Nat.le_trans hp (by omega)
    · refine .ok ?_
      rw [List.length_append, List.length_take, Nat.add_comm]
      exact Nat.add_le_add_left (Nat.min_le_left _ _) _

/-- potential: bytes produced so far + 2049 × bytes still to read (a copy token: 2 bytes in, ≤ 4098 out) -/
def pot (st : St) : Nat := st.out.length + 2049 * st.rest.length

/-- `st'` comes after `st` in a chunk: input was only consumed, and every consumed byte paid for at most 2049 output bytes -/
def St.After (st' st : St) : Prop := st'.rest.length ≤ st.rest.length ∧ pot st' ≤ pot st

theorem St.After.refl (st : St) : st.After st := ⟨Nat.le_refl _, Nat.le_refl _⟩
theorem St.After.trans {a b c : St} (h1 : a.After b) (h2 : b.After c) : a.After c :=
  ⟨Nat.le_trans h1.1 h2.1, Nat.le_trans h1.2 h2.2⟩

theorem St.After.consume (pre r out' out : Bytes) (o' c' o c : Nat)
    (h : out'.length ≤ out.length + 2049 * pre.length) : St.After ⟨r, out', o', c'⟩ ⟨pre ++ r, out, o, c⟩ := by
  refine ⟨?_, ?_⟩ <;> simp only [pot, List.length_append] <;> omega

theorem lenField_le (tok bc : Nat) (h : 4 ≤ bc) : (tok &&& 0xFFFF >>> bc) + 3 ≤ 4098 := by
  have h1 : tok &&& 0xFFFF >>> bc ≤ 0xFFFF >>> bc := Nat.and_le_right
  have h2 : 0xFFFF >>> bc ≤ 0xFFFF >>> 4 := by
    rw [Nat.shiftRight_eq_div_pow, Nat.shiftRight_eq_div_pow]
    exact Nat.div_le_div_left (Nat.pow_le_pow_right (by omega) h) (by omega)
  have h3 : 0xFFFF >>> 4 = 4095 := by decide
  omega

theorem tokenLoop_returns (size start : Nat) : ∀ (n flags : Nat) (st : St),
    ReturnsWith (tokenLoop size start n flags st) fun p => p.1.After st
  | 0, _, st => .ok (St.After.refl st)
  | n + 1, flags, ⟨rest, out, olen, clen⟩ => by
    rw [tokenLoop]
    refine .ite (fun _ => .ok (St.After.refl _)) fun _ => .ite (fun _ => ?_) fun _ => ?_
    · cases rest with
      | nil => exact .err
      | cons b r =>
        exact (tokenLoop_returns size start n _ _).mono fun p hp =>
          hp.trans (.consume [b] r _ _ _ _ _ _ (Nat.add_le_add_left (show 1 ≤ 2049 by decide) _))
    · match rest with
      | [] | [_] => exact .err
      | lo :: hi :: r =>
        dsimp only
        cases hb : bitCount? (olen - start) with
        | none => exact .err
        | some bc =>
          refine .ite (fun _ => .err) fun _ => ?_
          refine (copyLoop_returns _ (Nat.le_add_left 1 _) _ _ _ _ (Nat.le_refl _)).elim (fun p hp => ?_) fun _ => .err
          exact (tokenLoop_returns size start n _ _).mono fun q hq => hq.trans (.consume [lo, hi] r _ _ _ _ _ _
            (Nat.le_trans hp
              (Nat.add_le_add_left (lenField_le (u16le lo hi) bc (bitCount?_eq_some.1 hb).2.1.1) _)))

theorem chunkLoop_returns (size start : Nat) : ∀ (fuel : Nat) (st : St), st.rest.length + 1 ≤ fuel →
    ReturnsWith (chunkLoop size start fuel st) fun st' => st'.After st
  | 0, _, h => by omega
  | fuel + 1, ⟨rest, out, olen, clen⟩, h => by
    rw [chunkLoop]
    cases rest with
    | nil => exact .ok (St.After.refl _)
    | cons b r =>
      refine .ite (fun _ => .ok (St.After.refl _)) fun _ => ?_
      refine (tokenLoop_returns _ _ _ _ _).elim (fun p (h1 : p.1.After _) => ?_) fun _ => .err
      obtain ⟨st1, brk⟩ := p
      have h2 : St.After ⟨r, out, olen, clen + 1⟩ ⟨b :: r, out, olen, clen⟩ :=
        .consume [b] r _ _ _ _ _ _ (Nat.le_add_right _ _)
      cases brk with
      | true => exact .ok (h1.trans h2)
      | false =>
        exact (chunkLoop_returns size start fuel st1 (Nat.le_trans (Nat.succ_le_succ h1.1) (Nat.le_of_succ_le_succ h))).mono
          fun st' h' => h'.trans (h1.trans h2)

/-- a raw chunk: 2 header bytes and 4096 data bytes in, 4096 bytes out -/
theorem raw_bound {L res o : Nat} (hL : ¬ L < 4096) (hr : res ≤ min 4096 L + o + 2049 * (L - 4096)) :
    res ≤ o + 2049 * (L + 1 + 1) := by
  omega

/-- a compressed chunk: the loop inside it went from `(o, L)` to `(o', L')` -/
theorem chunk_bound {L L' res o o' : Nat} (h : o' + 2049 * L' ≤ o + 2049 * L) (hr : res ≤ o' + 2049 * L') :
    res ≤ o + 2049 * (L + 1 + 1) := by
  omega

theorem mainLoop_returns : ∀ (fuel : Nat) (rest out : Bytes) (olen : Nat), rest.length + 1 ≤ fuel →
    ReturnsWith (mainLoop fuel rest out olen) fun res => res.length ≤ out.length + 2049 * rest.length
  | 0, _, _, _, h => by omega
  | fuel + 1, [], out, olen, h => .ok (Nat.le_add_right _ _)
  | fuel + 1, [_], out, olen, h => .err
  | fuel + 1, lo :: hi :: r, out, olen, h => by
      rw [mainLoop]
      refine .ite (fun _ => .err) fun _ => .ite (fun _ => .ite (fun _ => .err) fun hL => ?_) fun _ => ?_
      · have hf : (r.drop 4096).length + 1 ≤ fuel := by
          rw [List.length_drop]
          exact Nat.le_trans (Nat.succ_le_succ (Nat.le_trans (Nat.sub_le _ _) (Nat.le_succ _))) (Nat.le_of_succ_le_succ h)
        refine (mainLoop_returns fuel _ _ _ hf).mono fun res hr => ?_
        rw [List.length_append, List.length_reverse, List.length_take, List.length_drop] at hr
        exact raw_bound hL hr
      · refine (chunkLoop_returns _ _ _ _ (Nat.le_refl _)).elim (fun st (h1 : st.After _) => ?_) fun _ => .err
        have hf : st.rest.length + 1 ≤ fuel :=
          Nat.le_trans (Nat.succ_le_succ (Nat.le_trans h1.1 (Nat.le_succ _))) (Nat.le_of_succ_le_succ h)
        exact (mainLoop_returns fuel _ _ _ hf).mono fun res hr => chunk_bound h1.2 hr

theorem decompress_returns (s : Bytes) : ReturnsWith (decompress s) fun out => out.length ≤ 2049 * s.length := by
  unfold decompress
  cases s with
  | nil => exact .err
  | cons b rest =>
    refine .ite (fun _ => .err) fun _ => ?_
    refine (mainLoop_returns _ rest [] 0 (Nat.le_refl _)).elim (fun o this => .ok ?_) fun _ => .err
    simp only [List.length_nil] at this
    rw [List.length_reverse, List.length_cons]
    omega

end Ovba
