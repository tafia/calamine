import CalVerif.Spec.MetadataEnc
import CalVerif.Lemmas.BiffStrings
import CalVerif.Lemmas.ListLoops
/-! xls: the BoundSheet8 / Lbl / ExternSheet parsers and the globals loop on the output of their encoders. `MetaEnc.encUnits` and
    `MetaEnc.shortString` unfold to C12's `Biff.encUnits` / `Biff.shortXlUnicodeString`, whose round trips are used. -/
open Meta MetaEnc
open Biff (byte le16 le32)

namespace MetaLemmas

theorem units_packOk (us : List Nat) (wide : Bool) (h : ∀ u ∈ us, u < (if wide then 65536 else 256)) :
    (∀ u ∈ us, u < 65536) ∧ Biff.packOk (us, wide) := by
  cases wide
  · exact ⟨fun u hu => Nat.lt_trans (h u hu) (by decide), fun _ => h⟩
  · exact ⟨h, fun hw => nomatch hw⟩

theorem xlsVis_lookup (vis : SheetVisible) (reserved : Nat) :
    Gen.xlsVisTable.lookup ((xlsVisCode vis + 64 * reserved) % 256 &&& Gen.xlsVisMask) = some vis := by
  have hm : (xlsVisCode vis + 64 * reserved) % 256 &&& Gen.xlsVisMask = xlsVisCode vis := by
    have : xlsVisCode vis < 3 := by cases vis <;> decide
    rw [show Gen.xlsVisMask = 2 ^ 6 - 1 from rfl, Nat.and_two_pow_sub_one_eq_mod]
    omega
  rw [hm]
  cases vis <;> rfl

theorem xlsKind_lookup (kind : SheetType) (dt : Nat) (h : xlsKindCode kind = some dt) :
    dt < 256 ∧ Gen.xlsKindTable.lookup dt = some kind := by
  cases kind <;> cases h <;> decide


theorem parseSheetMetadata_encoded (off : Nat) (hoff : off < 4294967296) (vis : SheetVisible) (reserved : Nat)
    (kind : SheetType) (dt : Nat) (hk : xlsKindCode kind = some dt)
    (us : List Nat) (hlen : us.length < 256) (wide : Bool) (hunits : ∀ u ∈ us, u < (if wide then 65536 else 256)) :
    parseSheetMetadata (encodeBoundSheet off (xlsVisCode vis + 64 * reserved) dt us wide) true
      = .ok (off, ⟨(Biff.decodeUtf16 us).filter (· != 0), kind, vis⟩) := by
  obtain ⟨hdt, hkl⟩ := xlsKind_lookup kind dt hk
  have hvis := xlsVis_lookup vis reserved
  have hname : Biff.parseShortString (shortString us wide ++ []) true = .ok (Biff.decodeUtf16 us) :=
    Biff.parseShortString_roundtrip wide us [] (units_packOk us wide hunits).1 hlen (units_packOk us wide hunits).2
  rw [List.append_nil] at hname
  generalize xlsVisCode vis + 64 * reserved = hs at hvis
  -- the six bytes in front of the name are list cells: the reads at fixed offsets compute
  have hl : ¬ (encodeBoundSheet off hs dt us wide).length < 6 := Nat.not_lt.mpr (Nat.le_add_left 6 _)
  have h4 : byteAt (encodeBoundSheet off hs dt us wide) 4 = hs % 256 := Biff.byte_toNat hs
  have h5 : byteAt (encodeBoundSheet off hs dt us wide) 5 = dt := (Biff.byte_toNat dt).trans (Nat.mod_eq_of_lt hdt)
  have hd : (encodeBoundSheet off hs dt us wide).drop 6 = shortString us wide := rfl
  have hu : Biff.u32 (encodeBoundSheet off hs dt us wide) = off := Biff.u32_le32 off hoff (byte hs :: byte dt :: shortString us wide)
  unfold parseSheetMetadata
  simp only [hl, if_false, h4, h5, hd, hu, hvis, hkl, hname]

theorem le16_length (n : Nat) : (le16 n).length = 2 := rfl
theorem le32_length (n : Nat) : (le32 n).length = 4 := rfl

theorem encUnits_length (wide : Bool) (us : List Nat) : (encUnits wide us).length = (if wide then 2 * us.length else us.length) := by
  rw [show encUnits wide us = Biff.encUnits wide us from rfl, Biff.encUnits_length]
  cases wide
  · exact Nat.one_mul _
  · rfl

theorem sheet_payload_length (s : XlsSheet) (h : s.units.length < 256) : s.payload.length < 65536 := by
  unfold XlsSheet.payload encodeBoundSheet shortString
  simp only [List.length_append, List.length_cons, le32_length, List.length_nil, encUnits_length]
  split <;> omega

theorem readNoCch_encoded (us : List Nat) (wide : Bool) (rest : Bytes) (h : ∀ u ∈ us, u < (if wide then 65536 else 256)) :
    readUnicodeStringNoCch ((if wide then (1 : UInt8) else 0) :: (encUnits wide us ++ rest)) us.length = .ok (Biff.decodeUtf16 us) := by
  unfold readUnicodeStringNoCch readUnicodeStringNoCchWith
  have hf : Biff.flagHigh (if wide then 1 else 0) = wide := Biff.flagHigh_flagByte wide
  simp only [hf, Bool.and_true]
  have hb : (if wide = true then 2 * us.length else us.length) = (encUnits wide us).length := (encUnits_length wide us).symm
  rw [hb]
  have hlen : ¬ ((encUnits wide us ++ rest).length < (encUnits wide us).length) := by simp
  simp only [hlen, if_false, List.take_left' rfl]
  exact congrArg (fun p => Res.ok (Biff.decodeUtf16 p.1))
    (Biff.decodeTo_encUnits wide us us.length (units_packOk us wide h).1 (units_packOk us wide h).2 (Nat.le_refl _))

theorem pdValue_ok (pd : Bytes → Res (Option Nat × Text)) (rgce : Bytes) (h : (pd rgce).isOk = true) :
    pd rgce = .ok (pdValue pd rgce) := by
  unfold pdValue
  cases hp : pd rgce <;> first | rfl | (rw [hp] at h; cases h)

/-- the Lbl payload with its fifteen leading bytes as list cells: reads at fixed offsets compute on this form -/
theorem encodeLbl_cells (us : List Nat) (wide : Bool) (itab : Nat) (rgce : Bytes) : encodeLbl us wide itab rgce =
    byte 0 :: byte (0 / 256) :: 0 :: byte us.length :: byte rgce.length :: byte (rgce.length / 256) :: byte 0 :: byte (0 / 256) ::
      byte itab :: byte (itab / 256) :: 0 :: 0 :: 0 :: 0 :: (if wide then (1 : UInt8) else 0) :: (encUnits wide us ++ rgce) := by
  simp only [encodeLbl, le16, List.cons_append, List.nil_append]

theorem parseLbl_encoded (pd : Bytes → Res (Option Nat × Text)) (us : List Nat) (wide : Bool) (itab : Nat) (rgce : Bytes)
    (h1 : us.length < 256) (h2 : ∀ u ∈ us, u < (if wide then 65536 else 256)) (h3 : rgce.length < 65536)
    (h4 : (pd rgce).isOk = true) :
    parseLblWith readUnicodeStringNoCch pd true (encodeLbl us wide itab rgce) = .ok (Biff.decodeUtf16 us, pdValue pd rgce) := by
  have hlen : (encodeLbl us wide itab rgce).length = 15 + (encUnits wide us).length + rgce.length := by
    rw [encodeLbl_cells]; simp only [List.length_cons, List.length_append]; omega
  have hb3 : byteAt (encodeLbl us wide itab rgce) 3 = us.length := by
    rw [encodeLbl_cells]; exact (Biff.byte_toNat _).trans (Nat.mod_eq_of_lt h1)
  have hcce : Biff.u16 ((encodeLbl us wide itab rgce).drop 4) = rgce.length := by
    rw [encodeLbl_cells]; exact Biff.u16_le16 _ h3 _
  have hd14 : (encodeLbl us wide itab rgce).drop 14 = (if wide then (1 : UInt8) else 0) :: (encUnits wide us ++ rgce) := by
    rw [encodeLbl_cells]; rfl
  have hdr : (encodeLbl us wide itab rgce).drop ((encodeLbl us wide itab rgce).length - rgce.length) = rgce := by
    -- split the offset as 14 + (flag byte and characters), so that `hd14` serves for the first part
    rw [hlen, show 15 + (encUnits wide us).length + rgce.length - rgce.length = 14 + ((encUnits wide us).length + 1) by omega,
      ← List.drop_drop, hd14, List.drop_succ_cons, List.drop_left]
  have hnl : (if byteAt (encodeLbl us wide itab rgce) 14 % 2 = 1 then 2 * us.length else us.length) = (encUnits wide us).length := by
    rw [encUnits_length, encodeLbl_cells]; cases wide <;> rfl
  -- `hnl`, `hlc` and `hdr` have the shape the model's tests take once `cch` (`hb3`) and `cce` (`hcce`) are rewritten
  have hl14 : ¬ ((encodeLbl us wide itab rgce).length < 14) := by omega
  have hl15 : ¬ ((encodeLbl us wide itab rgce).length < 15) := by omega
  have hlc : ¬ ((encodeLbl us wide itab rgce).length < max (15 + (encUnits wide us).length) rgce.length) := by omega
  unfold parseLblWith
  simp only [hl14, hl15, if_false, if_true, Bool.true_and, decide_false, Bool.false_eq_true, hb3, hcce, hnl, hlc, hd14,
    readNoCch_encoded us wide rgce h2, hdr, pdValue_ok pd rgce h4]

theorem i16_le16 (n : Nat) (h : n < 65536) (rest : Bytes) : i16 (le16 n ++ rest) = asI16 n := by
  unfold i16 asI16
  rw [Biff.u16_le16 n h]

theorem xtiLoop_encoded : ∀ (x : List (Nat × Nat × Nat)), (∀ e ∈ x, e.1 < 65536 ∧ e.2.1 < 65536 ∧ e.2.2 < 65536) → ∀ (n : Nat), x.length ≤ n →
    xtiLoop n (x.flatMap xtiBytes) = .ok (x.map (fun e => asI16 e.2.1))
  | [], _, n, _ => by cases n <;> rfl
  | e :: es, _, 0, hn => absurd hn (Nat.not_succ_le_zero _)
  | e :: es, hall, n + 1, hn => by
    have ih := xtiLoop_encoded es (fun y hy => hall y (List.mem_cons_of_mem _ hy)) n (Nat.le_of_succ_le_succ hn)
    have hl6 : ¬ ((xtiBytes e ++ es.flatMap xtiBytes).length < 6) := Nat.not_lt.mpr (Nat.le_add_left 6 _)
    have hi : i16 ((xtiBytes e ++ es.flatMap xtiBytes).drop 2) = asI16 e.2.1 := i16_le16 _ (hall e List.mem_cons_self).2.1 _
    have hd6 : (xtiBytes e ++ es.flatMap xtiBytes).drop 6 = es.flatMap xtiBytes := List.drop_left' rfl
    rw [List.flatMap_cons, xtiLoop]
    simp only [hl6, if_false, hd6, ih, hi, List.map_cons]

theorem parseExternSheet_encoded (x : List (Nat × Nat × Nat)) (h1 : x.length < 65536)
    (h2 : ∀ e ∈ x, e.1 < 65536 ∧ e.2.1 < 65536 ∧ e.2.2 < 65536) :
    parseExternSheet (externData x) = .ok (x.map (fun e => asI16 e.2.1)) := by
  have hl : ¬ ((externData x).length < 2) := Nat.not_lt.mpr (Nat.le_add_left 2 _)
  have hd : (externData x).drop 2 = x.flatMap xtiBytes := rfl
  rw [parseExternSheet, if_neg hl, hd, show Biff.u16 (externData x) = x.length from Biff.u16_le16 _ h1 _]
  exact xtiLoop_encoded x h2 x.length (Nat.le_refl _)

/-- the name reader of the current code (after fix D35), the one the xls lemmas are about -/
abbrev NR := readUnicodeStringNoCch

/-- record id and payload of a declared record: `GRec.bytes r = record (grecTyp r) (grecData r)` (`grec_bytes`) -/
def grecTyp : GRec → Nat
  | .sheet _ => 0x0085
  | .date _ => 0x0022
  | .neutral t _ => t
  | .lbl _ _ _ _ => 0x0018
  | .extern _ => 0x0017

/-- see `grecTyp` -/
def grecData : GRec → Bytes
  | .sheet s => s.payload
  | .date v => le16 v
  | .neutral _ d => d
  | .lbl us w it rg => encodeLbl us w it rg
  | .extern x => externData x

theorem grec_bytes (r : GRec) : r.bytes = record (grecTyp r) (grecData r) := by
  cases r <;> rfl

theorem grec_typ_ok (pd : Bytes → Res (Option Nat × Text)) (r : GRec) (h : r.ok pd) :
    grecTyp r < 65536 ∧ grecTyp r ≠ 0x3C ∧ (grecData r).length < 65536 := by
  cases r with
  | sheet s => exact ⟨by simp [grecTyp], by simp [grecTyp], sheet_payload_length s h.2.2.2.1⟩
  | date v => exact ⟨by simp [grecTyp], by simp [grecTyp], by simp [grecData]⟩
  | neutral t d =>
    obtain ⟨h1, h2, h3⟩ := h
    refine ⟨h1, ?_, h3⟩
    intro h
    apply h2
    have : t = 0x3C := h
    rw [this]; decide
  | lbl us w it rg => exact ⟨by simp [grecTyp], by simp [grecTyp], h.2.2.2.2.1⟩
  | extern x => exact ⟨by simp [grecTyp], by simp [grecTyp], h.2.2⟩

theorem step_grec (pd : Bytes → Res (Option Nat × Text)) (st : XlsSt) (hb : st.biff8 = true)
    (r : GRec) (h : r.ok pd) :
    xlsStep NR pd st ⟨grecTyp r, grecData r, []⟩ = .ok (some (applyRec pd st r)) ∧ (applyRec pd st r).biff8 = true := by
  cases r with
  | sheet s =>
    obtain ⟨h1, _, ⟨k, hk⟩, h4, h5⟩ := h
    have hkind : xlsKindCode s.kind = some s.dt := by
      simp only [XlsSheet.kind, (xlsKind_lookup k s.dt hk).2, Option.getD_some, hk]
    have hr := parseSheetMetadata_encoded s.offset h1 s.vis s.reserved s.kind s.dt hkind s.units h4 s.wide h5
    simp [grecTyp, grecData, xlsStep, XlsSheet.payload, hb, hr, liftUnit, applyRec, XlsSheet.decoded]
  | date v =>
    have hu : Biff.u16 (le16 v) = v := by simpa using Biff.u16_le16 v h []
    refine ⟨by simp [grecTyp, grecData, xlsStep, hu, applyRec], ?_⟩
    simp only [applyRec]; split <;> simp [hb]
  | neutral t d =>
    have ht := h.2.1
    simp only [interpretedIds, List.mem_cons, List.not_mem_nil, or_false, not_or] at ht
    -- one disequality per arm of `xlsStep`, in the order of `interpretedIds`; the twelfth (CONTINUE) is for `grec_typ_ok`
    obtain ⟨h1, h2, h3, h4, h5, h6, h7, h8, h9, h10, h11, _⟩ := ht
    simp [grecTyp, xlsStep, applyRec, hb, h1, h2, h3, h4, h5, h6, h7, h8, h9, h10, h11]
  | lbl us w it rg =>
    obtain ⟨h1, h2, _, h4, _, h6⟩ := h
    simp [grecTyp, grecData, xlsStep, hb, parseLbl_encoded pd us w it rg h1 h2 h4 h6, liftUnit, applyRec]
  | extern x => simp [grecTyp, grecData, xlsStep, hb, parseExternSheet_encoded x h.1 h.2.1, liftUnit, applyRec]

theorem notCont_recs (pd : Bytes → Res (Option Nat × Text)) (recs : List GRec) (hall : ∀ r ∈ recs, r.ok pd) (rest : Bytes)
    (hrest : Biff.notCont rest) :
    Biff.notCont (recs.flatMap GRec.bytes ++ rest) :=
  Biff.notCont_flatMap _ recs rest (fun r hr X => by
    obtain ⟨h1, h2, _⟩ := grec_typ_ok pd r (hall r hr)
    rw [grec_bytes r]
    exact Biff.notCont_frameRec _ _ [] X h1 h2) hrest

theorem globals_recs (pd : Bytes → Res (Option Nat × Text)) :
    ∀ (recs : List GRec), (∀ r ∈ recs, r.ok pd) → ∀ (fuel : Nat) (rest : Bytes) (st : XlsSt), Biff.notCont rest → st.biff8 = true →
      xlsGlobals NR pd (fuel + recs.length) (recs.flatMap GRec.bytes ++ rest) st =
        xlsGlobals NR pd fuel rest (recs.foldl (applyRec pd) st)
  | [], _, _, _, _, _, _ => rfl
  | r :: rs, hall, fuel, rest, st, hrest, hb => by
    have hrs : ∀ x ∈ rs, x.ok pd := fun x hx => hall x (List.mem_cons_of_mem _ hx)
    obtain ⟨h1, _, h3⟩ := grec_typ_ok pd r (hall r List.mem_cons_self)
    obtain ⟨hstep, hb'⟩ := step_grec pd st hb r (hall r List.mem_cons_self)
    rw [List.flatMap_cons, List.append_assoc, List.length_cons, ← Nat.add_assoc, xlsGlobals, grec_bytes r, record,
      Biff.nextRecord_plain _ _ _ h1 h3 (notCont_recs pd rs hrs rest hrest)]
    simp only [hstep]
    exact globals_recs pd rs hrs fuel rest _ hrest hb'

theorem foldl_applyRec (pd : Bytes → Res (Option Nat × Text)) (recs : List GRec) : ∀ (st : XlsSt),
    recs.foldl (applyRec pd) st =
      { st with sheets := st.sheets ++ (declaredSheets recs).map XlsSheet.decoded, is1904 := st.is1904 || declared1904 recs,
                names := st.names ++ declaredNames pd recs, xtis := st.xtis ++ declaredXtis recs } := by
  induction recs with
  | nil => intro st; simp [declaredSheets, declared1904, declaredNames, declaredXtis]
  | cons r rs ih =>
    intro st
    rw [List.foldl_cons, ih]
    cases r with
    | date v =>
      have hb : (v == 1) = decide (v = 1) := rfl
      by_cases hv : v = 1 <;> simp [applyRec, declaredSheets, declared1904, declaredNames, declaredXtis, hv, hb]
    | _ => simp [applyRec, declaredSheets, declared1904, declaredNames, declaredXtis, List.append_assoc]

theorem xlsGlobals_encoded (pd : Bytes → Res (Option Nat × Text))
    (recs : List GRec) (hall : ∀ r ∈ recs, r.ok pd) (tail : Bytes) (htail : Biff.notCont tail) (fuel : Nat) :
    xlsGlobals NR pd (fuel + 1 + recs.length + 1) (encodeGlobals recs tail) {} = .ok (recs.foldl (applyRec pd) {}) := by
  unfold encodeGlobals record
  have hEofNC : Biff.notCont (Biff.frameRec 0x000A [] [] ++ tail) := Biff.notCont_frameRec _ _ _ _ (by decide) (by decide)
  rw [xlsGlobals]
  rw [Biff.nextRecord_plain 0x0809 (bofData 5) _ (by decide) (by decide) (notCont_recs pd recs hall _ hEofNC)]
  have hbof : xlsStep NR pd {} ⟨0x0809, bofData 5, []⟩ = .ok (some {}) := by
    have : parseBof (bofData 5) = .ok true := by decide
    simp [xlsStep, this, liftUnit]
  simp only [hbof]
  rw [globals_recs pd recs hall (fuel + 1) _ _ hEofNC rfl]
  rw [xlsGlobals, Biff.nextRecord_plain 0x000A [] tail (by decide) (by decide) htail]
  simp [xlsStep]

theorem parseWorkbookXlsWith_of_globals (nr : Bytes → Nat → Res Text) (pd : Bytes → Res (Option Nat × Text)) (stream : Bytes)
    (st : XlsSt) (h : xlsGlobals nr pd (stream.length + 1) stream {} = .ok st) (hoff : ∀ s ∈ st.sheets, s.1 ≤ stream.length) :
    parseWorkbookXlsWith nr pd stream =
      .ok ⟨st.sheets.map (·.2), st.names.map (resolveName st.xtis st.sheets), st.is1904⟩ := by
  unfold parseWorkbookXlsWith
  rw [h]
  have hany : (st.sheets.any fun s => decide (stream.length < s.1)) = false := by
    rw [List.any_eq_false]
    intro x hx
    have := hoff x hx
    simp; omega
  simp [hany]

theorem record_length (typ : Nat) (data : Bytes) : (record typ data).length = 4 + data.length := by
  simp only [record, Biff.frameRec, Biff.frameConts, List.append_nil, List.length_append, Biff.recHdr_length]

theorem encodeGlobals_fuel (recs : List GRec) (tail : Bytes) :
    ∃ fuel, (encodeGlobals recs tail).length + 1 = fuel + 1 + recs.length + 1 := by
  have h1 := ListLoops.length_le_flatMap GRec.bytes (fun r => by rw [grec_bytes, record_length]; omega) recs
  have h2 : (encodeGlobals recs tail).length = 4 + (bofData 5).length + ((recs.flatMap GRec.bytes).length + (4 + 0 + tail.length)) := by
    simp only [encodeGlobals, List.length_append, record_length, List.length_nil]
  exact ⟨(encodeGlobals recs tail).length + 1 - (recs.length + 2), by omega⟩

/-- `parse_workbook` on an encoded globals substream: the statement of C16's `sheets_in_order_xls`; it stands here for the
    hand-over lemmas of `Lemmas/MetadataCompose.lean` -/
theorem parseWorkbookXls_encoded (pd : Bytes → Res (Option Nat × Text))
    (recs : List GRec) (hall : ∀ r ∈ recs, r.ok pd) (tail : Bytes) (htail : Biff.notCont tail)
    (hoff : ∀ s ∈ declaredSheets recs, s.offset ≤ (encodeGlobals recs tail).length) :
    parseWorkbookXls pd (encodeGlobals recs tail) =
      .ok ⟨(declaredSheets recs).map (fun s => s.decoded.2),
           (declaredNames pd recs).map (resolveName (declaredXtis recs) ((declaredSheets recs).map XlsSheet.decoded)),
           declared1904 recs⟩ := by
  obtain ⟨fuel, hf⟩ := encodeGlobals_fuel recs tail
  have hg := xlsGlobals_encoded pd recs hall tail htail fuel
  rw [← hf, foldl_applyRec] at hg
  have := parseWorkbookXlsWith_of_globals readUnicodeStringNoCch pd _ _ hg (by
    intro x hx
    simp only [List.nil_append] at hx
    obtain ⟨s, hs, rfl⟩ := List.mem_map.mp hx
    exact hoff s hs)
  unfold parseWorkbookXls
  rw [this]
  simp [List.map_map, Function.comp_def]

end MetaLemmas
