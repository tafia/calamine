import CalVerif.Model.Dates
import CalVerif.Spec.Dates
import CalVerif.Lemmas.DivMod
/-! The days→civil arithmetic of `Model/Dates` advances like the calendar of `Spec/Dates`: a day is
    addressed by its digits (era, century, 4-year block, year, day), the year cascade is a capped
    division, "one day later" a carry, month/day a 366-entry table.  Then order, well-formedness,
    chrono's span, the time of day of a millisecond count, and the 1900 leap-year shim. -/

namespace Dates

/-- day `doy` of year `a` of 4-year block `q` of century `c` of an era exists; day 365 (29 February)
    only in the last year of a block, unless that block ends one of the first three centuries -/
structure YD (c q a doy : Nat) : Prop where
  hc : c ≤ 3
  hq : q ≤ 24
  ha : a ≤ 3
  hd : doy < 365 ∨ (doy = 365 ∧ a = 3 ∧ (q < 24 ∨ c = 3))

/-- the day-of-era with these digits: centuries of 36 524 days, blocks of 1461, years of 365 -/
def doeOf (c q a doy : Nat) : Nat := c * 36524 + (q * 1461 + (a * 365 + doy))

theorem yearOfDoe_of_YD {c q a doy : Nat} (h : YD c q a doy) :
    yearOfDoe (doeOf c q a doy) = (c * 100 + q * 4 + a, doy) := by
  obtain ⟨hc, hq, ha, hd⟩ := h
  obtain ⟨h1, h2, h3⟩ : (q * 1461 + (a * 365 + doy) < 36524 ∨ c = 3) ∧ a * 365 + doy < 1461 ∧
      (doy < 365 ∨ a = 3) := by omega
  unfold yearOfDoe doeOf
  simp only []  -- the `let`s of `yearOfDoe`
  rw [DivMod.capDiv_eq (by decide) hc h1, Nat.add_sub_cancel_left, (DivMod.divmod_mul_add h2).1,
    Nat.add_sub_cancel_left, DivMod.capDiv_eq (by decide) ha h3, Nat.add_sub_cancel_left]

theorem YD.zero : YD 0 0 0 0 := ⟨by decide, by decide, by decide, Or.inl (by decide)⟩

/-- its day number in era `era`; era 0 starts on 0000-03-01, `epochShift` (= 693899) days before the epoch -/
def dayNum (era : Int) (c q a doy : Nat) : Int := era * 146097 + doeOf c q a doy - 693899

/-- one day later: the next day of the same year, or after its last day a carry into the year,
    block or century digit or (`e' = 1`) the era -/
theorem YD.succ (era : Int) {c q a doy : Nat} (h : YD c q a doy) :
    ∃ (e' c' q' a' doy' : Nat), YD c' q' a' doy' ∧
      dayNum (era + e') c' q' a' doy' = dayNum era c q a doy + 1 ∧
      ((e' = 0 ∧ c' = c ∧ q' = q ∧ a' = a ∧ doy' = doy + 1) ∨
       ((era + e') * 400 + (c' * 100 + q' * 4 + a' : Nat) =
            era * 400 + (c * 100 + q * 4 + a : Nat) + 1 ∧
          doy' = 0 ∧ (doy = 365 ∨ (doy = 364 ∧ ¬ (a = 3 ∧ (q < 24 ∨ c = 3)))))) := by
  obtain ⟨hc, hq, ha, hd⟩ := h
  unfold dayNum doeOf
  by_cases hs : doy < 364 ∨ (doy = 364 ∧ a = 3 ∧ (q < 24 ∨ c = 3))
  · have hd' : doy + 1 < 365 ∨ (doy + 1 = 365 ∧ a = 3 ∧ (q < 24 ∨ c = 3)) :=
      hs.elim (fun h => Or.inl (Nat.succ_lt_succ h)) fun ⟨e, l⟩ => Or.inr ⟨congrArg (· + 1) e, l⟩
    exact ⟨0, c, q, a, doy + 1, ⟨hc, hq, ha, hd'⟩, by omega, Or.inl ⟨rfl, rfl, rfl, rfl, rfl⟩⟩
  · obtain rfl | ⟨rfl, hl⟩ : doy = 365 ∨ (doy = 364 ∧ ¬ (a = 3 ∧ (q < 24 ∨ c = 3))) := by omega
    · obtain ⟨rfl, hqc⟩ : a = 3 ∧ (q < 24 ∨ c = 3) :=
        hd.elim (fun h => absurd h (Nat.lt_irrefl _)) (·.2)
      by_cases h2 : q < 24
      · exact ⟨0, c, q + 1, 0, 0, ⟨hc, h2, by decide, Or.inl (by decide)⟩, by omega,
          Or.inr ⟨by omega, rfl, Or.inl rfl⟩⟩
      · obtain rfl : q = 24 := Nat.le_antisymm hq (Nat.not_lt.1 h2)
        obtain rfl : c = 3 := hqc.resolve_left h2
        exact ⟨1, 0, 0, 0, 0, YD.zero, by omega, Or.inr ⟨by omega, rfl, Or.inl rfl⟩⟩
    · by_cases h1 : a < 3
      · exact ⟨0, c, q, a + 1, 0, ⟨hc, hq, h1, Or.inl (by decide)⟩, by omega,
          Or.inr ⟨by omega, rfl, Or.inr ⟨rfl, hl⟩⟩⟩
      · obtain rfl : a = 3 := Nat.le_antisymm ha (Nat.not_lt.1 h1)
        have h2 : ¬ q < 24 := fun h => hl ⟨rfl, Or.inl h⟩
        obtain rfl : q = 24 := Nat.le_antisymm hq (Nat.not_lt.1 h2)
        have h3 : c < 3 := Nat.lt_of_le_of_ne hc fun h => hl ⟨rfl, Or.inr h⟩
        exact ⟨0, c + 1, 0, 0, 0, ⟨h3, by decide, by decide, Or.inl (by decide)⟩, by omega,
          Or.inr ⟨by omega, rfl, Or.inr ⟨rfl, hl⟩⟩⟩

theorem exists_YD (doe : Nat) (h : doe < 146097) :
    ∃ c q a doy, YD c q a doy ∧ doeOf c q a doy = doe := by
  induction doe with
  | zero => exact ⟨0, 0, 0, 0, YD.zero, by decide⟩
  | succ doe ih =>
    obtain ⟨c, q, a, doy, hyd, rfl⟩ := ih (by omega)
    obtain ⟨e', c', q', a', doy', hyd', hs, _⟩ := hyd.succ 0
    exact ⟨c', q', a', doy', hyd', by unfold dayNum at hs; omega⟩

/-- the civil year in which a March-based year ends is leap exactly when that year has a day 365 -/
theorem isLeap_digits (era : Int) {c q a : Nat} (hc : c ≤ 3) (hq : q ≤ 24) (ha : a ≤ 3) :
    isLeap (era * 400 + ((c * 100 + q * 4 + a : Nat) : Int) + 1) = true ↔ a = 3 ∧ (q < 24 ∨ c = 3) := by
  unfold isLeap
  simp only [decide_eq_true_eq]
  omega

theorem yearOfDoe_zero : yearOfDoe 0 = (0, 0) := by decide
theorem yearOfDoe_last : yearOfDoe 146096 = (399, 365) := by decide

/-- `nextDay` with the year abstracted to "is it a leap year": (year carry, month, day) -/
def nextMD (leap : Bool) (m d : Nat) : Bool × Nat × Nat :=
  let dim := if m = 2 then (if leap then 29 else 28)
    else if m = 4 ∨ m = 6 ∨ m = 9 ∨ m = 11 then 30 else 31
  if d < dim then (false, m, d + 1) else if m < 12 then (false, m + 1, 1) else (true, 1, 1)

theorem nextDay_eq_nextMD (dt : Date) :
    nextDay dt =
      { y := dt.y + (if (nextMD (isLeap dt.y) dt.m dt.d).1 then 1 else 0),
        m := (nextMD (isLeap dt.y) dt.m dt.d).2.1, d := (nextMD (isLeap dt.y) dt.m dt.d).2.2 } := by
  have hdim : (if dt.m = 2 then (if isLeap dt.y = true then 29 else 28)
      else if dt.m = 4 ∨ dt.m = 6 ∨ dt.m = 9 ∨ dt.m = 11 then 30 else 31) = daysInMonth dt.y dt.m := rfl
  unfold nextDay nextMD
  simp only [hdim]
  by_cases h1 : dt.d < daysInMonth dt.y dt.m
  · simp [h1]
  · by_cases h2 : dt.m < 12
    · simp [h1, h2]
    · simp [h1, h2]

/-- table: every day of the March-based year except the last one or two steps to the next table
    entry, whatever the leap status; the year carries exactly after 31 December (day 305). Day 364
    (28 February) is left out: it is the one entry whose successor depends on `leap` (`marchDate_feb28`). -/
theorem monthDay_step : ∀ doy, doy < 364 → ∀ leap : Bool,
    nextMD leap (monthDayOfDoy doy).1 (monthDayOfDoy doy).2 =
      (doy == 305, monthDayOfDoy (doy + 1)) := by decide +kernel

theorem monthDay_364 : monthDayOfDoy 364 = (2, 28) := by decide
theorem monthDay_365 : monthDayOfDoy 365 = (2, 29) := by decide
theorem monthDay_0 : monthDayOfDoy 0 = (3, 1) := by decide

theorem monthDay_janfeb : ∀ doy, doy < 366 → ((monthDayOfDoy doy).1 ≤ 2 ↔ 306 ≤ doy) := by
  decide +kernel

theorem monthDay_range : ∀ doy, doy < 366 →
    1 ≤ (monthDayOfDoy doy).1 ∧ (monthDayOfDoy doy).1 ≤ 12 ∧
    1 ≤ (monthDayOfDoy doy).2 ∧ (monthDayOfDoy doy).2 ≤ 31 := by decide +kernel

/-- the civil date of day `doy` of the March-based year `Y` (1 March `Y` … end of February `Y + 1`) -/
def marchDate (Y : Int) (doy : Nat) : Date :=
  { y := if 306 ≤ doy then Y + 1 else Y, m := (monthDayOfDoy doy).1, d := (monthDayOfDoy doy).2 }

theorem marchDate_succ (Y : Int) {doy : Nat} (h : doy < 364) :
    marchDate Y (doy + 1) = nextDay (marchDate Y doy) := by
  rw [nextDay_eq_nextMD]
  unfold marchDate
  simp only [monthDay_step doy h, beq_iff_eq, Date.mk.injEq, and_true]
  omega

theorem marchDate_feb28 (Y : Int) :
    nextDay (marchDate Y 364) = if isLeap (Y + 1) then marchDate Y 365 else marchDate (Y + 1) 0 := by
  show nextDay ⟨Y + 1, 2, 28⟩ = if isLeap (Y + 1) then ⟨Y + 1, 2, 29⟩ else ⟨Y + 1, 3, 1⟩
  unfold nextDay daysInMonth
  cases isLeap (Y + 1) <;> rfl

theorem marchDate_feb29 (Y : Int) : nextDay (marchDate Y 365) = marchDate (Y + 1) 0 := by
  show nextDay ⟨Y + 1, 2, 29⟩ = ⟨Y + 1, 3, 1⟩
  unfold nextDay daysInMonth
  cases isLeap (Y + 1) <;> rfl

theorem ediv_emod_mul_add (q : Int) {r P : Int} (h0 : 0 ≤ r) (h1 : r < P) :
    (q * P + r) / P = q ∧ (q * P + r) % P = r :=
  (Int.ediv_emod_unique (Int.lt_of_le_of_lt h0 h1)).2 ⟨by rw [Int.add_comm, Int.mul_comm], h0, h1⟩

theorem civilOfDays_digits (era : Int) {c q a doy : Nat} (h : YD c q a doy) :
    civilOfDays (dayNum era c q a doy) = marchDate (era * 400 + (c * 100 + q * 4 + a : Nat)) doy := by
  have hlt : ((doeOf c q a doy : Nat) : Int) < 146097 := by
    obtain ⟨_, _, _, _⟩ := h; unfold doeOf; omega
  have hd : doy < 366 := h.hd.elim Nat.lt_succ_of_lt fun ⟨e, _⟩ => e ▸ Nat.lt_succ_self 365
  obtain ⟨e1, e2⟩ := ediv_emod_mul_add era (Int.natCast_nonneg _) hlt
  simp only [civilOfDays, dayNum, epochShift, Int.sub_add_cancel, e1, e2, Int.toNat_natCast,
    civilOfDoe, yearOfDoe_of_YD h, monthDay_janfeb doy hd, marchDate, Date.mk.injEq, and_true]
  split
  · rw [Int.natCast_succ, Int.add_assoc]
  · rfl

theorem exists_digits (n : Int) :
    ∃ (era : Int) (c q a doy : Nat), YD c q a doy ∧ n = dayNum era c q a doy := by
  have h0 := Int.emod_nonneg (n + 693899) (by decide : (146097 : Int) ≠ 0)
  obtain ⟨c, q, a, doy, hyd, hs⟩ :=
    exists_YD _ ((Int.toNat_lt h0).2 (Int.emod_lt_of_pos (n + 693899) (by decide)))
  refine ⟨(n + 693899) / 146097, c, q, a, doy, hyd, ?_⟩
  rw [dayNum, hs, Int.toNat_of_nonneg h0, Int.mul_comm, Int.mul_ediv_add_emod, Int.add_sub_cancel]

theorem civilOfDays_succ (n : Int) : civilOfDays (n + 1) = nextDay (civilOfDays n) := by
  obtain ⟨era, c, q, a, doy, hyd, rfl⟩ := exists_digits n
  obtain ⟨e', c', q', a', doy', hyd', hs, hrel⟩ := hyd.succ era
  have hleap := isLeap_digits era hyd.hc hyd.hq hyd.ha
  rw [← hs, civilOfDays_digits _ hyd, civilOfDays_digits _ hyd']
  rcases hrel with ⟨rfl, rfl, rfl, rfl, rfl⟩ | ⟨hy, rfl, hd⟩
  · rw [Int.natCast_zero, Int.add_zero]
    rcases hyd'.hd with hd | ⟨hd, hl⟩
    · exact marchDate_succ _ (Nat.lt_of_succ_lt_succ hd)
    · obtain rfl : doy = 364 := Nat.succ.inj hd
      rw [marchDate_feb28, if_pos (hleap.2 hl)]
  · rw [hy]
    rcases hd with rfl | ⟨rfl, hl⟩
    · rw [marchDate_feb29]
    · rw [marchDate_feb28, if_neg (fun l => hl (hleap.1 l))]

theorem civilOfDays_zero : civilOfDays 0 = epoch := by decide

theorem addDays_succ_right (k : Nat) (dt : Date) : addDays (k + 1) dt = nextDay (addDays k dt) := by
  induction k generalizing dt with
  | zero => rfl
  | succ k ih => rw [addDays, ih (nextDay dt)]; rfl

theorem civilOfDays_add (n : Int) (k : Nat) : civilOfDays (n + k) = addDays k (civilOfDays n) := by
  induction k with
  | zero => simp [addDays]
  | succ k ih =>
    rw [addDays_succ_right, ← ih, ← civilOfDays_succ]
    congr 1
    omega

theorem Date.lt_trans {a b c : Date} (h1 : a.lt b) (h2 : b.lt c) : a.lt c := by
  rcases h1 with h1 | ⟨e1, h1⟩ <;> rcases h2 with h2 | ⟨e2, h2⟩
  · exact Or.inl (Int.lt_trans h1 h2)
  · exact Or.inl (e2 ▸ h1)
  · exact Or.inl (e1 ▸ h2)
  · exact Or.inr ⟨e1.trans e2, by omega⟩

theorem Date.lt_irrefl (a : Date) : ¬ a.lt a := by
  unfold Date.lt; omega

theorem lt_nextDay (dt : Date) : dt.lt (nextDay dt) := by
  unfold nextDay Date.lt
  split
  · simp
  · split <;> simp <;> omega

theorem lt_addDays (k : Nat) (dt : Date) : dt.lt (addDays (k + 1) dt) := by
  induction k with
  | zero => exact lt_nextDay dt
  | succ k ih => rw [addDays_succ_right]; exact Date.lt_trans ih (lt_nextDay _)

theorem civilOfDays_lt {a b : Int} (h : a < b) : (civilOfDays a).lt (civilOfDays b) := by
  obtain ⟨k, rfl⟩ : ∃ k : Nat, b = a + ((k + 1 : Nat) : Int) := ⟨(b - a - 1).toNat, by omega⟩
  rw [civilOfDays_add]
  exact lt_addDays k _

theorem civilOfDays_le {a b : Int} (h : a ≤ b) : (civilOfDays a).le (civilOfDays b) := by
  by_cases hab : a = b
  · exact Or.inl (by rw [hab])
  · exact Or.inr (civilOfDays_lt (by omega))

theorem civilOfDays_injective {a b : Int} (h : civilOfDays a = civilOfDays b) : a = b := by
  rcases Int.lt_trichotomy a b with hlt | heq | hgt
  · exact absurd (h ▸ civilOfDays_lt hlt) (Date.lt_irrefl _)
  · exact heq
  · exact absurd (h ▸ civilOfDays_lt hgt) (Date.lt_irrefl _)

theorem civilOfDays_year_mono {a b : Int} (h : a ≤ b) : (civilOfDays a).y ≤ (civilOfDays b).y := by
  rcases civilOfDays_le h with e | l
  · rw [e]; exact Int.le_refl _
  · unfold Date.lt at l; omega

theorem daysInMonth_ge (y : Int) (m : Nat) : 28 ≤ daysInMonth y m := by
  unfold daysInMonth
  split <;> split <;> decide

theorem nextDay_valid {dt : Date} (h : dt.Valid) : (nextDay dt).Valid := by
  obtain ⟨h1, h2, _, _⟩ := h
  unfold nextDay
  split
  next hd => exact ⟨h1, h2, Nat.le_add_left 1 _, hd⟩
  next =>
    split
    next hm =>
      exact ⟨Nat.le_add_left 1 _, hm, Nat.le_refl 1, Nat.le_trans (by decide : 1 ≤ 28) (daysInMonth_ge _ _)⟩
    next =>
      exact ⟨Nat.le_refl 1, (by decide : 1 ≤ 12), Nat.le_refl 1, Nat.le_trans (by decide : 1 ≤ 28) (daysInMonth_ge _ _)⟩

theorem addDays_valid (k : Nat) {dt : Date} (h : dt.Valid) : (addDays k dt).Valid := by
  induction k with
  | zero => exact h
  | succ k ih => rw [addDays_succ_right]; exact nextDay_valid ih

theorem civilOfDoe_zero : civilOfDoe 0 = (0, 3, 1) := by decide
theorem civilOfDoe_last : civilOfDoe 146096 = (400, 2, 29) := by decide

theorem civilOfDays_valid (n : Int) : (civilOfDays n).Valid := by
  obtain ⟨era, c, q, a, doy, hyd, rfl⟩ := exists_digits n
  rw [show dayNum era c q a doy = dayNum era 0 0 0 0 + doeOf c q a doy by simp only [dayNum, doeOf]; omega,
    civilOfDays_add, civilOfDays_digits era YD.zero]
  exact addDays_valid _
    ⟨(by decide : 1 ≤ 3), (by decide : 3 ≤ 12), Nat.le_refl 1,
      Nat.le_trans (by decide : 1 ≤ 28) (daysInMonth_ge _ _)⟩

/-- day number of `NaiveDate::MIN` = -262143-01-01 -/
def minDay : Int := -96439723
/-- day number of `NaiveDate::MAX` = +262142-12-31 -/
def maxDay : Int := 95051805

theorem civilOfDays_minDay : civilOfDays minDay = { y := -262143, m := 1, d := 1 } := by decide
theorem civilOfDays_minDay_pred : civilOfDays (minDay - 1) = { y := -262144, m := 12, d := 31 } := by decide
theorem civilOfDays_maxDay : civilOfDays maxDay = { y := 262142, m := 12, d := 31 } := by decide
theorem civilOfDays_maxDay_succ : civilOfDays (maxDay + 1) = { y := 262143, m := 1, d := 1 } := by decide

theorem addDaysChecked_eq (days : Int) :
    addDaysChecked days = if minDay ≤ days ∧ days ≤ maxDay then some (civilOfDays days) else none := by
  -- the year is monotone in the day number, and the years at and next to both ends are known
  have h1 := fun h : days ≤ minDay - 1 => civilOfDays_year_mono h
  have h2 := fun h : minDay ≤ days => civilOfDays_year_mono h
  have h3 := fun h : days ≤ maxDay => civilOfDays_year_mono h
  have h4 := fun h : maxDay + 1 ≤ days => civilOfDays_year_mono h
  rw [civilOfDays_minDay_pred] at h1
  rw [civilOfDays_minDay] at h2
  rw [civilOfDays_maxDay] at h3
  rw [civilOfDays_maxDay_succ] at h4
  simp only [minDay, maxDay] at h1 h2 h3 h4
  unfold addDaysChecked minYear maxYear minDay maxDay
  simp only []  -- the `let` of `addDaysChecked`
  split
  · rw [if_neg]
    omega
  · split
    · rw [if_neg]
      omega
    · rw [if_pos]
      omega

/-- chrono's seconds/days split is the plain floor division by one day -/
theorem days_of_ms (ms : Int) : (ms / 1000 - ms / 1000 % 86400) / 86400 = ms / 86400000 := by
  have h : ms / 1000 / 86400 = ms / 86400000 := by
    rw [Int.ediv_ediv, if_neg (fun h => absurd h.1 (by decide)), Int.sub_zero]; rfl
  rw [← h]
  generalize ms / 1000 = s
  omega

/-- `timeOfSecs (r / 1000) (r % 1000)` is the time of day `civilOfMs` builds from `r` milliseconds after midnight -/
theorem toMs_timeOfSecs (r : Nat) : (timeOfSecs (r / 1000) (r % 1000)).toMs = r := by
  show ((r / 1000 / (60 * 60) * 60 + r / 1000 / 60 % 60) * 60 + r / 1000 % 60) * 1000 + r % 1000 = r
  rw [← Nat.div_div_eq_div_mul, Nat.div_add_mod', Nat.div_add_mod', Nat.div_add_mod']

theorem timeOfSecs_valid {r : Nat} (hr : r < 86400000) : (timeOfSecs (r / 1000) (r % 1000)).Valid :=
  ⟨Nat.div_lt_of_lt_mul (Nat.div_lt_of_lt_mul hr), Nat.mod_lt _ (by decide),
    Nat.mod_lt _ (by decide), Nat.mod_lt _ (by decide)⟩

theorem timeOfSecs_zero : timeOfSecs 0 0 = { h := 0, mi := 0, s := 0, ms := 0 } := rfl

theorem tryMilliseconds_of_lt {v : Int} (h : v < minDeltaMs) : tryMilliseconds v = none := if_pos h
theorem tryMilliseconds_of_ge {v : Int} (h : minDeltaMs ≤ v) : tryMilliseconds v = some v :=
  if_neg (Int.not_lt.2 h)

/-- the `try_milliseconds` guard refuses nothing the calendar span admits: `i64::MIN` ms lies far before `minDay`,
    where `civilOfMs` is `none` already -/
theorem asDatetimeOfMs_eq (v : Int) : asDatetimeOfMs (.ms v) = civilOfMs v := by
  by_cases h : v < minDeltaMs
  · have hd : ¬ (minDay ≤ v / 86400000 ∧ v / 86400000 ≤ maxDay) := by
      unfold minDeltaMs at h; unfold minDay; omega
    rw [asDatetimeOfMs, tryMilliseconds_of_lt h, civilOfMs]
    simp only [days_of_ms, addDaysChecked_eq, if_neg hd]
  · rw [asDatetimeOfMs, tryMilliseconds_of_ge (Int.not_lt.1 h)]

theorem dayNumber_false (n : Int) : dayNumber false n = dayNumber1900 n := rfl
theorem dayNumber_true (n : Int) : dayNumber true n = dayNumber1900 (n + 1462) := rfl

theorem dayNumber1900_of_ge {n : Int} (h : 60 ≤ n) : dayNumber1900 n = n := if_pos h
theorem dayNumber1900_of_lt {n : Int} (h : n < 60) : dayNumber1900 n = n + 1 := if_neg (Int.not_le.2 h)

/-- from the real 1 March 1900 on (day number at least 60 after the 1904 offset) serials count calendar days -/
theorem dateOfSerial_add (b : Bool) {n : Int} (h : 60 ≤ (if b then n + 1462 else n)) (k : Nat) :
    dateOfSerial b (n + k) = addDays k (dateOfSerial b n) := by
  cases b <;> simp only [Bool.false_eq_true, if_false, if_true] at h
  · rw [dateOfSerial, dateOfSerial, dayNumber_false, dayNumber_false,
      dayNumber1900_of_ge (n := n + k) (by omega), dayNumber1900_of_ge h, civilOfDays_add]
  · rw [dateOfSerial, dateOfSerial, dayNumber_true, dayNumber_true,
      dayNumber1900_of_ge (n := n + k + 1462) (by omega), dayNumber1900_of_ge h, Int.add_right_comm,
      civilOfDays_add]

theorem dayNumber1900_mono {n m : Int} (h : n ≤ m) : dayNumber1900 n ≤ dayNumber1900 m := by
  unfold dayNumber1900; split <;> split <;> omega

/-- the shim is strictly monotone except from 59 to 60, which share 1900-02-28 -/
theorem dayNumber1900_lt {n m : Int} (h : n < m) (hf : ¬ (n = 59 ∧ m = 60)) :
    dayNumber1900 n < dayNumber1900 m := by
  unfold dayNumber1900; split <;> split <;> omega

theorem dayNumber_mono (b : Bool) {n m : Int} (h : n ≤ m) : dayNumber b n ≤ dayNumber b m := by
  cases b
  · exact dayNumber1900_mono h
  · exact dayNumber1900_mono (Int.add_le_add_right h 1462)

theorem dayNumber_lt (b : Bool) {n m : Int} (h : n < m)
    (hf : ¬ ((if b then n + 1462 else n) = 59 ∧ (if b then m + 1462 else m) = 60)) :
    dayNumber b n < dayNumber b m := by
  cases b
  · exact dayNumber1900_lt h hf
  · exact dayNumber1900_lt (Int.add_lt_add_right h 1462) hf

theorem dayNumber_bounds (b : Bool) {n : Int} (h : 0 ≤ n) :
    n ≤ dayNumber b n ∧ dayNumber b n ≤ n + 1462 := by
  cases b
  · rw [dayNumber_false, dayNumber1900]; split <;> omega
  · rw [dayNumber_true, dayNumber1900_of_ge (by omega)]; omega

@[simp] theorem asDate_dateTime (s : Serial) (b : Bool) (k : Kind) :
    (Cell.dateTime s b k).asDate = (Cell.dateTime s b k).asDatetime.map (·.date) := rfl
@[simp] theorem asTime_dateTime (s : Serial) (b : Bool) (k : Kind) :
    (Cell.dateTime s b k).asTime = (Cell.dateTime s b k).asDatetime.map (·.time) := rfl
@[simp] theorem viaSerde_dateTime (s : Serial) (b : Bool) (k : Kind) :
    (Cell.dateTime s b k).viaSerde = Cell.float s := rfl
@[simp] theorem asDatetime_other : Cell.other.asDatetime = none := rfl
@[simp] theorem asDuration_other : Cell.other.asDuration = none := rfl
theorem dateStep_whole (b : Bool) (n : Int) : dateStep b (.whole n) = .ms (msOfWholeDay b n) := rfl

end Dates
