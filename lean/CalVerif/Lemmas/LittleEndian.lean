import CalVerif.Lemmas.ListLoops
/-! Little-endian integer fields, once. `le k v` writes the `k` low bytes of `v`; `rd k b i` reads `k` bytes of `b` at
    offset `i`, an absent byte reading as 0 (as every reader of the models does through `getD`). The round trip is
    `rd_le_mod`; the rest says how `rd` and `le` pass over prefixes, split (`64 = 32 + 32`) and fill tables.

    A model or specification keeps its own `le16/le32/le64` and `u16/u32/u16At/…`; next to their first use each is tied
    to this module by an agreement lemma (`le32 v = le 4 v`, `u32At b o = rd 4 b o`: `rfl`, one `rw`, or
    `simp only [..]; omega`), after which its lemmas are instances of the ones here. A reader that names its bytes
    (`a :: b :: c :: d :: _`, as in Ovba, Geometry, XmlText) has no `rd` to agree with: it meets this module through
    `bytes2` / `bytes4` only. A bound `n < 65536` is accepted
    where `n < 256 ^ 2` is asked: the power of literals reduces.

    The width `k` is a variable throughout. `rw` and `exact` instantiate it; `simp only` does not match a literal
    offset such as `6` against `n + k`, so there the lemma is handed over with its width: `simp only [drop_le 2,
    rd_skip_le _ 4]`. -/
namespace LittleEndian

def le : Nat → Nat → List UInt8
  | 0, _ => []
  | k + 1, v => UInt8.ofNat (v % 256) :: le k (v / 256)

def rd : Nat → List UInt8 → Nat → Nat
  | 0, _, _ => 0
  | k + 1, b, i => (b.getD i 0).toNat + 256 * rd k b (i + 1)

theorem toNat_ofNat_mod (v : Nat) : (UInt8.ofNat (v % 256)).toNat = v % 256 :=
  (UInt8.toNat_ofNat' ..).trans (Nat.mod_mod v 256)

/-- two and four bytes of a number, in the shape a reader that names its bytes (`a :: b :: c :: d :: _`) unfolds to -/
theorem bytes2 (v : Nat) : (UInt8.ofNat (v % 256)).toNat + 256 * (UInt8.ofNat (v / 256 % 256)).toNat = v % 65536 := by
  rw [toNat_ofNat_mod, toNat_ofNat_mod]; exact (Nat.mod_mul (x := v) (a := 256) (b := 256)).symm

theorem bytes4 (v : Nat) :
    (UInt8.ofNat (v % 256)).toNat + 256 * (UInt8.ofNat (v / 256 % 256)).toNat +
      65536 * (UInt8.ofNat (v / 65536 % 256)).toNat + 16777216 * (UInt8.ofNat (v / 16777216 % 256)).toNat
      = v % 4294967296 := by
  -- `v mod 2^32` splits into two 16-bit halves, each half into two bytes
  have h := Nat.mod_mul (x := v) (a := 65536) (b := 65536)
  rw [Nat.mod_mul (x := v) (a := 256) (b := 256), Nat.mod_mul (x := v / 65536) (a := 256) (b := 256),
    Nat.div_div_eq_div_mul, Nat.mul_add, ← Nat.mul_assoc, ← Nat.add_assoc] at h
  rw [toNat_ofNat_mod, toNat_ofNat_mod, toNat_ofNat_mod, toNat_ofNat_mod]
  exact h.symm

@[simp] theorem le_length (k v : Nat) : (le k v).length = k := by
  induction k generalizing v with
  | zero => rfl
  | succ k ih => rw [le, List.length_cons, ih]

theorem rd_cons (k : Nat) (x : UInt8) (b : List UInt8) (i : Nat) : rd k (x :: b) (i + 1) = rd k b i := by
  induction k generalizing i with
  | zero => rfl
  | succ k ih => rw [rd, rd, ih, List.getD_cons_succ]

theorem rd_skip (k : Nat) (p b : List UInt8) (n i : Nat) (h : p.length = n) : rd k (p ++ b) (n + i) = rd k b i := by
  subst h
  induction p with
  | nil => rw [List.nil_append, List.length_nil, Nat.zero_add]
  | cons x p ih => rw [List.cons_append, List.length_cons, Nat.add_right_comm, rd_cons, ih]

theorem rd_append_left (k : Nat) (p b : List UInt8) (i : Nat) (h : i + k ≤ p.length) : rd k (p ++ b) i = rd k p i := by
  induction k generalizing i with
  | zero => rfl
  | succ k ih =>
    rw [rd, rd, ih _ (by omega), List.getD_eq_getElem?_getD, List.getD_eq_getElem?_getD,
      List.getElem?_append_left (by omega)]

theorem rd_drop (k : Nat) (b : List UInt8) (i j : Nat) : rd k (b.drop i) j = rd k b (i + j) := by
  induction k generalizing j with
  | zero => rfl
  | succ k ih =>
    rw [rd, rd, ih, List.getD_eq_getElem?_getD, List.getD_eq_getElem?_getD, List.getElem?_drop, Nat.add_assoc]

theorem rd_lt (k : Nat) (b : List UInt8) (i : Nat) : rd k b i < 256 ^ k := by
  induction k generalizing i with
  | zero => exact Nat.zero_lt_one
  | succ k ih => have := ih (i + 1); have := (b.getD i 0).toNat_lt; rw [rd, Nat.pow_succ]; omega

theorem rd_le_mod (k v : Nat) (b : List UInt8) : rd k (le k v ++ b) 0 = v % 256 ^ k := by
  induction k generalizing v with
  | zero => rw [rd, Nat.pow_zero, Nat.mod_one]
  | succ k ih =>
    rw [le, List.cons_append, rd, rd_cons, ih, List.getD_cons_zero, toNat_ofNat_mod, Nat.pow_succ, Nat.mul_comm (256 ^ k),
      Nat.mod_mul]

theorem rd_le (k v : Nat) (b : List UInt8) (h : v < 256 ^ k) : rd k (le k v ++ b) 0 = v := by
  rw [rd_le_mod, Nat.mod_eq_of_lt h]

theorem rd_le_at (k v : Nat) (p b : List UInt8) (i : Nat) (hi : p.length = i) (h : v < 256 ^ k) :
    rd k (p ++ (le k v ++ b)) i = v := by
  rw [← Nat.add_zero i, rd_skip k p _ i 0 hi, rd_le k v b h]

theorem rd_skip_le (k j v : Nat) (b : List UInt8) (i : Nat) : rd k (le j v ++ b) (i + j) = rd k b i := by
  rw [Nat.add_comm, rd_skip k _ b j i (le_length j v)]

theorem drop_le (k v : Nat) (b : List UInt8) (n : Nat) : (le k v ++ b).drop (n + k) = b.drop n := by
  rw [Nat.add_comm, ← List.drop_drop, List.drop_left' (le_length k v)]

theorem le_add (j k v : Nat) : le (j + k) v = le j v ++ le k (v / 256 ^ j) := by
  induction j generalizing v with
  | zero => rw [Nat.zero_add, le, List.nil_append, Nat.pow_zero, Nat.div_one]
  | succ j ih =>
    rw [Nat.add_right_comm, le, le, ih, List.cons_append, Nat.div_div_eq_div_mul, Nat.pow_succ, Nat.mul_comm]

theorem rd_add (j k : Nat) (b : List UInt8) (i : Nat) : rd (j + k) b i = rd j b i + 256 ^ j * rd k b (i + j) := by
  induction j generalizing i with
  | zero => rw [Nat.zero_add, rd, Nat.pow_zero, Nat.zero_add, Nat.one_mul, Nat.add_zero]
  | succ j ih =>
    rw [Nat.add_right_comm, rd, rd, ih, Nat.pow_succ, Nat.add_assoc i 1 j, Nat.add_comm 1 j]
    rw [Nat.mul_add, Nat.add_assoc, Nat.mul_comm (256 ^ j) 256, Nat.mul_assoc]

/-- `le k` looks at `v` modulo `256 ^ k` only: a writer may reduce its argument first, or not -/
theorem le_mod (k v : Nat) : le k (v % 256 ^ k) = le k v := by
  induction k generalizing v with
  | zero => rfl
  | succ k ih =>
    rw [le, le, Nat.pow_succ, Nat.mul_comm, Nat.mod_mul_right_div_self, ih,
      Nat.mod_mod_of_dvd v (Nat.dvd_mul_right 256 _)]

theorem le_flatMap_length (k : Nat) (vs : List Nat) : (vs.flatMap (le k)).length = k * vs.length :=
  ListLoops.length_flatMap_const _ k vs fun v _ => le_length k v

theorem rd_le_flatMap (k : Nat) (vs : List Nat) (b : List UInt8) (j : Nat) (hj : j < vs.length)
    (hv : ∀ v ∈ vs, v < 256 ^ k) : rd k (vs.flatMap (le k) ++ b) (k * j) = vs[j] := by
  induction vs generalizing j with
  | nil => cases hj
  | cons v vs ih =>
    rw [List.flatMap_cons, List.append_assoc]
    cases j with
    | zero => exact rd_le k v _ (hv v List.mem_cons_self)
    | succ j =>
      rw [Nat.mul_succ, Nat.add_comm, rd_skip k _ _ k _ (le_length k v)]
      exact ih j (Nat.lt_of_succ_lt_succ hj) fun w hw => hv w (List.mem_cons_of_mem _ hw)

end LittleEndian
