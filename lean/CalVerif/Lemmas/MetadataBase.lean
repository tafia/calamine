import CalVerif.Spec.MetadataEnc
import CalVerif.Lemmas.BiffStrings
/-! Table lookups (a table whose values are pairwise different has one key per value) and the UTF-16 round trip in the
    encoders' spelling: for the code-table and exact-name theorems of Props/C16 and for Lemmas/XlsbBook (which reaches them through
    `MetadataXlsb`). No reader module uses them. -/
open Meta MetaEnc

namespace MetaLemmas

theorem lookup_mem_snd {α β : Type} [BEq α] : ∀ (l : List (α × β)) (a : α) (b : β), l.lookup a = some b → b ∈ l.map (·.2)
  | (k, v) :: es, a, b, h => by
    rw [List.lookup_cons] at h
    cases hak : a == k <;> rw [hak] at h
    · exact List.mem_cons_of_mem _ (lookup_mem_snd es a b h)
    · cases h; exact List.mem_cons_self

theorem lookup_inj {α β : Type} [BEq α] [LawfulBEq α] : ∀ (l : List (α × β)), (l.map (·.2)).Nodup →
    ∀ (a b : α) (v : β), l.lookup a = some v → l.lookup b = some v → a = b
  | [], _, _, _, _, h, _ => nomatch h
  | (k, w) :: es, hnd, a, b, v, ha, hb => by
    obtain ⟨hw, hes⟩ := List.nodup_cons.mp hnd
    rw [List.lookup_cons] at ha hb
    cases hak : a == k <;> cases hbk : b == k <;> rw [hak] at ha <;> rw [hbk] at hb
    · exact lookup_inj es hes a b v ha hb
    · cases hb; exact absurd (lookup_mem_snd es a w ha) hw
    · cases ha; exact absurd (lookup_mem_snd es b w hb) hw
    · rw [eq_of_beq hak, eq_of_beq hbk]

theorem utf16_eq (t : Text) : utf16 t = Utf16.units t := by
  induction t with
  | nil => rfl
  | cons c cs ih => rw [utf16, List.flatMap_cons, ← utf16, ih, unitsOfScalar, Utf16.units]; split <;> rfl

theorem decodeUtf16_utf16 (t : Text) (h : ∀ c ∈ t, isScalar c) : Biff.decodeUtf16 (utf16 t) = t := by
  rw [Biff.decodeUtf16_eq, utf16_eq]; exact Utf16.decode_units_self t h

theorem utf16_lt (t : Text) (h : ∀ c ∈ t, isScalar c) : ∀ u ∈ utf16 t, u < 65536 := by
  rw [utf16_eq]; exact Utf16.units_lt t h

end MetaLemmas
