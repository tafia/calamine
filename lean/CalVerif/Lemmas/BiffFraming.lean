import CalVerif.Model.BiffStrings
import CalVerif.Spec.SstEnc
import CalVerif.Lemmas.ResReturns
import CalVerif.Lemmas.LittleEndian
/-! Little-endian fields and `RecordIter` of `Model/BiffStrings.lean`: what `u16`/`u32` read off `le16`/`le32`, what
    `nextRecord` and its CONTINUE loop `gather` return on a framed record (`Spec/SstEnc.lean`: `frameRec`), and on any bytes
    (an `Err`, or a record that came off the stream). `notCont` is defined here and occurs in the statements of Props/C12
    (`frame_roundtrip`, `labelsst_cells_layout_independent`) and Props/C16. -/
namespace Biff

theorem hasLen_iff (s : Bytes) (n : Nat) : hasLen s n = decide (n ≤ s.length) := by
  cases n with
  | zero => simp [hasLen]
  | succ n =>
    rw [hasLen, Bool.eq_iff_iff]
    simp only [Bool.not_eq_true', List.isEmpty_eq_false_iff, ne_eq, List.drop_eq_nil_iff, decide_eq_true_eq]
    omega

theorem byte_toNat (n : Nat) : (byte n).toNat = n % 256 := LittleEndian.toNat_ofNat_mod n

theorem le16_eq (v : Nat) : le16 v = LittleEndian.le 2 v := rfl
theorem le32_eq (v : Nat) : le32 v = LittleEndian.le 4 v := by
  simp only [le32, byte, LittleEndian.le, Nat.div_div_eq_div_mul]
theorem u16_eq (b : Bytes) : u16 b = LittleEndian.rd 2 b 0 := rfl
theorem u32_eq (b : Bytes) : u32 b = LittleEndian.rd 4 b 0 := by
  simp only [u32, LittleEndian.rd, Nat.reduceAdd]; omega

theorem u16_le16_mod (n : Nat) (rest : Bytes) : u16 (le16 n ++ rest) = n % 65536 :=
  LittleEndian.rd_le_mod 2 n rest

theorem u32_le32_mod (n : Nat) (rest : Bytes) : u32 (le32 n ++ rest) = n % 4294967296 := by
  rw [u32_eq, le32_eq]; exact LittleEndian.rd_le_mod 4 n rest

theorem u16_le16 (n : Nat) (h : n < 65536) (rest : Bytes) : u16 (le16 n ++ rest) = n :=
  (u16_le16_mod n rest).trans (Nat.mod_eq_of_lt h)

theorem u32_le32 (n : Nat) (h : n < 4294967296) (rest : Bytes) : u32 (le32 n ++ rest) = n :=
  (u32_le32_mod n rest).trans (Nat.mod_eq_of_lt h)

@[simp] theorem le16_length (n : Nat) : (le16 n).length = 2 := rfl

@[simp] theorem le32_length (n : Nat) : (le32 n).length = 4 := rfl

theorem drop_le16 (n : Nat) (X : Bytes) : (le16 n ++ X).drop 2 = X := rfl

theorem drop_le32 (n : Nat) (X : Bytes) : (le32 n ++ X).drop 4 = X := rfl

theorem drop_le16_le32 (n m : Nat) (X : Bytes) : (le16 n ++ (le32 m ++ X)).drop 6 = X := rfl

theorem recHdr_length (t n : Nat) : (recHdr t n).length = 4 := rfl

theorem u16_recHdr (t n : Nat) (ht : t < 65536) (X : Bytes) : u16 (recHdr t n ++ X) = t := by
  unfold recHdr; rw [List.append_assoc]; exact u16_le16 t ht _

theorem u16_recHdr_len (t n : Nat) (hn : n < 65536) (X : Bytes) : u16 ((recHdr t n ++ X).drop 2) = n :=
  u16_le16 n hn X

theorem framed_hasLen (t : Nat) (d X : Bytes) (k : Nat) (hk : k ≤ d.length + 4) :
    hasLen (recHdr t d.length ++ (d ++ X)) k = true := by
  rw [hasLen_iff, decide_eq_true_eq, List.length_append, List.length_append, recHdr_length]; omega

theorem framed_drop (t : Nat) (d X : Bytes) : (recHdr t d.length ++ (d ++ X)).drop (d.length + 4) = X := by
  rw [← List.append_assoc]
  exact List.drop_left' (by rw [List.length_append, recHdr_length]; omega)

theorem framed_take (t : Nat) (d X : Bytes) : ((recHdr t d.length ++ (d ++ X)).take (d.length + 4)).drop 4 = d := by
  rw [← List.append_assoc, List.take_left' (by rw [List.length_append, recHdr_length]; omega)]
  exact List.drop_left' rfl

/-- what follows the last CONTINUE record is not a CONTINUE record -/
def notCont (rest : Bytes) : Prop := ¬ (hasLen rest 5 = true ∧ u16 rest = 0x3C)

theorem notCont_nil : notCont [] := fun h => nomatch h.1

/-- `hne`: the loop tests `stream.len() > 4` (`hasLen s 5`), so a CONTINUE record with an empty payload is gathered only
    if at least one more byte follows it; one at the very end of the stream is not. Asking every fragment to be non-empty
    (here and in `hall` of `nextRecord_frameRec`) makes the lemma hold whatever follows. -/
theorem gather_cont (f X : Bytes) (k : Nat) (hne : f ≠ []) (hlen : f.length < 65536) :
    gather (k + 1) (recHdr 0x3C f.length ++ (f ++ X)) = (do
      let (fs, rest) ← gather k X
      pure (f :: fs, rest)) := by
  have hpos := List.length_pos_iff.mpr hne
  rw [gather]
  simp only [framed_hasLen 60 f X 5 (by omega), u16_recHdr _ _ (show 60 < 65536 by decide), u16_recHdr_len _ _ hlen,
    framed_hasLen _ _ _ _ (Nat.le_refl _), framed_drop, framed_take, Bool.and_true, decide_true, if_true,
    Bool.not_true, Bool.false_eq_true, if_false]

theorem gather_stop (s : Bytes) (k : Nat) (h : notCont s) : gather (k + 1) s = .ok ([], s) := by
  rw [gather, if_neg]
  simpa [notCont] using h

theorem gather_frameConts (conts : List Bytes) : ∀ (rest : Bytes) (fuel : Nat),
    (∀ f ∈ conts, f ≠ [] ∧ f.length < 65536) → notCont rest → conts.length < fuel →
    gather fuel (frameConts conts ++ rest) = .ok (conts, rest) := by
  induction conts with
  | nil =>
    intro rest fuel _ hrest hf
    obtain ⟨k, rfl⟩ := Nat.exists_eq_succ_of_ne_zero (Nat.ne_of_gt hf)
    exact gather_stop rest k hrest
  | cons f fs ih =>
    intro rest fuel hall hrest hf
    obtain ⟨k, rfl⟩ := Nat.exists_eq_succ_of_ne_zero (Nat.ne_of_gt (Nat.zero_lt_of_lt hf))
    obtain ⟨hne, hlen⟩ := hall f List.mem_cons_self
    rw [frameConts, List.append_assoc, List.append_assoc, gather_cont f _ k hne hlen,
      ih rest k (fun g hg => hall g (List.mem_cons_of_mem _ hg)) hrest (Nat.lt_of_succ_lt_succ hf)]
    rfl

theorem frameConts_length_ge (conts : List Bytes) (rest : Bytes) :
    conts.length * 4 ≤ (frameConts conts ++ rest).length := by
  induction conts with
  | nil => exact Nat.zero_le _
  | cons f fs ih =>
    rw [frameConts, List.append_assoc, List.append_assoc, List.length_append, recHdr_length, List.length_append,
      List.length_cons, Nat.succ_mul, Nat.add_comm]
    exact Nat.add_le_add_left (Nat.le_trans ih (Nat.le_add_left _ _)) 4

theorem nextRecord_frameRec (typ : Nat) (d : Bytes) (conts : List Bytes) (rest : Bytes)
    (ht : typ < 65536) (hd : d.length < 65536) (hall : ∀ f ∈ conts, f ≠ [] ∧ f.length < 65536)
    (hrest : notCont rest) :
    nextRecord (frameRec typ d conts ++ rest) = some (.ok (⟨typ, d, conts⟩, rest)) := by
  have hfuel : conts.length < (frameConts conts ++ rest).length / 4 + 1 :=
    Nat.lt_succ_of_le ((Nat.le_div_iff_mul_le (by decide)).mpr (frameConts_length_ge conts rest))
  unfold nextRecord frameRec
  rw [List.append_assoc, List.append_assoc]
  simp only [framed_hasLen _ _ _ 4 (Nat.le_add_left 4 _), framed_hasLen _ _ _ _ (Nat.le_refl _), u16_recHdr _ _ ht,
    u16_recHdr_len _ _ hd, framed_drop, framed_take, Bool.not_true, Bool.false_eq_true, if_false,
    gather_frameConts conts rest _ hall hrest hfuel, Res.bind_ok]
  rfl

theorem nextRecord_nil : nextRecord [] = none := rfl

theorem notCont_frameRec (t : Nat) (d : Bytes) (cs : List Bytes) (X : Bytes) (ht : t < 65536) (hne : t ≠ 0x3C) :
    notCont (frameRec t d cs ++ X) := by
  unfold notCont frameRec
  rw [List.append_assoc, List.append_assoc, u16_recHdr t _ ht]
  exact fun h => hne h.2

/-- encodings that each begin with a record other than CONTINUE, then a tail that does not begin with one -/
theorem notCont_flatMap {α : Type} (enc : α → Bytes) (l : List α) (rest : Bytes)
    (h : ∀ a ∈ l, ∀ X, notCont (enc a ++ X)) (hrest : notCont rest) : notCont (l.flatMap enc ++ rest) := by
  cases l with
  | nil => exact hrest
  | cons a l => rw [List.flatMap_cons, List.append_assoc]; exact h a List.mem_cons_self _

theorem nextRecord_plain (t : Nat) (d more : Bytes) (ht : t < 65536) (hd : d.length < 65536) (hmore : notCont more) :
    nextRecord (frameRec t d [] ++ more) = some (.ok (⟨t, d, []⟩, more)) :=
  nextRecord_frameRec t d [] more ht hd (fun _ h => nomatch h) hmore

/-- one CONTINUE record (`k` payload bytes and the 4-byte header) off a stream of `L` bytes costs one unit of fuel -/
theorem fuel_step (L k fuel : Nat) (h : L < 4 * (fuel + 1)) (hk : k + 4 ≤ L) : L - (k + 4) < 4 * fuel :=
  Nat.sub_lt_left_of_lt_add hk (Nat.lt_of_lt_of_le h (by
    rw [Nat.mul_succ, Nat.add_comm]; exact Nat.add_le_add_right (Nat.le_add_left 4 k) _))

/-- every CONTINUE record holds at least its 4-byte header, so a quarter of the stream length bounds the iterations -/
theorem gather_returnsWith : ∀ (fuel : Nat) (s : Bytes), s.length < 4 * fuel →
    (gather fuel s).ReturnsWith fun p => p.2.length ≤ s.length
  | 0, _, h => absurd h (Nat.not_lt_zero _)
  | fuel + 1, s, h => by
    rw [gather]
    refine .ite (fun _ => .ite (fun _ => .err) fun h2 => ?_) fun _ => .ok (Nat.le_refl _)
    rw [Bool.not_eq_true, Bool.not_eq_false', hasLen_iff, decide_eq_true_eq] at h2
    have hd := List.length_drop (i := u16 (s.drop 2) + 4) (l := s)
    exact (gather_returnsWith fuel _ (hd ▸ fuel_step _ _ _ h h2)).bind fun _ hle =>
      .ok (Nat.le_trans hle (hd ▸ Nat.sub_le _ _))

theorem nextRecord_returnsWith (s : Bytes) (x : Res (Rec × Bytes)) (hx : nextRecord s = some x) :
    x.ReturnsWith fun p => p.2.length + (p.1.data.length + 4) ≤ s.length := by
  unfold nextRecord at hx
  simp only [] at hx
  by_cases h4 : (!hasLen s 4) = true
  · rw [if_pos h4] at hx; split at hx <;> cases hx; exact .err
  · rw [if_neg h4] at hx
    by_cases hl : (!hasLen s (u16 (s.drop 2) + 4)) = true
    · rw [if_pos hl] at hx; cases hx; exact .err
    · rw [if_neg hl] at hx; cases hx
      rw [Bool.not_eq_true, Bool.not_eq_false', hasLen_iff, decide_eq_true_eq] at hl
      refine (gather_returnsWith _ _ (Nat.lt_mul_div_succ _ (by decide))).bind fun _ hle => .ok ?_
      rw [List.length_drop] at hle
      show _ + (((s.take _).drop 4).length + 4) ≤ _
      rw [List.length_drop, List.length_take, Nat.min_eq_left hl, Nat.add_sub_cancel]
      exact Nat.add_le_of_le_sub hl hle

end Biff
