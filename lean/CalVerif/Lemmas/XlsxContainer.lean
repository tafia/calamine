import CalVerif.Spec.XlsxContainer
import CalVerif.Lemmas.MetadataXml
import CalVerif.Lemmas.ResReturns
/-! The container glue of xlsx (`Model/XlsxContainer.lean`) for C01: its loops never panic; on an encoded package
    (`Spec/XlsxContainer.lean`) `read_relationships`, `read_workbook`, the sheet table and the entry opened for a sheet
    name come out as written (`sheetTable_package`, `openSheetEntry_package`, `openSheet_package`). -/
namespace XlsxContainer
open Meta MetaEnc MetaLemmas

theorem relsLoop_returns (evs : List Ev) (acc : List (String × String)) : (relsLoop evs acc).Returns := by
  induction evs generalizing acc with
  | nil => exact .err _
  | cons ev rest ih =>
    cases ev with
    | start n a => exact .ite (ih _) (ih _)
    | end_ n => exact .ite (.ok _) (ih _)
    | text t => exact ih _
    | other => exact ih _
    | cdata t => exact ih _

theorem sheetAttrs_returns (rels : List (String × String)) (attrs : List (String × String)) (acc : SheetAcc) :
    (sheetAttrs rels attrs acc).Returns := by
  induction attrs generalizing acc with
  | nil => exact .ok _
  | cons kv rest ih =>
    obtain ⟨k, v⟩ := kv
    rw [sheetAttrs]
    refine .ite (ih _) (.ite ?_ (.ite ?_ (ih _)))
    · cases Gen.xlsxVisTable.lookup v with
      | some vis => exact ih _
      | none => exact .err _
    · cases rels.lookup v with
      | some t => exact ih _
      | none => exact .err _

theorem xlsxSheet_returns (rels : List (String × String)) (attrs : List (String × String)) :
    (xlsxSheet rels attrs).Returns := by
  unfold xlsxSheet
  refine (sheetAttrs_returns rels attrs {}).elim (fun r => ?_) .err
  dsimp only
  cases kindOfPath Gen.xlsxKindTable r.path with
  | some typ => exact .ok _
  | none => exact .err _

theorem xlsxLoopWith_returns (cfg : XlsxCfg) (rels : List (String × String)) (evs : List Ev) (st : XlsxSt) :
    (xlsxLoopWith cfg rels evs st).Returns := by
  induction evs generalizing st with
  | nil => exact .ite (.err _) (.err _)
  | cons ev rest ih =>
    obtain ⟨sheets, names, is1904, cur, skip⟩ := st
    -- `read_to_end_into`, then the inner loop of `definedName`, then the outer loop
    rcases skip with _ | ⟨q, depth⟩
    · rcases cur with _ | ⟨nm, q, val⟩
      · cases ev with
        | start n attrs =>
          rw [xlsxLoopWith]
          refine .ite (ih _) (.ite ?_ (.ite (ih _) (.ite ?_ (ih _))))
          · exact (xlsxSheet_returns rels attrs).elim (fun _ => ih _) .err
          · cases attrs.lookup "name" with
            | some nm => exact ih _
            | none => exact ih _
        | end_ n => exact .ite (.ok _) (ih _)
        | text t => exact ih _
        | other => exact ih _
        | cdata t => exact ih _
      · cases ev with
        | start n attrs => exact ih _
        | end_ n => exact .ite (ih _) (ih _)
        | text t => exact ih _
        | other => exact ih _
        | cdata t => exact .ite (ih _) (ih _)
    · cases ev with
      | start n attrs => exact .ite (ih _) (ih _)
      | end_ n => exact .ite (.ite (ih _) (ih _)) (ih _)
      | text t => exact ih _
      | other => exact ih _
      | cdata t => exact ih _

theorem readWorkbookXlsx_returns (rels : List (String × String)) (evs : List Ev) :
    (readWorkbookXlsx rels evs).Returns := by
  unfold readWorkbookXlsx xlsxLoop
  exact (xlsxLoopWith_returns cfgNow rels evs {}).elim (fun _ => .ok _) .err

theorem relsLoop_rels (lay : PLayout) (hq : QOkOn ["Relationships", "Relationship"] lay.relQ) (ha : ∀ id tg, relAttrs (lay.relAttrsOf id tg) ("", "") = (id, tg))
    (rels : List (String × String)) (rest : List Ev) (acc : List (String × String)) :
    relsLoop (rels.flatMap (relEvents lay) ++ rest) acc = relsLoop rest (rels.reverse ++ acc) := by
  induction rels generalizing acc with
  | nil => rfl
  | cons r rs ih =>
    have h1 : localName (lay.relQ "Relationship") = "Relationship" := hq _ (by simp)
    rw [List.flatMap_cons, relEvents, List.append_assoc, List.cons_append, List.cons_append, List.nil_append,
      relsLoop, if_pos h1, relsLoop, if_neg (by rw [h1]; decide), ih, ha, List.reverse_cons, List.append_assoc]
    rfl

theorem readRelationships_package (lay : PLayout) (hq : QOkOn ["Relationships", "Relationship"] lay.relQ)
    (ha : ∀ id tg, relAttrs (lay.relAttrsOf id tg) ("", "") = (id, tg)) :
    readRelationships (relsEvents lay) = .ok lay.rels.reverse := by
  have h1 : localName (lay.relQ "Relationships") = "Relationships" := hq _ List.mem_cons_self
  rw [readRelationships, relsEvents, relsLoop, if_neg (by rw [h1]; decide), relsLoop_rels lay hq ha, relsLoop,
    if_pos h1, List.append_nil]

theorem sheetAttrs_extra (rels : List (String × String)) (extra l : List (String × String)) (acc : SheetAcc)
    (h : ∀ kv ∈ extra, InertSheetAttr kv.1) : sheetAttrs rels (extra ++ l) acc = sheetAttrs rels l acc :=
  ListLoops.skip_append (f := fun l => sheetAttrs rels l acc)
    (fun kv rest hkv => sheetAttrs_other rels kv.1 kv.2 rest acc hkv.1 hkv.2.1 hkv.2.2) extra l h

theorem xlsxSheet_extra (rels : List (String × String)) (extra l : List (String × String))
    (h : ∀ kv ∈ extra, InertSheetAttr kv.1) : xlsxSheet rels (extra ++ l) = xlsxSheet rels l := by
  unfold xlsxSheet
  rw [sheetAttrs_extra rels extra l {} h]

/-- the pass over `sheetEventsX` (Spec/XlsxContainer): `<sheet/>` elements with further, inert attributes in front -/
theorem loop_sheetsX (rels : List (String × String)) (lay : PLayout) (hq : localName (lay.q "sheet") = "sheet") (hk : ridKeyOk lay.ridKey)
    (hx : ∀ s, ∀ kv ∈ lay.sheetExtra s, InertSheetAttr kv.1) :
    ∀ (sheets : List XSheet), (∀ s ∈ sheets, s.ok rels) → ∀ (rest : List Ev) (sh : List (Sheet String × List Char))
      (nm : List (String × String)) (d : Bool),
      xlsxLoopWith cfgNow rels (sheets.flatMap (sheetEventsX lay) ++ rest) ⟨sh, nm, d, none, none⟩ =
      xlsxLoopWith cfgNow rels rest ⟨sh ++ sheets.map xsheetDecoded, nm, d, none, none⟩ :=
  fun sheets hs rest sh nm d =>
    ListLoops.pass_items (fun evs sh => xlsxLoopWith cfgNow rels evs ⟨sh, nm, d, none, none⟩) (sheetEventsX lay) xsheetDecoded sheets
      (fun s hm rest sh => loop_sheet_elem cfgNow rels (lay.q "sheet") (lay.sheetExtra s ++ sheetAttrList lay.ridKey s) hq _
        ((xlsxSheet_extra rels _ _ (hx s)).trans (xlsxSheet_encoded rels lay.ridKey hk s (hs s hm))) rest sh nm d)
      rest sh

theorem readWorkbook_package (rels : List (String × String)) (lay : PLayout) (hq : QOkOn ["workbook", "sheets", "sheet"] lay.q)
    (hk : ridKeyOk lay.ridKey)
    (hx : ∀ s, ∀ kv ∈ lay.sheetExtra s, InertSheetAttr kv.1) (sheets : List XSheet) (hs : ∀ s ∈ sheets, s.ok rels) :
    readWorkbookXlsx rels (wbEvents lay sheets) =
      .ok (⟨sheets.map (fun s => ⟨s.name, s.kind, s.vis⟩), [], false⟩, sheets.map (fun s => xlsxPath s.target.toList)) := by
  unfold readWorkbookXlsx xlsxLoop wbEvents
  have q1 : localName (lay.q "workbook") = "workbook" := hq _ List.mem_cons_self
  have q2 : localName (lay.q "sheets") = "sheets" := hq _ (by simp)
  have q3 : localName (lay.q "sheet") = "sheet" := hq _ (by simp)
  rw [loop_start_q rels lay.q "workbook" q1 (by simp [xlsxInterpreted]), loop_start_q rels lay.q "sheets" q2 (by simp [xlsxInterpreted]),
    loop_sheetsX rels lay q3 hk hx sheets hs, loop_end_skip cfgNow rels _ _ _ _ _ (by rw [q2]; decide),
    loop_end_workbook cfgNow rels _ _ _ _ _ q1]
  simp [xlsxFinish, xsheetDecoded, List.map_map, Function.comp_def]

theorem eqIgnore_symm (a b : String) : eqIgnoreAsciiCase a b = eqIgnoreAsciiCase b a := by
  unfold eqIgnoreAsciiCase
  rw [Bool.eq_iff_iff]; simp only [beq_iff_eq]; exact eq_comm

theorem eqIgnore_trans (a b c : String) (h1 : eqIgnoreAsciiCase a b = true) (h2 : eqIgnoreAsciiCase b c = true) :
    eqIgnoreAsciiCase a c = true := by
  unfold eqIgnoreAsciiCase at *
  simp only [beq_iff_eq] at *
  rw [h1, h2]

theorem findEntry_unique (names : List String) (hd : names.Pairwise (fun a b => eqIgnoreAsciiCase a b = false))
    (e path : String) (he : e ∈ names) (hm : eqIgnoreAsciiCase e path = true) : findEntry names path = some e :=
  -- an entry that matches the path too equals `e` up to case, hence is `e`
  ListLoops.find?_unique _ names e he hm fun n hn hnp =>
    ListLoops.eq_of_pairwise_not (R := fun a b => eqIgnoreAsciiCase a b = true) (fun a b h => eqIgnore_symm a b ▸ h)
      (hd.imp ne_true_of_eq_false) hn he
      (eqIgnore_trans n path e hnp (eqIgnore_symm e path ▸ hm))

theorem find_of_nodup {β κ : Type} [DecidableEq κ] (l : List β) (key : β → κ) (hn : (l.map key).Nodup) (s : β) (hs : s ∈ l) :
    l.find? (fun x => key x == key s) = some s :=
  ListLoops.find?_unique _ l s hs (beq_self_eq_true _) fun _ hx hk =>
    ListLoops.eq_of_pairwise_not (R := fun a b => key a = key b) (fun _ _ => Eq.symm) (List.pairwise_map.mp hn) hx hs
      (eq_of_beq hk)

theorem sheetTable_package {α : Type} [Inhabited α] (sheets : List (PSheet α)) (lay : PLayout) (h : PackageOk sheets lay) :
    sheetTable (archiveOf sheets lay) =
      .ok (sheets.map fun s => (⟨s.x.name, s.x.kind, s.x.vis⟩, partPath s.x.target)) := by
  -- one entry cannot be both parts: the two paths differ, also up to case
  have hpaths : eqIgnoreAsciiCase "xl/_rels/workbook.xml.rels" "xl/workbook.xml" = false := by decide
  have hne : lay.wbEntry ≠ lay.relsEntry := fun he => by
    rw [eqIgnore_trans _ _ _ ((eqIgnore_symm _ _).trans h.relsEntry.2) (he ▸ h.wbEntry.2)] at hpaths
    cases hpaths
  unfold sheetTable archiveOf
  simp only
  rw [findEntry_unique lay.names h.namesDistinct lay.relsEntry _ h.relsEntry.1 h.relsEntry.2]
  simp only [if_true, readRelationships_package lay h.relQ h.relAttrs]
  rw [findEntry_unique lay.names h.namesDistinct lay.wbEntry _ h.wbEntry.1 h.wbEntry.2]
  simp only [hne, if_false, if_true]
  have hok : ∀ x ∈ sheets.map (·.x), x.ok lay.rels.reverse := by
    intro x hx
    obtain ⟨s, hs, rfl⟩ := List.mem_map.mp hx
    exact ⟨h.sheetRel s hs, h.kind s hs, h.state s hs⟩
  rw [readWorkbook_package lay.rels.reverse lay h.q h.ridKey h.sheetExtra (sheets.map (·.x)) hok]
  simp only [List.map_map]
  rw [List.zip_map']
  rfl

theorem openSheetEntry_package {α : Type} [Inhabited α] (sheets : List (PSheet α)) (lay : PLayout) (h : PackageOk sheets lay)
    (s : PSheet α) (hs : s ∈ sheets) : openSheetEntry (archiveOf sheets lay) s.x.name = .ok s.entry := by
  unfold openSheetEntry
  rw [sheetTable_package sheets lay h]
  simp only [List.find?_map]
  have hf : sheets.find? ((fun (y : Sheet String × String) => y.1.name == s.x.name) ∘ fun s => (⟨s.x.name, s.x.kind, s.x.vis⟩, partPath s.x.target)) = some s := by
    have := find_of_nodup sheets (fun t => t.x.name) (by simpa [List.map_map] using h.sheetNames) s hs
    exact this
  rw [hf]
  simp only [Option.map_some]
  have hl : (archiveOf sheets lay).names = lay.names := rfl
  rw [hl, findEntry_unique lay.names h.namesDistinct s.entry _ (h.sheetEntry s hs).1 (h.sheetEntry s hs).2]

theorem openSheet_package {α : Type} [Inhabited α] (sheets : List (PSheet α)) (lay : PLayout) (h : PackageOk sheets lay)
    (s : PSheet α) (hs : s ∈ sheets) : openSheet (archiveOf sheets lay) s.x.name = .ok s.body := by
  unfold openSheet
  rw [openSheetEntry_package sheets lay h s hs]
  have := find_of_nodup sheets (fun t => t.entry) (by simpa using h.sheetEntries) s hs
  simp only [archiveOf]
  rw [this]
  rfl

end XlsxContainer
