import CalVerif.Spec.Formula
import CalVerif.Lemmas.ResReturns
import CalVerif.Prim.Utf8
/-! The stack-of-offsets machine of the formula decoders (C14). First the letters of `push_column` against the textbook
    column name (namespace `Ptg`). Then the machine: its edits on a state whose top offsets cut off the operands'
    texts, its run on the reverse-Polish form of an expression (`ftab_sizes`, the one evaluation of the generated
    function table, stands where the func edit needs it), a decoder loop on an encoded token list and one round of each
    loop, and the invariant of the offsets. -/

namespace Ptg
open Formula

theorem colLettersRev_succ (n : Nat) :
    colLettersRev (n + 1) = Char.ofNat (65 + n % 26) :: colLettersRev (n / 26) := by
  rw [colLettersRev]; simp

theorem foldl_letters (m : Nat) :
    (colLettersRev m).reverse.foldl (fun acc c => acc * 26 + (c.toNat - 64)) 0 = m := by
  induction m using Nat.strongRecOn with
  | _ m ih =>
    cases m with
    | zero => rw [colLettersRev]; rfl
    | succ n =>
      rw [colLettersRev_succ, List.reverse_cons, List.foldl_append, ih _ (by omega), List.foldl_cons, List.foldl_nil,
        Utf8.toNat_ofNat_valid _ (Or.inl (by omega))]
      omega

theorem pushColumn_eq_colName (n : Nat) : pushColumn n = colName n := by
  induction n using Nat.strongRecOn with
  | _ n ih =>
    unfold pushColumn
    rw [colLettersRev_succ, colName]
    by_cases h : n < 26
    · have : n / 26 = 0 := by omega
      have h2 : n % 26 = n := by omega
      simp [h, this, h2, colLettersRev]
    · have h1 : n / 26 = (n / 26 - 1) + 1 := by omega
      have := ih (n / 26 - 1) (by omega)
      unfold pushColumn at this
      rw [← h1] at this
      simp [h, this]

end Ptg

namespace Formula
open Ptg

/-- the edits of a token stream one after the other from a state, stopping at the first that fails: the loop of
    `parse_formula` with the byte decoding taken out (`run_encoded` puts it back for an encoded token list) -/
def runActs : List Act → St → Res St
  | [], s => .ok s
  | a :: as, s =>
    match applyAct a s with
    | .ok s' => runActs as s'
    | .err e => .err e
    | .panic e => .panic e
    | .outOfFuel => .outOfFuel

/-- what each token does to (text, stack): the reading of the token language the property describes. `checked` is the
    container flag (`true` = xls) that `Act.func` carries along: the decoders put their own flag there, `applyAct`
    ignores it, so the machine theorems hold for either value -/
def actOf (env : Env) (checked : Bool) : Tok → Act
  | .ref _ a => .push (cellText a)
  | .area _ a b => .push (cellText a ++ ':' :: cellText b)
  | .ref3d _ i a => .push (env.sheet i ++ '!' :: cellText a)
  | .area3d _ i a b => .push (env.sheet i ++ '!' :: cellText a ++ ':' :: cellText b)
  | .refErr _ => .push "#REF!".toList
  | .areaErr _ => .push "#REF!".toList
  | .refErr3d _ i => .push (env.sheet i ++ '!' :: "#REF!".toList)
  | .areaErr3d _ i => .push (env.sheet i ++ '!' :: "#REF!".toList)
  | .name _ i => .push (env.name i)
  | .int n => .push (natText n)
  | .num b => .push (env.fmtNum b)
  | .str _ s => .push ('"' :: s ++ ['"'])
  | .bool b => .push (if b then "TRUE".toList else "FALSE".toList)
  | .err code => .push (errName code)
  | .missArg => .push []
  | .binop op => .binop (opName op)
  | .uplus => .pre '+'
  | .uminus => .pre '-'
  | .percent => .percent
  | .paren => .paren
  | .attrSum => .sum
  | .attrSkip _ _ => .nop
  | .attrChoose _ => .nop
  | .func _ iftab => .func iftab ((Gen.ftabArgc[iftab]?).getD 0) checked
  | .funcVar _ argc iftab => .func iftab argc checked

mutual
/-- arities match: a fixed-arity function node has as many arguments as `FTAB_ARGC` says -/
def Expr.arityOk : Expr → Prop
  | .uplus e => e.arityOk
  | .uminus e => e.arityOk
  | .percent e => e.arityOk
  | .paren e => e.arityOk
  | .sum e => e.arityOk
  | .bin _ a b => a.arityOk ∧ b.arityOk
  | .func _ iftab args => iftab < Gen.ftabLen ∧ Gen.ftabArgc[iftab]? = some args.length ∧ argsOk args
  | .funcVar _ iftab args => iftab < Gen.ftabLen ∧ argsOk args
  | .inert t e => t.isInert = true ∧ e.arityOk
  | _ => True
def argsOk : List Expr → Prop
  | [] => True
  | a :: rest => a.arityOk ∧ argsOk rest
end

/-- `cuts base` of the arguments' texts (`argOffs_eq`) -/
def argOffs (env : Env) (base : Nat) : List Expr → List Nat
  | [] => []
  | a :: rest => base :: argOffs env (base + (renderA1 env a).length) rest

/-- the arguments' texts one after the other (`concatArgs_eq`) -/
def concatArgs (env : Env) : List Expr → List Char
  | [] => []
  | a :: rest => renderA1 env a ++ concatArgs env rest

/-- the start offsets of the texts `ops` laid out one after the other from offset `base` -/
def cuts (base : Nat) : List (List Char) → List Nat
  | [] => []
  | a :: rest => base :: cuts (base + a.length) rest

/-- the texts with commas between them: what the func edit writes inside the parentheses (`renderArgs_eq`) -/
def commaSep : List (List Char) → List Char
  | [] => []
  | [a] => a
  | a :: b :: rest => a ++ ',' :: commaSep (b :: rest)

theorem cuts_length (base : Nat) (ops : List (List Char)) : (cuts base ops).length = ops.length := by
  induction ops generalizing base with
  | nil => rfl
  | cons a rest ih => simp [cuts, ih]

theorem cuts_append (base : Nat) (l m : List (List Char)) :
    cuts base (l ++ m) = cuts base l ++ cuts (base + l.flatten.length) m := by
  induction l generalizing base with
  | nil => rfl
  | cons a rest ih => simp [cuts, ih, Nat.add_assoc]

theorem cuts_sub (base k : Nat) (ops : List (List Char)) :
    (cuts (base + k) ops).map (· - base) = cuts k ops := by
  induction ops generalizing k with
  | nil => rfl
  | cons a rest ih => simp [cuts, Nat.add_assoc, ih]

theorem cuts_ge (base : Nat) (ops : List (List Char)) : ∀ x ∈ cuts base ops, base ≤ x := by
  induction ops generalizing base with
  | nil => simp [cuts]
  | cons a rest ih =>
    intro x hx
    rcases List.mem_cons.mp hx with rfl | hx
    · exact Nat.le_refl _
    · exact Nat.le_trans (Nat.le_add_right ..) (ih _ x hx)

theorem joinArgs_cuts (pre : List Char) (ops : List (List Char)) :
    joinArgs (pre ++ ops.flatten) (cuts pre.length ops ++ [(pre ++ ops.flatten).length]) = .ok (commaSep ops) := by
  induction ops generalizing pre with
  | nil => rfl
  | cons a rest ih =>
    cases rest with
    | nil => simp [cuts, joinArgs, commaSep]
    | cons b rest' =>
      have ih' := ih (pre ++ a)
      rw [List.append_assoc, List.length_append (as := pre) (bs := a), cuts, List.cons_append] at ih'
      have hslice : ((pre ++ (a ++ (b :: rest').flatten)).drop pre.length).take (pre.length + a.length - pre.length) = a := by
        rw [List.drop_left' rfl]; simp
      rw [cuts, cuts, List.cons_append, List.cons_append, joinArgs, List.flatten_cons, hslice, ih',
        if_neg (by simp), if_neg (by simp)]
      rfl

theorem argOffs_eq (env : Env) (base : Nat) (args : List Expr) :
    argOffs env base args = cuts base (args.map (renderA1 env)) := by
  induction args generalizing base with
  | nil => rfl
  | cons a rest ih => rw [argOffs, ih]; rfl

theorem concatArgs_eq (env : Env) (args : List Expr) : concatArgs env args = (args.map (renderA1 env)).flatten := by
  induction args with
  | nil => rfl
  | cons a rest ih => rw [concatArgs, ih]; rfl

theorem renderArgs_eq (env : Env) : ∀ (args : List Expr), renderArgs env args = commaSep (args.map (renderA1 env))
  | [] => rfl
  | [a] => by rw [renderArgs]; rfl
  | a :: b :: rest => by rw [renderArgs, renderArgs_eq env (b :: rest)]; rfl

theorem insertAt_append (buf r : List Char) (c : Char) :
    insertAt (buf ++ r) buf.length c = buf ++ c :: r := by
  simp [insertAt, List.take_left', List.drop_left']

theorem runActs_cons_ok {a : Act} {s s' : St} (as : List Act) (h : applyAct a s = .ok s') :
    runActs (a :: as) s = runActs as s' := by
  rw [runActs, h]

/-! the edits on a state whose top stack entry is the length of `b`: the text from there on is `t` -/

theorem top_not_gt (b t : List Char) : ¬ b.length > (b ++ t).length := by
  rw [List.length_append]; omega

theorem applyAct_push (t buf : List Char) (stk : List Nat) :
    applyAct (.push t) ⟨buf, stk⟩ = .ok ⟨buf ++ t, stk ++ [buf.length]⟩ := rfl

theorem applyAct_pre (c : Char) (b t : List Char) (stk : List Nat) :
    applyAct (.pre c) ⟨b ++ t, stk ++ [b.length]⟩ = .ok ⟨b ++ c :: t, stk ++ [b.length]⟩ := by
  simp only [applyAct, List.getLast?_concat, top_not_gt, if_false, insertAt_append]

theorem applyAct_percent (b t : List Char) (stk : List Nat) :
    applyAct .percent ⟨b ++ t, stk⟩ = .ok ⟨b ++ (t ++ ['%']), stk⟩ := by
  simp only [applyAct, List.append_assoc]

theorem applyAct_paren (b t : List Char) (stk : List Nat) :
    applyAct .paren ⟨b ++ t, stk ++ [b.length]⟩ = .ok ⟨b ++ ('(' :: t ++ [')']), stk ++ [b.length]⟩ := by
  simp only [applyAct, List.getLast?_concat, top_not_gt, if_false, insertAt_append, List.append_assoc,
    List.cons_append]

theorem applyAct_sum (b t : List Char) (stk : List Nat) :
    applyAct .sum ⟨b ++ t, stk ++ [b.length]⟩ = .ok ⟨b ++ ("SUM(".toList ++ t ++ [')']), stk ++ [b.length]⟩ := by
  simp only [applyAct, List.getLast?_concat, top_not_gt, if_false, List.take_left' rfl, List.drop_left' rfl,
    List.append_assoc]

theorem applyAct_binop (op b t : List Char) (stk : List Nat) :
    applyAct (.binop op) ⟨b ++ t, stk ++ [b.length]⟩ = .ok ⟨b ++ op ++ t, stk⟩ := by
  simp only [applyAct, List.getLast?_concat, top_not_gt, if_false, List.take_left' rfl, List.drop_left' rfl,
    List.dropLast_concat]

theorem ftab_sizes : Gen.ftab.size = Gen.ftabLen ∧ Gen.ftabArgc.size = Gen.ftabLen ∧ Gen.ftabLen = 485 := by
  decide +kernel

theorem ftabName_some (iftab : Nat) (h : iftab < Gen.ftabLen) : ftabName iftab = some (funcName iftab) := by
  have hs := ftab_sizes.1
  have : iftab < Gen.ftab.size := by omega
  simp [ftabName, funcName, this]

/-- the func edit on a state whose top `ops.length` stack entries cut the text after `b` into `ops`: `*s -= start` does
    not underflow, the `fargs[..]` slices are the texts `ops`, and only the `FTAB` lookup can fail -/
theorem applyAct_func_ops (iftab : Nat) (chk : Bool) (ops : List (List Char)) (b : List Char) (stk : List Nat) :
    applyAct (.func iftab ops.length chk) ⟨b ++ ops.flatten, stk ++ cuts b.length ops⟩ =
      match ftabName iftab with
      | none => .err s!"IfTab({iftab})"
      | some name => .ok ⟨b ++ (name ++ '(' :: commaSep ops ++ [')']), stk ++ [b.length]⟩ := by
  cases ops with
  | nil =>
    simp only [applyAct, cuts, List.length_nil, Nat.not_lt_zero, if_false, Nat.lt_irrefl, List.flatten_nil, List.append_nil]
    cases ftabName iftab <;> simp [commaSep]
  | cons a rest =>
    have hl : (cuts b.length (a :: rest)).length = (a :: rest).length := cuts_length _ _
    have hany : (cuts b.length (a :: rest)).any (· < b.length) = false :=
      List.any_eq_false.mpr fun x hx => by simpa using cuts_ge _ _ x hx
    have hj := joinArgs_cuts [] (a :: rest)
    rw [List.nil_append, List.length_nil] at hj
    have hsub := cuts_sub b.length 0 (a :: rest)
    rw [Nat.add_zero] at hsub
    -- the tests of `applyAct` in their order: enough operands; `argc > 0`; the first argument offset is `b.length`
    -- and none is below it (`hany`: no `*s -= start` underflows); `split_off(start)` is inside the text; the shifted
    -- offsets are `cuts 0` (`hsub`), on which `joinArgs` is `commaSep` (`hj`)
    simp only [applyAct, List.length_append, hl, Nat.add_sub_cancel, List.drop_left' rfl, List.take_left' rfl,
      show ¬ stk.length + (a :: rest).length < (a :: rest).length from by omega,
      show (a :: rest).length > 0 from Nat.succ_pos _, if_true, if_false,
      show (cuts b.length (a :: rest)).headD 0 = b.length from rfl, hany, Bool.false_eq_true,
      show ¬ b.length > b.length + (a :: rest).flatten.length from by omega, hsub, hj]
    cases ftabName iftab <;> simp only [List.append_assoc]

theorem applyAct_func (env : Env) (iftab : Nat) (chk : Bool) (args : List Expr) (buf : List Char) (stk : List Nat)
    (hi : iftab < Gen.ftabLen) :
    applyAct (.func iftab args.length chk) ⟨buf ++ concatArgs env args, stk ++ argOffs env buf.length args⟩ =
      .ok ⟨buf ++ (funcName iftab ++ '(' :: renderArgs env args ++ [')']), stk ++ [buf.length]⟩ := by
  rw [concatArgs_eq, argOffs_eq, renderArgs_eq, ← List.length_map (f := renderA1 env), applyAct_func_ops,
    ftabName_some _ hi]

theorem machine_leaf {env : Env} {chk : Bool} {e : Expr} {t : Tok} (ht : toRpn e = [t])
    (ha : actOf env chk t = .push (renderA1 env e)) (buf : List Char) (stk : List Nat) (rest : List Act) :
    runActs ((toRpn e).map (actOf env chk) ++ rest) ⟨buf, stk⟩ =
      runActs rest ⟨buf ++ renderA1 env e, stk ++ [buf.length]⟩ := by
  rw [ht, List.map_singleton, List.singleton_append, ha, runActs_cons_ok rest (applyAct_push _ buf stk)]

theorem machine_snoc {env : Env} {chk : Bool} {e : Expr} {l : List Tok} {t : Tok} {r1 r : List Char}
    {buf : List Char} {stk : List Nat} (rest : List Act) (ht : toRpn e = l ++ [t]) (hr : renderA1 env e = r)
    (ih : ∀ rest, runActs (l.map (actOf env chk) ++ rest) ⟨buf, stk⟩ = runActs rest ⟨buf ++ r1, stk ++ [buf.length]⟩)
    (ha : applyAct (actOf env chk t) ⟨buf ++ r1, stk ++ [buf.length]⟩ = .ok ⟨buf ++ r, stk ++ [buf.length]⟩) :
    runActs ((toRpn e).map (actOf env chk) ++ rest) ⟨buf, stk⟩ =
      runActs rest ⟨buf ++ renderA1 env e, stk ++ [buf.length]⟩ := by
  rw [ht, hr, List.map_append, List.append_assoc, ih, List.map_singleton, List.singleton_append,
    runActs_cons_ok rest ha]

mutual
theorem machine_correct (env : Env) (chk : Bool) : ∀ (e : Expr), e.arityOk → ∀ (buf : List Char) (stk : List Nat) (rest : List Act),
    runActs ((toRpn e).map (actOf env chk) ++ rest) ⟨buf, stk⟩ =
      runActs rest ⟨buf ++ renderA1 env e, stk ++ [buf.length]⟩
  | .ref .., _, buf, stk, rest | .area .., _, buf, stk, rest | .ref3d .., _, buf, stk, rest
  | .area3d .., _, buf, stk, rest | .name .., _, buf, stk, rest | .int _, _, buf, stk, rest
  | .num _, _, buf, stk, rest | .str .., _, buf, stk, rest | .bool _, _, buf, stk, rest | .err _, _, buf, stk, rest
  | .missing, _, buf, stk, rest => machine_leaf rfl rfl buf stk rest
  | .uplus e, h, buf, stk, rest =>
    machine_snoc rest rfl rfl (machine_correct env chk e h buf stk) (applyAct_pre '+' buf _ stk)
  | .uminus e, h, buf, stk, rest =>
    machine_snoc rest rfl rfl (machine_correct env chk e h buf stk) (applyAct_pre '-' buf _ stk)
  | .percent e, h, buf, stk, rest =>
    machine_snoc rest rfl rfl (machine_correct env chk e h buf stk) (applyAct_percent buf _ _)
  | .paren e, h, buf, stk, rest =>
    machine_snoc rest rfl rfl (machine_correct env chk e h buf stk) (applyAct_paren buf _ stk)
  | .sum e, h, buf, stk, rest =>
    machine_snoc rest rfl rfl (machine_correct env chk e h buf stk) (applyAct_sum buf _ stk)
  | .bin op a b, h, buf, stk, rest => by
    rw [toRpn, renderA1, List.map_append, List.map_append, List.append_assoc, List.append_assoc,
      machine_correct env chk a h.1, machine_correct env chk b h.2, List.map_singleton, List.singleton_append,
      actOf, runActs_cons_ok rest (applyAct_binop _ _ _ _)]
    simp only [List.append_assoc]
  | .func c iftab args, h, buf, stk, rest => by
    obtain ⟨hi, hn, ha⟩ := h
    rw [toRpn, renderA1, List.map_append, List.append_assoc, machine_correctArgs env chk args ha, List.map_singleton,
      List.singleton_append, actOf, hn, Option.getD_some,
      runActs_cons_ok rest (applyAct_func env iftab chk args buf stk hi)]
  | .funcVar c iftab args, h, buf, stk, rest => by
    rw [toRpn, renderA1, List.map_append, List.append_assoc, machine_correctArgs env chk args h.2, List.map_singleton,
      List.singleton_append, actOf, runActs_cons_ok rest (applyAct_func env iftab chk args buf stk h.1)]
  | .inert t e, h, buf, stk, rest => by
    have hn : actOf env chk t = .nop := by
      cases t <;> first | rfl | exact absurd h.1 Bool.false_ne_true
    exact machine_snoc rest rfl rfl (machine_correct env chk e h.2 buf stk) (by rw [hn]; rfl)
theorem machine_correctArgs (env : Env) (chk : Bool) : ∀ (args : List Expr), argsOk args →
    ∀ (buf : List Char) (stk : List Nat) (rest : List Act),
    runActs ((toRpnArgs args).map (actOf env chk) ++ rest) ⟨buf, stk⟩ =
      runActs rest ⟨buf ++ concatArgs env args, stk ++ argOffs env buf.length args⟩
  | [], _, buf, stk, rest => by
    rw [toRpnArgs, concatArgs, argOffs, List.map_nil, List.nil_append, List.append_nil, List.append_nil]
  | a :: as, h, buf, stk, rest => by
    rw [toRpnArgs, List.map_append, List.append_assoc, machine_correct env chk a h.1,
      machine_correctArgs env chk as h.2, concatArgs, argOffs, List.length_append, List.append_assoc,
      List.append_assoc]
    rfl
end

theorem machine_result (env : Env) (chk : Bool) (e : Expr) (h : e.arityOk) :
    runActs ((toRpn e).map (actOf env chk)) ⟨[], []⟩ = .ok ⟨renderA1 env e, [0]⟩ :=
  (congrArg (runActs · _) (List.append_nil _).symm).trans (machine_correct env chk e h [] [] [])

theorem toRpn_ne_nil (e : Expr) : toRpn e ≠ [] := by
  cases e <;> simp [toRpn]

/-- `runXls` and `runXlsb` are the two instances of `run` -/
theorem run_encoded {run : Nat → Bytes → St → Res St} {enc : Tok → Bytes} {act : Tok → Act}
    (hnil : ∀ fuel st, run fuel [] st = .ok st) : ∀ (toks : List Tok),
    (∀ t ∈ toks, ∀ fuel rest st, run (fuel + 1) (enc t ++ rest) st = applyAct (act t) st >>= run fuel rest) →
    ∀ (n : Nat), toks.length ≤ n → ∀ (st : St), run n (toks.flatMap enc) st = runActs (toks.map act) st
  | [], _, n, _, st => hnil n st
  | t :: ts, h, n, hn, st => by
    obtain ⟨m, rfl⟩ := Nat.exists_eq_add_of_le' (Nat.succ_le_of_lt (Nat.lt_of_lt_of_le (Nat.succ_pos _) hn))
    rw [List.flatMap_cons, h t List.mem_cons_self, List.map_cons, runActs]
    cases applyAct (act t) st with
    | ok st' =>
      exact run_encoded hnil ts (fun t' ht' => h t' (List.mem_cons_of_mem _ ht')) m (Nat.le_of_succ_le_succ hn) st'
    | _ => rfl

theorem runXls_nil (ctx : Ctx) (fuel : Nat) (st : St) : runXls ctx fuel [] st = .ok st := by
  cases fuel <;> rfl

theorem runXlsb_nil (ctx : Ctx) (d : Nat) (fuel : Nat) (st : St) : runXlsb ctx d fuel [] st = .ok st := by
  cases fuel <;> rfl

theorem runXls_cons (ctx : Ctx) (f : Nat) (p : UInt8) (r : Bytes) (st : St) :
    runXls ctx (f + 1) (p :: r) st =
      decodeXls ctx st.stk.isEmpty p.toNat r >>= fun ar => applyAct ar.1 st >>= runXls ctx f ar.2 := by
  rw [runXls]
  cases decodeXls ctx st.stk.isEmpty p.toNat r with
  | ok ar =>
    obtain ⟨a, r'⟩ := ar
    show (match applyAct a st with
      | .ok st' => _ | .err e => .err e | .panic e => .panic e | .outOfFuel => .outOfFuel) = (applyAct a st >>= _)
    cases applyAct a st <;> rfl
  | _ => rfl

theorem runXlsb_cons (ctx : Ctx) (d f : Nat) (p : UInt8) (r : Bytes) (st : St) (hp : isMemFunc p.toNat = false) :
    runXlsb ctx d (f + 1) (p :: r) st =
      decodeXlsb ctx p.toNat r >>= fun ar => applyAct ar.1 st >>= runXlsb ctx d f ar.2 := by
  rw [runXlsb, hp, if_neg Bool.false_ne_true]
  cases decodeXlsb ctx p.toNat r with
  | ok ar =>
    obtain ⟨a, r'⟩ := ar
    show (match applyAct a st with
      | .ok st' => _ | .err e => .err e | .panic e => .panic e | .outOfFuel => .outOfFuel) = (applyAct a st >>= _)
    cases applyAct a st <;> rfl
  | _ => rfl

/-- the offsets are sorted and inside the buffer; equivalently (`inv_iff`) they cut it into a prefix and one text per
    stack entry -/
def Inv (s : St) : Prop := s.stk.Pairwise (· ≤ ·) ∧ ∀ x ∈ s.stk, x ≤ s.buf.length

theorem inv_sub {buf buf' : List Char} {stk stk' : List Nat} (h : Inv ⟨buf, stk⟩) (hs : stk'.Sublist stk)
    (hl : buf.length ≤ buf'.length) : Inv ⟨buf', stk'⟩ :=
  ⟨h.1.sublist hs, fun x hx => Nat.le_trans (h.2 x (hs.subset hx)) hl⟩

theorem inv_grow {buf buf' : List Char} {stk : List Nat} (h : Inv ⟨buf, stk⟩) (hl : buf.length ≤ buf'.length) :
    Inv ⟨buf', stk⟩ :=
  inv_sub h (List.Sublist.refl _) hl

theorem last_le {buf : List Char} {stk : List Nat} {e : Nat} (h : Inv ⟨buf, stk⟩) (he : stk.getLast? = some e) :
    e ≤ buf.length := h.2 e (List.mem_of_getLast? he)

theorem applyAct_push_like (_a : Act) (s : St) (h : Inv s) (e : Nat) (he : s.stk.getLast? = some e) :
    ¬ e > s.buf.length :=
  Nat.not_lt.mpr (last_le (buf := s.buf) (stk := s.stk) h he)

theorem cuts_of_sorted : ∀ (l : List Nat) (base : Nat) (f : List Char), l.Pairwise (· ≤ ·) →
    (∀ x ∈ l, base ≤ x ∧ x ≤ base + f.length) → ∃ p ops, f = p ++ ops.flatten ∧ l = cuts (base + p.length) ops
  | [], _, f, _, _ => ⟨f, [], (List.append_nil f).symm, rfl⟩
  | e :: l, base, f, hp, hb => by
    obtain ⟨he1, he2⟩ := hb e List.mem_cons_self
    obtain ⟨p, ops, hf, hl⟩ := cuts_of_sorted l e (f.drop (e - base)) hp.of_cons fun x hx =>
      ⟨List.rel_of_pairwise_cons hp hx, by
        have := (hb x (List.mem_cons_of_mem _ hx)).2; simp only [List.length_drop]; omega⟩
    refine ⟨f.take (e - base), p :: ops, ?_, ?_⟩
    · rw [List.flatten_cons, ← hf, List.take_append_drop]
    · have : base + (f.take (e - base)).length = e := by rw [List.length_take]; omega
      rw [cuts, this, ← hl]

theorem inv_iff (s : St) : Inv s ↔ ∃ pre ops, s = ⟨pre ++ ops.flatten, cuts pre.length ops⟩ := by
  constructor
  · intro h
    obtain ⟨pre, ops, hf, hl⟩ := cuts_of_sorted s.stk 0 s.buf h.1 fun x hx => ⟨Nat.zero_le _, by simpa using h.2 x hx⟩
    rw [Nat.zero_add] at hl
    exact ⟨pre, ops, by rw [← hf, ← hl]⟩
  · rintro ⟨pre, ops, rfl⟩
    induction ops generalizing pre with
    | nil => exact ⟨List.Pairwise.nil, nofun⟩
    | cons a r ih =>
      have ih := ih (pre ++ a)
      rw [List.length_append, List.append_assoc] at ih
      exact ⟨List.pairwise_cons.mpr ⟨fun x hx => Nat.le_trans (Nat.le_add_right ..) (cuts_ge _ _ x hx), ih.1⟩,
        fun x hx => (List.mem_cons.mp hx).elim (fun h => by rw [h, List.length_append]; exact Nat.le_add_right ..) (ih.2 x)⟩

theorem inv_push {buf : List Char} {stk : List Nat} (t : List Char) (h : Inv ⟨buf, stk⟩) :
    Inv ⟨buf ++ t, stk ++ [buf.length]⟩ := by
  obtain ⟨pre, ops, hs⟩ := (inv_iff _).mp h
  obtain ⟨rfl, rfl⟩ := St.mk.inj hs
  exact (inv_iff _).mpr ⟨pre, ops ++ [t], by
    rw [List.flatten_concat, cuts_append, List.append_assoc, List.length_append]; rfl⟩

theorem applyAct_func_returnsWith (iftab argc : Nat) (chk : Bool) (s : St) (h : Inv s) :
    (applyAct (.func iftab argc chk) s).ReturnsWith Inv := by
  obtain ⟨pre, ops, rfl⟩ := (inv_iff s).mp h
  by_cases hlen : ops.length < argc
  · simp only [applyAct, cuts_length, if_pos hlen]; exact .err
  · obtain ⟨keep, args, rfl, rfl⟩ : ∃ keep args, ops = keep ++ args ∧ args.length = argc :=
      ⟨ops.take (ops.length - argc), ops.drop (ops.length - argc), (List.take_append_drop ..).symm, by
        rw [List.length_drop]; omega⟩
    rw [List.flatten_append, cuts_append, ← List.append_assoc, ← List.length_append, applyAct_func_ops]
    cases ftabName iftab with
    | none => exact .err
    | some name => exact .ok ((inv_iff _).mpr ⟨pre, keep ++ [name ++ '(' :: commaSep args ++ [')']], by
        rw [List.flatten_concat, cuts_append, List.append_assoc, List.length_append]; rfl⟩)

/-- every edit keeps the offsets sorted and inside the buffer, and from such a state no edit panics:
    `split_off`, `insert`, `*s -= start` and the `fargs[..]` slices never fail (the function name is looked up
    with `FTAB.get`) -/
theorem applyAct_returnsWith (a : Act) (s : St) (h : Inv s) : (applyAct a s).ReturnsWith Inv := by
  obtain ⟨buf, stk⟩ := s
  cases a with
  | push t => exact .ok (inv_push t h)
  | percent => exact .ok (inv_grow h (by simp))
  | nop => exact .ok h
  | func i n c => exact applyAct_func_returnsWith i n c _ h
  | binop op =>
    simp only [applyAct]
    cases he : stk.getLast? with
    | none => exact .err
    | some e =>
      simp only [if_neg (Nat.not_lt.mpr (last_le h he))]
      exact .ok (inv_sub h (List.dropLast_sublist _) (by simp; omega))
  | _ =>
    simp only [applyAct]
    cases he : stk.getLast? with
    | none => exact .err
    | some e =>
      simp only [Nat.not_lt.mpr (last_le h he), and_false, if_false]
      exact .ok (inv_grow h (by simp [insertAt]; omega))

theorem runActs_returnsWith (as : List Act) (s : St) (h : Inv s) : (runActs as s).ReturnsWith Inv := by
  induction as generalizing s with
  | nil => exact .ok h
  | cons a as ih =>
    rw [runActs]
    exact (applyAct_returnsWith a s h).elim ih fun _ => .err

theorem runActs_inv (as : List Act) (s : St) (h : Inv s) :
    (∀ s', runActs as s = .ok s' → Inv s') ∧ (∀ m, runActs as s = .panic m → False) :=
  ⟨fun _ hs => (runActs_returnsWith as s h).of_ok hs, (runActs_returnsWith as s h).returns.ne_panic⟩

theorem inv_init : Inv ⟨[], []⟩ := ⟨List.Pairwise.nil, by simp⟩
end Formula
