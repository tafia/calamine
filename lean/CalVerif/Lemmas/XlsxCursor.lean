import CalVerif.Lemmas.XlsxA1
import CalVerif.Lemmas.ResFold
import CalVerif.Lemmas.ListLoops
/-! The outer `<row>` / `<c>` loop that `next_cell` (`XlsxCells.step`) and `next_formula` (`XlsxFormula.step`) share,
    stated once as equations on a step function (`RowsLoop`), and run once over the encoder of `Spec/XlsxSheet.lean`:
    cell → cells → row → rows → sheet body (`RowsLoop.cell … RowsLoop.body`). A reader supplies the seven equations
    and what it does inside a `<c>` (`CellBody`). -/
namespace XlsxSheet
open XlsxCells Res

theorem cellAttrs_base (ra : Attrs) (hra : ra = [] ∨ ∃ v, ra = [(nR, v)]) (style : Option Bytes) (ta : Attrs)
    (hta : ta = [] ∨ ∃ v, ta = [(nT, v)]) :
    (ra ++ styleAttr style ++ ta).Pairwise (fun p q => p.1 ≠ q.1) ∧
    getAttr (ra ++ styleAttr style ++ ta) nR = ra.head?.map (·.2) ∧
    getAttr (ra ++ styleAttr style ++ ta) nS = style ∧
    getAttr (ra ++ styleAttr style ++ ta) nT = ta.head?.map (·.2) := by
  have h1 : nR ≠ nS := by decide
  have h2 : nR ≠ nT := by decide
  have h3 : nS ≠ nT := by decide
  rcases hra with rfl | ⟨v, rfl⟩ <;> rcases hta with rfl | ⟨w, rfl⟩ <;> cases style <;>
    refine ⟨?_, rfl, rfl, rfl⟩ <;> simp [styleAttr, h1, h2, h3]

theorem contentEvents_attr (p : Bool) (sp : Bytes → List Bytes) (c : Content) :
    (contentEvents p sp c).1 = [] ∨ ∃ v, (contentEvents p sp c).1 = [(nT, v)] := by
  cases c with
  | blank => exact Or.inl rfl
  | num t tn => cases tn <;> simp [contentEvents]
  | shared idx => exact Or.inr ⟨_, rfl⟩
  | inline s => exact Or.inr ⟨_, rfl⟩
  | fstr s => exact Or.inr ⟨_, rfl⟩
  | bool b => exact Or.inr ⟨_, rfl⟩
  | err k => exact Or.inr ⟨_, rfl⟩
  | iso s => exact Or.inr ⟨_, rfl⟩

/-- what the `r` attribute parses to, or the reader's cursor when there is none -/
def refOr {α : Type} (attrs : Attrs) (parse : Bytes → Res α) (cursor : α) : Res α :=
  match getAttr attrs nR with
  | some ref => parse ref
  | none => .ok cursor

/-- the start tag of a rendered `<c>`, under any legal arrangement of its attributes: the position comes from the
    reference, or from the column cursor, which is already there when no reference is written -/
theorem cellAttrs_render (lay : Layout) (hl : lay.Legal) (r c cur : Nat) (hr : r < 1048576) (hc : c < 16384)
    (style : Option Bytes) (ta : Attrs) (hta : ta = [] ∨ ∃ v, ta = [(nT, v)]) (attrs : Attrs)
    (hattrs : lay.cellArrange r c ((if (lay.cellExplicit r c || c != cur) = true then
      [(nR, refName (lay.cellLower r c) r c)] else []) ++ styleAttr style ++ ta) = attrs) :
    refOr attrs getRowColumn (r, cur) = .ok (r, c) ∧ getAttr attrs nS = style ∧
      getAttr attrs nT = ta.head?.map (·.2) := by
  subst hattrs
  generalize hra : (if (lay.cellExplicit r c || c != cur) = true then [(nR, refName (lay.cellLower r c) r c)] else []) = ra
  have hra' : ra = [] ∨ ∃ v, ra = [(nR, v)] := by
    subst hra; split
    · exact .inr ⟨_, rfl⟩
    · exact .inl rfl
  obtain ⟨hd, hR, hS, hT⟩ := cellAttrs_base ra hra' style ta hta
  refine ⟨?_, (hl.cellAttr r c _ nS hd (.inr (.inl rfl))).trans hS, (hl.cellAttr r c _ nT hd (.inr (.inr rfl))).trans hT⟩
  rw [refOr, (hl.cellAttr r c _ nR hd (.inl rfl)).trans hR]
  subst hra
  cases he : (lay.cellExplicit r c || c != cur)
  · have hcur : c = cur := by simpa using (Bool.or_eq_false_iff.mp he).2
    subst hcur; rfl
  · exact getRowColumn_refName _ r c (grid_row hr) (grid_col hc)

theorem rowAttrs_render (lay : Layout) (hl : lay.Legal) (r cur : Nat) (hr : r < 1048576) (attrs : Attrs)
    (hattrs : lay.rowArrange r (if (lay.rowExplicit r || r != cur) = true then [(nR, dec (r + 1))] else []) = attrs) :
    refOr attrs getRow cur = .ok r := by
  subst hattrs
  cases he : (lay.rowExplicit r || r != cur)
  · have hcur : r = cur := by simpa using (Bool.or_eq_false_iff.mp he).2
    subst hcur
    rw [refOr, if_neg Bool.false_ne_true, hl.rowAttr r [] .nil]; rfl
  · rw [refOr, if_pos rfl, hl.rowAttr r [(nR, dec (r + 1))] (List.pairwise_singleton ..)]
    exact getRow_dec r (grid_row hr)

/-- The outer loop of a sheet reader, as equations on its step function `f`. `S r c x`: in the loop with the cursor at
    `(r, c)`, `x` the rest of the state; `C pos attrs r x`: just after a `<c>` with these attributes was resolved to
    `pos` (row cursor `r`, column cursor `pos.2`); `D r c x`: `</sheetData>` seen. -/
structure RowsLoop {σ χ : Type} (f : σ → Ev → Res σ) (S : Nat → Nat → χ → σ) (C : Nat × Nat → Attrs → Nat → χ → σ)
    (D : Nat → Nat → χ → σ) : Prop where
  text : ∀ r c x s, f (S r c x) (.text s) = .ok (S r c x)
  other : ∀ r c x, f (S r c x) .other = .ok (S r c x)
  rowStart : ∀ r c x p attrs, f (S r c x) (.start (q p nRow) attrs) = refOr attrs getRow r >>= fun r' => .ok (S r' c x)
  rowStop : ∀ r c x p, f (S r c x) (.stop (q p nRow)) = .ok (S (satAdd r 1) 0 x)
  cellStart : ∀ r c x p attrs, f (S r c x) (.start (q p nC) attrs) =
    refOr attrs getRowColumn (r, c) >>= fun pos => .ok (C pos attrs r x)
  dataStop : ∀ r c x p, f (S r c x) (.stop (q p nSheetData)) = .ok (D r c x)
  done : ∀ r c x ev, f (D r c x) ev = .ok (D r c x)

/-- what a reader does inside a rendered `<c>`, from the state after the start tag — given the style and type it
    found there — to the outer loop after `</c>`: the part of a reader that is its own. `x ↦ emit r c cs x` is what the
    cell leaves in the rest of the state. -/
def CellBody {σ χ : Type} (f : σ → Ev → Res σ) (S : Nat → Nat → χ → σ) (C : Nat × Nat → Attrs → Nat → χ → σ)
    (P : CellSpec → Prop) (emit : Nat → Nat → CellSpec → χ → χ) : Prop :=
  ∀ (p : Bool) (sp : Bytes → List Bytes), (∀ t, (sp t).flatten = t) → ∀ (r c : Nat) (attrs : Attrs) (cs : CellSpec) (x : χ),
    getAttr attrs nS = cs.style → getAttr attrs nT = (contentEvents p sp cs.content).1.head?.map (·.2) → P cs →
    foldl f (C (r, c) attrs r x) (formulaEvents p cs.formula ++ ((contentEvents p sp cs.content).2 ++ [.stop (q p nC)])) =
      .ok (S r (satAdd c 1) (emit r c cs x))

theorem Increasing_mem {α : Type} {b lo : Nat} {l : List (Nat × α)} (h : Increasing b lo l) :
    ∀ x ∈ l, lo ≤ x.1 ∧ x.1 < b := by
  induction l generalizing lo with
  | nil => exact fun _ hx => nomatch hx
  | cons a l ih =>
    obtain ⟨h1, h2, h3⟩ := h
    intro x hx
    rcases List.mem_cons.mp hx with rfl | hx
    · exact ⟨h1, h2⟩
    · exact ⟨by have := (ih h3 x hx).1; omega, (ih h3 x hx).2⟩

/-- rows and columns inside the grid: all a reader needs of a sheet, since the encoder writes a reference wherever
    the position is not the reader's cursor (`Sheet.WF` adds the order, which the range needs). For the cells of the
    sheet it is the bound `HeaderRow.InSheet` states for a cell list (`XlsxCells.cellsOf_inGrid`). -/
def Sheet.InGrid (s : Sheet) : Prop := ∀ row ∈ s, row.1 < 1048576 ∧ ∀ cell ∈ row.2, cell.1 < 16384

theorem Sheet.WF.inGrid {s : Sheet} (hwf : s.WF) : s.InGrid :=
  fun row hrow => ⟨(Increasing_mem hwf.1 row hrow).2, fun cell hcell => (Increasing_mem (hwf.2 row hrow) cell hcell).2⟩

section
variable {σ χ : Type} {f : σ → Ev → Res σ} {S : Nat → Nat → χ → σ} {C : Nat × Nat → Attrs → Nat → χ → σ}
  {D : Nat → Nat → χ → σ} (F : RowsLoop f S C D)
include F

theorem RowsLoop.inert {l : List Ev} (h : Inert l) (r c : Nat) (x : χ) : foldl f (S r c x) l = .ok (S r c x) := by
  rw [← List.append_nil l]
  refine ListLoops.skip_append (f := foldl f (S r c x)) (fun ev rest hev => ?_) l [] h
  rcases hev with rfl | ⟨s, rfl⟩
  · rw [foldl_cons, F.other, bind_ok]
  · rw [foldl_cons, F.text, bind_ok]

variable {P : CellSpec → Prop} {emit : Nat → Nat → CellSpec → χ → χ} (B : CellBody f S C P emit)
include B

theorem RowsLoop.cell (lay : Layout) (hl : lay.Legal) (r c cur : Nat) (cs : CellSpec) (hr : r < 1048576)
    (hc : c < 16384) (hP : P cs) (x : χ) :
    foldl f (S r cur x) (renderCell lay r c cur cs) = .ok (S r (c + 1) (emit r c cs x)) := by
  simp only [renderCell, List.append_assoc]
  generalize lay.cellPfx r c = p
  generalize hattrs : lay.cellArrange r c _ = attrs
  obtain ⟨hR, hS, hT⟩ := cellAttrs_render lay hl r c cur hr hc cs.style _
    (contentEvents_attr p (lay.split r c) cs.content) attrs (by rw [← hattrs, List.append_assoc])
  rw [foldl_append_ok (F.inert (hl.gaps.2.1 r c) ..), List.cons_append, List.nil_append, foldl_cons, F.cellStart, hR,
    bind_ok, bind_ok, B p _ (hl.split r c) r c attrs cs x hS hT hP, satAdd_one (show c < 1048576 by omega)]

/-- The event list is the body of the `cons` arm of `renderRows` written out (the encoder has no name for one row);
    `RowsLoop.body` checks the two against each other by `rfl`. -/
theorem RowsLoop.row (lay : Layout) (hl : lay.Legal) (r cur : Nat) (cells : List (Nat × CellSpec)) (hr : r < 1048576)
    (hok : ∀ cell ∈ cells, cell.1 < 16384 ∧ P cell.2) (x : χ) :
    foldl f (S cur 0 x) (lay.gapRow r ++
      [.start (q (lay.rowPfx r) nRow)
        (lay.rowArrange r (if (lay.rowExplicit r || r != cur) = true then [(nR, dec (r + 1))] else []))] ++
      renderCells lay r 0 cells ++ lay.gapRowEnd r ++ [.stop (q (lay.rowPfx r) nRow)]) =
      .ok (S (r + 1) 0 (cells.foldl (fun x cell => emit r cell.1 cell.2 x) x)) := by
  obtain ⟨col, h⟩ := foldl_segments f (S := S r) (render := renderCells lay r)
    (seg := fun cur cell => renderCell lay r cell.1 cur cell.2) (next := (·.1 + 1))
    (eff := fun x cell => emit r cell.1 cell.2 x) (P := _) (hnil := fun _ => rfl) (hcons := fun _ _ _ => rfl)
    (hseg := fun cur cell x h => F.cell B lay hl r cell.1 cur cell.2 hr h.1 h.2 x) cells hok 0 x
  rw [List.append_assoc, List.append_assoc, List.append_assoc, foldl_append_ok (F.inert (hl.gaps.1 r) ..),
    List.cons_append, List.nil_append, foldl_cons, F.rowStart, rowAttrs_render lay hl r cur hr _ rfl, bind_ok, bind_ok,
    foldl_append_ok h, foldl_append_ok (F.inert (hl.gaps.2.2.1 r) ..), foldl_cons, F.rowStop, bind_ok, satAdd_one hr]
  rfl

theorem RowsLoop.body (lay : Layout) (hl : lay.Legal) (s : Sheet) (hg : s.InGrid)
    (hP : ∀ row ∈ s, ∀ cell ∈ row.2, P cell.2) (x : χ) :
    ∃ row, foldl f (S 0 0 x) (renderBody s lay) =
      .ok (D row 0 (s.foldl (fun x row => row.2.foldl (fun x cell => emit row.1 cell.1 cell.2 x) x) x)) := by
  -- `hcons := rfl` is where the event list in the statement of `RowsLoop.row` is checked against `renderRows`
  obtain ⟨row, h⟩ := foldl_segments f (S := fun cur => S cur 0) (render := renderRows lay) (seg := _) (next := (·.1 + 1))
    (eff := fun x (row : RowSpec) => row.2.foldl (fun x cell => emit row.1 cell.1 cell.2 x) x) (P := (· ∈ s))
    (hnil := fun _ => rfl) (hcons := fun _ _ _ => rfl)
    (hseg := fun cur row x h => F.row B lay hl row.1 cur row.2 (hg row h).1
      (fun cell hc => ⟨(hg row h).2 cell hc, hP row h cell hc⟩) x) s (fun _ h => h) 0 x
  refine ⟨row, ?_⟩
  rw [renderBody, List.append_assoc, List.append_assoc, List.append_assoc, foldl_append_ok h,
    foldl_append_ok (F.inert hl.gaps.2.2.2 ..), List.cons_append, List.nil_append, foldl_cons, F.dataStop, bind_ok,
    foldl_fixed (F.done _ _ _)]

end

theorem RowsLoop.body_items {σ β : Type} {f : σ → Ev → Res σ} {S : Nat → Nat → List β → σ}
    {C : Nat × Nat → Attrs → Nat → List β → σ} {D : Nat → Nat → List β → σ} (F : RowsLoop f S C D)
    {P : CellSpec → Prop} {g : Nat → Nat → CellSpec → β} (B : CellBody f S C P (fun r c cs out => g r c cs :: out))
    (lay : Layout) (hl : lay.Legal) (s : Sheet) (hg : s.InGrid) (hP : ∀ row ∈ s, ∀ cell ∈ row.2, P cell.2) :
    ∃ row, foldl f (S 0 0 []) (renderBody s lay) =
      .ok (D row 0 (s.flatMap fun row => row.2.map fun cell => g row.1 cell.1 cell.2).reverse) := by
  obtain ⟨row, h⟩ := F.body B lay hl s hg hP []
  refine ⟨row, h.trans ?_⟩
  rw [← List.append_nil (List.reverse _), ← List.foldl_flip_cons_eq_append', List.foldl_flatMap]
  simp only [List.foldl_map]

end XlsxSheet
