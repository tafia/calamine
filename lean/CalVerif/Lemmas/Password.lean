import CalVerif.Model.Password
import CalVerif.Spec.PasswordSpec
import CalVerif.Lemmas.BiffFraming
import CalVerif.Lemmas.ListLoops
/-! The loops of the password checks (`Model/Password.lean`) on lists with and without the decisive element, and the
    tie between the byte-level and the record-level FILEPASS loop (`stream_eq_records`, through C12's model of
    `RecordIter::next` and its framing lemmas, `Lemmas/BiffFraming.lean`). The property theorems of C20 are in
    `Props/C20.lean`; `beforeEof` and `NoContHead`, which their statements mention, are defined here. -/

namespace Password

open Biff (Rec)

/-- the records the loop looks at: up to (excluding) the first EOF -/
def beforeEof (recs : List Rec) : List Rec := recs.takeWhile (fun r => r.typ ≠ EOF)

theorem eof_ne_filepass : EOF ≠ FILEPASS := by decide

theorem fileEntry_ne : fileEntry ≠ encryptionData := by decide

theorem beforeEof_cons_ne (p : Rec) (ps : List Rec) (h : p.typ ≠ EOF) : beforeEof (p :: ps) = p :: beforeEof ps := by
  simp [beforeEof, h]

theorem beforeEof_cons_eq (p : Rec) (ps : List Rec) (h : p.typ = EOF) : beforeEof (p :: ps) = [] := by
  simp [beforeEof, h]

theorem xlsGlobals_quiet (recs : List Rec) :
    xlsGlobals Arms.quiet recs = if ∃ r ∈ beforeEof recs, r.typ = FILEPASS then .password else .pass := by
  induction recs with
  | nil => simp [xlsGlobals, beforeEof]
  | cons p ps ih =>
    by_cases hE : p.typ = EOF
    · simp [xlsGlobals, hE, eof_ne_filepass, beforeEof_cons_eq p ps hE]
    · by_cases hF : p.typ = FILEPASS <;> simp [xlsGlobals, hE, hF, Arms.quiet, ih, beforeEof_cons_ne p ps hE]

theorem inner_password_append (a b : List Ev) (ha : ∀ e ∈ a, e ≠ .error) (hb : inner b = .password) :
    inner (a ++ b) = .password := by
  induction a with
  | nil => exact hb
  | cons e es ih =>
    have ih' := ih fun x hx => ha x (List.mem_cons_of_mem _ hx)
    cases e with
    | start n =>
      simp only [List.cons_append, inner]
      split
      · rfl
      · exact ih'
    | other => exact ih'
    | error => exact absurd rfl (ha .error List.mem_cons_self)

theorem inner_detects (mid post : List Ev) (hmid : ∀ e ∈ mid, e ≠ .error) :
    inner (mid ++ .start encryptionData :: post) = .password :=
  inner_password_append mid _ hmid (by simp [inner])

/-- behind a file-entry start tag the outer loop is the inner loop (converse: `outer_password_split`) -/
theorem outer_password_append (a b : List Ev) (ha : ∀ e ∈ a, e ≠ .error) (hb : inner b = .password) :
    outer (a ++ .start fileEntry :: b) = .password := by
  induction a with
  | nil => simpa [outer] using hb
  | cons e es ih =>
    have hes := fun x hx => ha x (List.mem_cons_of_mem _ hx)
    cases e with
    | start n =>
      simp only [List.cons_append, outer]
      split
      · -- an earlier file entry: the inner loop scans everything that follows, and passes over the later file-entry tag
        exact inner_password_append es _ hes (by simpa [inner, fileEntry_ne] using hb)
      · exact ih hes
    | other => exact ih hes
    | error => exact absurd rfl (ha .error List.mem_cons_self)

theorem outer_detects (pre mid post : List Ev)
    (hpre : ∀ e ∈ pre, e ≠ .error) (hmid : ∀ e ∈ mid, e ≠ .error) :
    outer (pre ++ .start fileEntry :: (mid ++ .start encryptionData :: post)) = .password :=
  outer_password_append pre _ hpre (inner_detects mid post hmid)

theorem inner_of_no_enc (l : List Ev) (hno : Ev.start encryptionData ∉ l) :
    inner l = if Ev.error ∈ l then .err "xml" else .pass := by
  induction l with
  | nil => rfl
  | cons e es ih =>
    have ih' := ih fun h => hno (List.mem_cons_of_mem _ h)
    cases e with
    | start n =>
      have hn : n ≠ encryptionData := fun h => hno (h ▸ List.mem_cons_self)
      simp [inner, hn, ih']
    | other => simp [inner, ih']
    | error => simp [inner]

theorem inner_no_false_positive (evs : List Ev) (hno : Ev.start encryptionData ∉ evs) :
    inner evs ≠ .password := by
  rw [inner_of_no_enc evs hno]
  split <;> exact fun h => nomatch h

theorem outer_of_no_enc (l : List Ev) (hno : Ev.start encryptionData ∉ l) :
    outer l = if Ev.error ∈ l then .err "xml" else .pass := by
  induction l with
  | nil => rfl
  | cons e es ih =>
    have hno' : Ev.start encryptionData ∉ es := fun h => hno (List.mem_cons_of_mem _ h)
    cases e with
    | start n =>
      simp only [outer]
      split
      · simp [inner_of_no_enc es hno']
      · simp [ih hno']
    | other => simp [outer, ih hno']
    | error => simp [outer]

theorem outer_password_split (l : List Ev) (h : outer l = .password) :
    ∃ pre rest, l = pre ++ .start fileEntry :: rest ∧ inner rest = .password := by
  induction l with
  | nil => cases h
  | cons e es ih =>
    cases e with
    | start n =>
      simp only [outer] at h
      split at h
      · exact ⟨[], es, by simp [*], h⟩
      · obtain ⟨a, r, rfl, hr⟩ := ih h; exact ⟨.start n :: a, r, rfl, hr⟩
    | other => obtain ⟨a, r, rfl, hr⟩ := ih h; exact ⟨.other :: a, r, rfl, hr⟩
    | error => cases h

theorem inner_of_no_err (l : List Ev) (herr : Ev.error ∉ l) :
    inner l = if Ev.start encryptionData ∈ l then .password else .pass := by
  induction l with
  | nil => rfl
  | cons e es ih =>
    have ih' := ih fun h => herr (List.mem_cons_of_mem _ h)
    cases e with
    | start n =>
      by_cases hn : n = encryptionData
      · simp [inner, hn]
      · simp [inner, hn, ih', Ne.symm hn]
    | other => simp [inner, ih']
    | error => exact absurd List.mem_cons_self herr

theorem outer_replicate_other (k : Nat) (l : List Ev) : outer (List.replicate k .other ++ l) = outer l :=
  ListLoops.skip_append (P := (· = Ev.other)) (fun _ _ h => by rw [h, outer]) _ l fun _ h => (List.mem_replicate.mp h).2

theorem error_not_mem_childEvents (c : Child) : Ev.error ∉ childEvents c := by
  cases c <;> simp [childEvents, subEvents]

theorem enc_mem_childEvents (c : Child) : Ev.start encryptionData ∈ childEvents c ↔ c.isEnc = true := by
  cases c with
  | elem q => simp [childEvents, Child.isEnc, @eq_comm _ q]
  | _ => simp [childEvents, Child.isEnc]

theorem error_not_mem_manifestEvents (m : Manifest) : Ev.error ∉ manifestEvents m := by
  simp [manifestEvents, entryEvents, error_not_mem_childEvents]

theorem enc_mem_entryEvents (gap : Nat) (e : Entry) :
    Ev.start encryptionData ∈ entryEvents gap e ↔ e.encrypted = true := by
  simp [entryEvents, enc_mem_childEvents, Entry.encrypted, Ne.symm fileEntry_ne]

theorem manifest_spec_aux (prolog : Nat) (root : String) (entries : List Entry) (gap : Nat) :
    outer (List.replicate prolog .other ++ .start root :: (entries.flatMap (entryEvents gap) ++ [.other]))
      = if entries.any Entry.encrypted then .password else .pass := by
  -- behind the root element the outer loop IS the inner loop, which only looks for the encryption-data tag
  have hT : inner (entries.flatMap (entryEvents gap) ++ [.other]) =
      if entries.any Entry.encrypted then .password else .pass := by
    rw [inner_of_no_err _ (by simp [entryEvents, error_not_mem_childEvents])]
    simp [enc_mem_entryEvents]
  rw [outer_replicate_other]
  simp only [outer]
  split
  · exact hT
  · -- the root is no file entry: the outer loop goes on to the first entry, whose start tag the inner loop passes over
    cases entries with
    | nil => rfl
    | cons e es =>
      rw [← hT]
      simp only [List.flatMap_cons, entryEvents, List.cons_append, outer, inner, if_true, if_neg fileEntry_ne]

theorem le16_length (v : Nat) : (le16 v).length = 2 := rfl

/-- `frame1` writes what C12's encoder writes for a record without CONTINUE fragments: C12's framing lemmas apply.
    (`Password.le16` and `Biff.le16` are the same function written twice, so this holds by unfolding.) -/
theorem frame1_eq (t : Nat) (d : Bytes) : frame1 t d = Biff.frameRec t d [] :=
  (List.append_nil _).symm

/-- the stream does not start with a CONTINUE record header (which `RecordIter` would glue to the record before) -/
def NoContHead (s : Bytes) : Prop := ¬ (s.length > 4 ∧ Biff.u16 s = 0x3C)

theorem noContHead_iff (s : Bytes) : NoContHead s ↔ Biff.notCont s := by
  rw [NoContHead, Biff.notCont, Biff.hasLen_iff, decide_eq_true_eq]
  exact Iff.rfl

theorem noContHead_nil : NoContHead [] := by simp [NoContHead]

theorem noContHead_frame1 (t : Nat) (d rest : Bytes) (ht : t < 65536) (hc : t ≠ 0x3C) :
    NoContHead (frame1 t d ++ rest) := by
  rw [noContHead_iff, frame1_eq]
  exact Biff.notCont_frameRec t d [] rest ht hc

theorem nextRecord_frame1 (t : Nat) (d tail : Bytes) (ht : t < 65536) (hd : d.length < 65536)
    (htail : NoContHead tail) :
    Biff.nextRecord (frame1 t d ++ tail) = some (.ok (⟨t, d, []⟩, tail)) := by
  rw [frame1_eq]
  exact Biff.nextRecord_plain t d tail ht hd ((noContHead_iff tail).mp htail)

theorem frameAll_cons (r : Rec) (rs : List Rec) : frameAll (r :: rs) = frame1 r.typ r.data ++ frameAll rs := by
  simp [frameAll]

theorem noContHead_frameAll (rs : List Rec) (tail : Bytes) (hplain : ∀ r ∈ rs, Plain r) (htail : NoContHead tail) :
    NoContHead (frameAll rs ++ tail) :=
  (noContHead_iff _).mpr (Biff.notCont_flatMap _ rs tail
    (fun r hr X => (noContHead_iff _).mp (noContHead_frame1 _ _ X (hplain r hr).1 (hplain r hr).2.1))
    ((noContHead_iff tail).mp htail))

/-- the records at which the globals loop leaves: EOF ends it, FILEPASS answers `Password` -/
def Stops (r : Rec) : Prop := r.typ = EOF ∨ r.typ = FILEPASS

theorem stream_cons (arms : Arms) (r : Rec) (rs : List Rec) (rest : Bytes) (f : Nat) (hp : Plain r) (hnc : NoContHead rest)
    (h : ¬ Stops r → xlsGlobalsStream arms f rest = xlsGlobals arms rs) :
    xlsGlobalsStream arms (f + 1) (frame1 r.typ r.data ++ rest) = xlsGlobals arms (r :: rs) := by
  have hr : (⟨r.typ, r.data, []⟩ : Rec) = r := congrArg (Rec.mk r.typ r.data) hp.2.2.2.symm
  simp only [xlsGlobalsStream, nextRecord_frame1 r.typ r.data _ hp.1 hp.2.2.1 hnc, xlsGlobals, hr]
  by_cases hF : r.typ = FILEPASS
  · simp [hF]
  · by_cases hE : r.typ = EOF
    · simp [hE]
    · simp only [hF, hE, if_false, h fun hs => hs.elim hE hF]

/-- **the byte-level loop is the record-level loop**: on the framing of plain records, followed by arbitrary bytes
    that are never reached (a stopping record exists) or by nothing -/
theorem stream_eq_records (arms : Arms) (recs : List Rec) (tail : Bytes) (fuel : Nat)
    (hplain : ∀ r ∈ recs, Plain r) (htail : NoContHead tail)
    (hstop : (∃ r ∈ recs, Stops r) ∨ tail = []) (hfuel : recs.length < fuel) :
    xlsGlobalsStream arms fuel (frameAll recs ++ tail) = xlsGlobals arms recs := by
  induction recs generalizing fuel with
  | nil =>
    obtain ⟨f, rfl⟩ := Nat.exists_eq_add_one_of_ne_zero (Nat.ne_of_gt hfuel)
    rcases hstop with ⟨r, hr, _⟩ | rfl
    · cases hr
    · simp [frameAll, xlsGlobalsStream, xlsGlobals, Biff.nextRecord_nil]
  | cons r rs ih =>
    obtain ⟨f, rfl⟩ := Nat.exists_eq_add_one_of_ne_zero (Nat.ne_of_gt (Nat.zero_lt_of_lt hfuel))
    obtain ⟨hp, hps⟩ := List.forall_mem_cons.mp hplain
    rw [frameAll_cons, List.append_assoc]
    -- a stopping record, if there is one and it is not `r`, lies in the tail
    exact stream_cons arms r rs _ f hp (noContHead_frameAll rs tail hps htail) fun hns =>
      ih f hps (hstop.imp_left fun ⟨x, hx, hs⟩ => ⟨x, (List.mem_cons.mp hx).resolve_left fun e => hns (e ▸ hs), hs⟩)
        (Nat.lt_of_succ_lt_succ hfuel)

end Password
