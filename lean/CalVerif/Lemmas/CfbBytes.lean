import CalVerif.Spec.CfbLayout
import CalVerif.Lemmas.Utf16
import CalVerif.Lemmas.LittleEndian
import CalVerif.Lemmas.DivMod
/-! The codecs of the compound-file format, writer (`Spec/CfbLayout.lean`) against reader (`Model/Cfb.lean`):
    little-endian integers alone, in tables and at an offset behind a prefix (instances of `Lemmas/LittleEndian.lean`
    through `le32_eq`, `u32At_eq`, …); UTF-16 names; data cut into sector-sized padded pieces and 128-byte chunks;
    `sec`, sector `id` of a sector area (defined here; statements of `Props/C13.lean` mention it). Nothing here knows
    about allocation. -/
namespace Cfb
open LittleEndian

theorem le32_eq (v : Nat) : le32 v = le 4 v := by simp only [le32, le, Nat.div_div_eq_div_mul]
theorem le64_eq (v : Nat) : le64 v = le 8 v := by rw [le64, le32_eq, le32_eq, le_add 4 4, ← le_mod 4 v]
theorem u32At_eq (b : Bytes) (o : Nat) : u32At b o = rd 4 b o := by
  simp only [u32At, byteAt, rd, Nat.add_assoc, Nat.reduceAdd]; omega
theorem u64At_eq (b : Bytes) (o : Nat) : u64At b o = rd 8 b o := by rw [u64At, u32At_eq, u32At_eq, rd_add 4 4]

theorem le32_val (v : Nat) (rest : Bytes) (h : v < 4294967296) :
    u32s (le32 v ++ rest) = v :: u32s rest := by
  simp only [le32, List.cons_append, List.nil_append, u32s, bytes4, Nat.mod_eq_of_lt h]

theorem u32s_le32s (vs : List Nat) (h : ∀ v ∈ vs, v < 4294967296) : u32s (le32s vs) = vs := by
  induction vs with
  | nil => rfl
  | cons v vs ih =>
    simp only [le32s, List.flatMap_cons]
    rw [le32_val v _ (h v List.mem_cons_self)]
    exact congrArg _ (ih fun w hw => h w (List.mem_cons_of_mem _ hw))

theorem u32s_length (b : Bytes) : (u32s b).length * 4 ≤ b.length := by
  fun_induction u32s b with
  | case1 a b c d rest ih => simp only [List.length_cons]; omega
  | case2 t _ => exact Nat.zero_le _

theorem le32_length (v : Nat) : (le32 v).length = 4 := rfl

theorem le32s_length (vs : List Nat) : (le32s vs).length = 4 * vs.length := by
  rw [le32s, funext le32_eq]; exact le_flatMap_length 4 vs

theorem le16s_length (us : List Nat) : (le16s us).length = 2 * us.length := le_flatMap_length 2 us

theorem u16s_le16s (us : List Nat) (t : Bytes) (h : ∀ u ∈ us, u < 65536) : u16s (le16s us ++ t) = us ++ u16s t := by
  induction us with
  | nil => rfl
  | cons u us ih =>
    simp only [le16s, List.flatMap_cons, le16, List.cons_append, List.nil_append, u16s]
    rw [bytes2, Nat.mod_eq_of_lt (h u List.mem_cons_self)]
    exact congrArg _ (ih fun w hw => h w (List.mem_cons_of_mem _ hw))

theorem u16s_zeros (k : Nat) : u16s (List.replicate (2 * k) (0 : UInt8)) = List.replicate k 0 := by
  induction k with
  | zero => rfl
  | succ k ih =>
    rw [show 2 * (k + 1) = (2 * k + 1) + 1 by omega, List.replicate_succ, List.replicate_succ, u16s, ih,
      List.replicate_succ]
    rfl

theorem byteAt_append_left (a b : Bytes) (i : Nat) (h : i < a.length) : byteAt (a ++ b) i = byteAt a i :=
  rd_append_left 1 a b i h

theorem byteAt_skip (a b : Bytes) (n i : Nat) (h : a.length = n) : byteAt (a ++ b) (n + i) = byteAt b i :=
  rd_skip 1 a b n i h

theorem u16At_append_left (a b : Bytes) (o : Nat) (h : o + 1 < a.length) : u16At (a ++ b) o = u16At a o :=
  rd_append_left 2 a b o h

theorem u32At_skip (a b : Bytes) (n o : Nat) (h : a.length = n) : u32At (a ++ b) (n + o) = u32At b o := by
  rw [u32At_eq, u32At_eq, rd_skip 4 a b n o h]

theorem u32At_le32 (v : Nat) (rest : Bytes) (h : v < 4294967296) : u32At (le32 v ++ rest) 0 = v := by
  rw [u32At_eq, le32_eq, rd_le 4 v rest h]

theorem u32At_le32s (vs : List Nat) (rest : Bytes) (k : Nat) (hk : k < vs.length)
    (hv : ∀ v ∈ vs, v < 4294967296) : u32At (le32s vs ++ rest) (4 * k) = vs[k] := by
  rw [u32At_eq, le32s, funext le32_eq]; exact rd_le_flatMap 4 vs rest k hk hv

theorem u32At_le64_lo (v : Nat) : u32At (le64 v) 0 = v % 4294967296 := by
  rw [u32At_eq, le64_eq, le_add 4 4]; exact rd_le_mod 4 v _

theorem u32At_le64_hi (v : Nat) (h : v < 18446744073709551616) : u32At (le64 v) 4 = v / 4294967296 := by
  rw [u32At_eq, le64_eq, le_add 4 4, ← List.append_nil (le 4 (v / _))]
  exact rd_le_at 4 _ (le 4 v) [] 4 rfl (Nat.div_lt_of_lt_mul (k := 4294967296) h)

theorem u64At_le64 (v : Nat) (h : v < 18446744073709551616) : u64At (le64 v) 0 = v := by
  rw [u64At_eq, le64_eq, ← List.append_nil (le 8 v), rd_le 8 v [] h]

theorem utf16Units_eq (cs : List Char) : utf16Units cs = Utf16.charUnits cs := by
  induction cs with
  | nil => rfl
  | cons c cs ih => rw [utf16Units, ih]; rfl

theorem decodeUtf16_eq (us : List Nat) : decodeUtf16 us = Utf16.decodeChars us := by
  fun_induction decodeUtf16 us <;> simp [Utf16.decodeChars, Utf16.decode, replacement, *]

theorem decode_cons_plain (u : Nat) (t : List Nat) (h : ¬ (0xD800 ≤ u ∧ u < 0xE000)) :
    decodeUtf16 (u :: t) = Char.ofNat u :: decodeUtf16 t := by
  rw [decodeUtf16_eq, decodeUtf16_eq, Utf16.decodeChars_bmp u t h]

theorem decode_units (cs : List Char) (t : List Nat) :
    decodeUtf16 (utf16Units cs ++ t) = cs ++ decodeUtf16 t := by
  rw [decodeUtf16_eq, decodeUtf16_eq, utf16Units_eq, Utf16.decodeChars_charUnits]

theorem decode_zeros (k : Nat) : decodeUtf16 (List.replicate k 0) = List.replicate k (Char.ofNat 0) := by
  induction k with
  | zero => rfl
  | succ k ih => rw [List.replicate_succ, decode_cons_plain _ _ (by omega), ih, List.replicate_succ]

theorem untilNul_name (cs : List Char) (k : Nat) (h : ∀ c ∈ cs, c ≠ Char.ofNat 0) :
    untilNul (cs ++ List.replicate k (Char.ofNat 0)) = cs := by
  rw [untilNul, List.takeWhile_append_of_pos fun c hc => decide_eq_true (h c hc), List.takeWhile_replicate]
  exact List.append_nil cs

theorem utf16Units_lt (cs : List Char) : ∀ u ∈ utf16Units cs, u < 65536 := by
  rw [utf16Units_eq]; exact Utf16.charUnits_lt cs

theorem nameEncOK_spec (name : List Char) (h : nameEncOK name = true) :
    0 < (utf16Units name).length ∧ (utf16Units name).length ≤ 31 ∧ (∀ c ∈ name, c ≠ Char.ofNat 0) := by
  simp only [nameEncOK, Bool.and_eq_true, decide_eq_true_eq, Bool.not_eq_true', List.contains_eq_mem,
    decide_eq_false_iff_not] at h
  exact ⟨h.1.1, h.1.2, fun c hc he => h.2 (he ▸ hc)⟩

theorem name_nonempty (name : List Char) (h : nameEncOK name = true) : name ≠ [] := by
  intro he
  subst he
  exact Nat.lt_irrefl 0 (nameEncOK_spec [] h).1

/-- the 64-byte name field of a directory entry -/
def nameField (name : List Char) : Bytes :=
  le16s (utf16Units name) ++ List.replicate (64 - (le16s (utf16Units name)).length) 0

theorem nameField_length (name : List Char) (h : (utf16Units name).length ≤ 31) : (nameField name).length = 64 := by
  simp only [nameField, List.length_append, List.length_replicate, le16s_length]
  omega

theorem decodeName64_field (name : List Char) (h : nameEncOK name = true) :
    untilNul (decodeName64 (nameField name)) = name := by
  obtain ⟨_, hle, hnul⟩ := nameEncOK_spec name h
  have hpad : 64 - (le16s (utf16Units name)).length = 2 * (32 - (utf16Units name).length) := by
    rw [le16s_length]; omega
  rw [decodeName64, nameField, hpad, u16s_le16s _ _ (utf16Units_lt name), u16s_zeros, decode_units, decode_zeros]
  exact untilNul_name name _ hnul

theorem nsect_zero (ss : Nat) (hss : 0 < ss) : nsect ss 0 = 0 :=
  Nat.div_eq_of_lt (by omega)

theorem le_nsect_mul (ss len : Nat) (hss : 0 < ss) : len ≤ nsect ss len * ss := by
  unfold nsect
  have := Nat.div_add_mod (len + ss - 1) ss
  have := Nat.mod_lt (len + ss - 1) hss
  rw [Nat.mul_comm]
  omega

theorem nsect_mul (ss q : Nat) (hss : 0 < ss) : nsect ss (q * ss) = q := DivMod.ceilDiv_mul hss

theorem padChunks_all_len (ss : Nat) (fill : UInt8) (f : Nat) (d : Bytes) :
    ∀ x ∈ padChunks ss fill f d, x.length = ss := by
  induction f generalizing d with
  | zero => intro x hx; cases hx
  | succ f ih =>
    intro x hx
    unfold padChunks at hx
    split at hx
    · cases hx
    · rcases List.mem_cons.mp hx with rfl | hx
      · simp only [List.length_append, List.length_take, List.length_replicate]; omega
      · exact ih _ x hx

theorem padChunks_flatten_take (ss : Nat) (fill : UInt8) (hss : 0 < ss) :
    ∀ (f : Nat) (d : Bytes), d.length ≤ f → ((padChunks ss fill f d).flatten).take d.length = d := by
  intro f
  induction f with
  | zero => intro d hd; cases d with | nil => rfl | cons _ _ => cases hd
  | succ f ih =>
    intro d hd
    unfold padChunks
    split
    · rename_i h; subst h; rfl
    · simp only [List.flatten_cons]
      by_cases hle : d.length ≤ ss
      · rw [List.take_of_length_le hle, List.append_assoc, List.take_left' rfl]
      · have h1 : (List.take ss d).length = ss := by rw [List.length_take]; omega
        rw [h1, Nat.sub_self, List.replicate_zero, List.append_nil, List.take_append, h1,
          List.take_of_length_le (by omega)]
        have := ih (d.drop ss) (by rw [List.length_drop]; omega)
        rw [List.length_drop] at this
        rw [this, List.take_append_drop]

theorem padChunks_length (ss : Nat) (fill : UInt8) (hss : 0 < ss) :
    ∀ (f : Nat) (d : Bytes), d.length ≤ f → (padChunks ss fill f d).length = nsect ss d.length := by
  intro f
  induction f with
  | zero => intro d hd; cases d with | nil => exact (nsect_zero ss hss).symm | cons _ _ => cases hd
  | succ f ih =>
    intro d hd
    unfold padChunks
    split
    · rename_i h; subst h; exact (nsect_zero ss hss).symm
    · rename_i hne
      have hpos : 0 < d.length := List.length_pos_iff.mpr hne
      rw [List.length_cons, ih (d.drop ss) (by rw [List.length_drop]; omega), List.length_drop]
      unfold nsect
      by_cases hle : d.length ≤ ss
      · rw [show d.length - ss + ss - 1 = ss - 1 by omega, Nat.div_eq_of_lt (by omega)]
        exact (Nat.div_eq_of_lt_le (by omega) (by omega)).symm
      · rw [show d.length + ss - 1 = (d.length - ss + ss - 1) + ss by omega, Nat.add_div_right _ hss]

theorem flatten_uniform_length (ss : Nat) (Ls : List Bytes) (h : ∀ x ∈ Ls, x.length = ss) :
    Ls.flatten.length = ss * Ls.length := by
  rw [← List.flatMap_id]; exact ListLoops.length_flatMap_const id ss Ls h

theorem padChunks_flatten_exact (ss : Nat) (fill : UInt8) (hss : 0 < ss) (d : Bytes) (q : Nat)
    (hq : d.length = q * ss) : (padChunks ss fill d.length d).flatten = d := by
  have hlen : (padChunks ss fill d.length d).flatten.length = d.length := by
    rw [flatten_uniform_length ss _ (padChunks_all_len ss fill _ d), padChunks_length ss fill hss _ d (Nat.le_refl _),
      hq, nsect_mul ss q hss, Nat.mul_comm]
  have := padChunks_flatten_take ss fill hss _ d (Nat.le_refl _)
  rwa [List.take_of_length_le (Nat.le_of_eq hlen)] at this

/-- what `get_chain` keeps of the padded pieces when it is given the size of the data -/
theorem stream_read_result (ss : Nat) (fill : UInt8) (hss : 0 < ss) (D : Bytes) :
    (if D.length > 0 then (padChunks ss fill D.length D).flatten.take D.length
      else (padChunks ss fill D.length D).flatten) = D := by
  split
  · exact padChunks_flatten_take ss fill hss _ D (Nat.le_refl _)
  · cases D with
    | nil => rfl
    | cons _ _ => rename_i h; exact absurd (Nat.succ_pos _) h

/-- sector `id` of a sector area `body` (what `Sectors::get` returns, independent of the cache) -/
def sec (body : Bytes) (ss id : Nat) : Bytes := (body.drop (id * ss)).take ss

theorem sec_full_length (body : Bytes) (ss id : Nat) (h : (id + 1) * ss ≤ body.length) :
    (sec body ss id).length = ss := by
  rw [Nat.add_mul, Nat.one_mul] at h
  simp only [sec, List.length_take, List.length_drop]; omega

theorem sec_append_left (B extra : Bytes) (ss id : Nat) (h : (id + 1) * ss ≤ B.length) :
    sec (B ++ extra) ss id = sec B ss id := by
  rw [Nat.add_mul, Nat.one_mul] at h
  unfold sec
  rw [List.drop_append_of_le_length (by omega), List.take_append_of_le_length (by rw [List.length_drop]; omega)]

/-- the clamping of `Sectors::get` (`data[start.min(len)..end.min(len)]`) is what `drop` and `take` do anyway -/
theorem sec_clamp (data : Bytes) (ss id : Nat) :
    (data.drop (min (id * ss) data.length)).take (min (id * ss + ss) data.length - min (id * ss) data.length) =
      sec data ss id := by
  unfold sec
  generalize id * ss = st
  by_cases h : st ≤ data.length
  · rw [Nat.min_eq_left h, List.take_eq_take_min (i := ss), List.length_drop]
    congr 1; omega
  · rw [List.drop_eq_nil_of_le (by omega), List.drop_eq_nil_of_le (by omega), List.take_nil, List.take_nil]

theorem sec_flatten (ss : Nat) : ∀ (L : List Bytes) (k : Nat) (hk : k < L.length),
    (∀ x ∈ L, x.length = ss) → sec L.flatten ss k = L[k] := by
  intro L
  induction L with
  | nil => intro k hk; cases hk
  | cons x xs ih =>
    intro k hk hall
    have hx : x.length = ss := hall x List.mem_cons_self
    cases k with
    | zero =>
      simp only [sec, Nat.zero_mul, List.drop_zero, List.flatten_cons, List.getElem_cons_zero]
      exact List.take_left' hx
    | succ k =>
      rw [List.getElem_cons_succ, ← ih k (Nat.lt_of_succ_lt_succ hk) fun y hy => hall y (List.mem_cons_of_mem _ hy)]
      simp only [sec, List.flatten_cons]
      rw [show (k + 1) * ss = ss + k * ss by rw [Nat.add_mul]; omega, ← List.drop_drop, List.drop_left' hx]

theorem chunksAux_len (n : Nat) (f : Nat) (l : Bytes) : ∀ x ∈ chunksAux n f l, x.length = n := by
  induction f generalizing l with
  | zero => intro x hx; cases hx
  | succ f ih =>
    intro x hx
    unfold chunksAux at hx
    split at hx
    · cases hx
    · rcases List.mem_cons.mp hx with rfl | hx
      · rw [List.length_take]; omega
      · exact ih _ x hx

theorem chunksAux_flatten (n : Nat) (hn : 0 < n) : ∀ (Ls : List Bytes) (fuel : Nat), Ls.length ≤ fuel →
    (∀ x ∈ Ls, x.length = n) → chunksAux n fuel Ls.flatten = Ls := by
  intro Ls
  induction Ls with
  | nil => intro fuel _ _; cases fuel with | zero => rfl | succ f => simp [chunksAux]; omega
  | cons x xs ih =>
    intro fuel hf hall
    obtain ⟨f, rfl⟩ : ∃ f, fuel = f + 1 := ⟨fuel - 1, by rw [List.length_cons] at hf; omega⟩
    have hx : x.length = n := hall x List.mem_cons_self
    have : ¬ (x ++ xs.flatten).length < n := by rw [List.length_append]; omega
    simp only [List.flatten_cons, chunksAux, this, if_false]
    rw [List.take_left' hx, List.drop_left' hx,
      ih f (Nat.le_of_succ_le_succ hf) fun y hy => hall y (List.mem_cons_of_mem _ hy)]

theorem chunksExact_flatten (n : Nat) (hn : 0 < n) (Ls : List Bytes) (hall : ∀ x ∈ Ls, x.length = n) :
    chunksExact n Ls.flatten = Ls := by
  apply chunksAux_flatten n hn Ls _ _ hall
  rw [flatten_uniform_length n Ls hall]
  exact Nat.le_mul_of_pos_left _ hn

end Cfb
