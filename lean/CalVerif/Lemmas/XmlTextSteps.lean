import CalVerif.Spec.XmlText
import CalVerif.Lemmas.ResReturns
import CalVerif.Lemmas.ListLoops
/-! What one step of each event reader of `Model/XmlText` does (property C19).  The four readers `runSi`, `runCell`,
    `runFmla`, `runOds` are one loop (`runLoop`) over their step functions `siStep`, `cellStep`, `fmlaStep`, `odsStep`;
    what holds of every such loop is proved once, about `runLoop` (`runSst`, which threads the table, is stepped by its
    own equations).  Then a section per reader: which events a mode passes over, that Text and CData events append
    alike, what the start and end tags of the elements the reader knows do, and — for `siStep`, `odsStep`, `cellStep`
    (and `runSst`), not for `fmlaStep`, of which no theorem needs it — that no step panics.  A step's outcome is a
    `Step`, not a `Res`, so "does not panic" is said of it as `Step.isPanic … = false` (`siStep_isPanic`, …: the name is
    that of the function applied, the statement says `false`); `runLoop_returns` turns that into `Res.Returns` of the
    whole loop, and only `Returns` is used from there on.  `Lemmas/XmlText.lean` composes the step facts along the rendered fragments and does not look into a step
    function again.  A step fact is proved by exposing the arm of the step function's `match` (`delta`; the matcher
    reduces on the constructors) and naming the branches of the `if` cascade that are taken; unfolding with `simp` or
    `rw` is slow here, since it derives the function's equation lemmas again in every proof. -/

namespace XmlText

/-- `runSi`, `runCell`, `runFmla` and `runOds` are this loop over their step function (`runSi_eq`, …) -/
def runLoop {σ α : Type} (step : σ → Ev → Step σ α) (eof : σ → String) : σ → List Ev → Res (α × List Ev)
  | m, [] => .err (eof m)
  | m, e :: r =>
    match step m e with
    | .cont m' => runLoop step eof m' r
    | .done v => .ok (v, r)
    | .fail x => .err x
    | .panic x => .panic x

section loop
variable {σ α : Type} {step : σ → Ev → Step σ α} {eof : σ → String}

theorem runLoop_cont {m m' : σ} {e : Ev} (r : List Ev) (h : step m e = .cont m') :
    runLoop step eof m (e :: r) = runLoop step eof m' r := by
  rw [runLoop, h]

theorem runLoop_done {m : σ} {e : Ev} {v : α} (r : List Ev) (h : step m e = .done v) :
    runLoop step eof m (e :: r) = .ok (v, r) := by
  rw [runLoop, h]

theorem runLoop_stay {m : σ} {p : Ev → Bool} (hp : ∀ e, p e = true → step m e = .cont m) {evs : List Ev}
    (h : evs.all p = true) (r : List Ev) : runLoop step eof m (evs ++ r) = runLoop step eof m r :=
  ListLoops.skip_append (f := runLoop step eof m) (fun _ rest he => runLoop_cont rest (hp _ he)) evs r
    (List.all_eq_true.mp h)

/-- character data: in a family of modes `f acc` where Text and CData events both append to `acc`, the
    chunks accumulate in any split -/
theorem runLoop_chunks (f : Txt → σ) (h : ∀ acc (k : Chunk), step (f acc) k.ev = .cont (f (acc ++ k.txt)))
    (cs : List Chunk) (acc : Txt) (r : List Ev) :
    runLoop step eof (f acc) (chunksEvs cs ++ r) = runLoop step eof (f (acc ++ chunksText cs)) r := by
  induction cs generalizing acc with
  | nil => rw [chunksText, List.map_nil, List.flatten_nil, List.append_nil]; rfl
  | cons k ks ih =>
    rw [chunksEvs, List.map_cons, List.cons_append, runLoop_cont _ (h acc k), chunksText, List.map_cons,
      List.flatten_cons, ← List.append_assoc]
    exact ih _

/-- the one outcome of a step that `runLoop` turns into `Res.panic` -/
def Step.isPanic : Step σ α → Bool
  | .panic _ => true
  | _ => false

theorem Step.isPanic_ite {p : Prop} [Decidable p] {a b : Step σ α} (ha : a.isPanic = false) (hb : b.isPanic = false) :
    (if p then a else b).isPanic = false := by
  split
  · exact ha
  · exact hb

theorem runLoop_returns (h : ∀ m e, (step m e).isPanic = false) (m : σ) (evs : List Ev) :
    (runLoop step eof m evs).Returns := by
  induction evs generalizing m with
  | nil => exact .err _
  | cons e es ih =>
    have hp := h m e
    rw [runLoop]
    generalize step m e = s at hp ⊢
    cases s with
    | cont m' => exact ih m'
    | done v => exact .ok _
    | fail x => exact .err _
    | panic x => cases hp

end loop

theorem runSi_eq (c : Name) (m : SiMode) (evs : List Ev) : runSi c m evs = runLoop (siStep c) siEof m evs := by
  induction evs generalizing m with
  | nil => rfl
  | cons e r ih => rw [runSi, runLoop]; cases siStep c m e <;> simp only [ih]

theorem siStep_inert {c : Name} {e : Ev} (rich : Option Txt) (h : inertEv c e = true) :
    siStep c (.outer rich false) e = .cont (.outer rich false) := by
  delta siStep
  cases e with
  | start n a =>
    have h : n.loc ≠ "r" ∧ n.loc ≠ "rPh" ∧ n.loc ≠ "t" := of_decide_eq_true h
    exact (if_neg h.1).trans ((if_neg h.2.1).trans (if_neg fun ht => h.2.2 ht.1))
  | end_ n =>
    have h : n ≠ c ∧ n.loc ≠ "rPh" := of_decide_eq_true h
    exact (if_neg h.1).trans (if_neg h.2)
  | _ => rfl

theorem siStep_phInert {c : Name} {e : Ev} (rich : Option Txt) (h : phInert c e = true) :
    siStep c (.outer rich true) e = .cont (.outer rich true) := by
  delta siStep
  cases e with
  | start n a =>
    have h : n.loc ≠ "r" ∧ n.loc ≠ "rPh" := of_decide_eq_true h
    exact (if_neg h.1).trans ((if_neg h.2).trans (if_neg fun ht => Bool.noConfusion ht.2))
  | end_ n =>
    have h : n ≠ c ∧ n.loc ≠ "rPh" := of_decide_eq_true h
    exact (if_neg h.1).trans (if_neg h.2)
  | _ => rfl

theorem siStep_noClosing {c : Name} {e : Ev} (d : Nat) (v : Txt) (h : noClosing c e = true) :
    siStep c (.skip d v) e = .cont (.skip d v) := by
  delta siStep
  cases e with
  | start n a => exact if_neg (of_decide_eq_true h)
  | end_ n => exact if_neg (of_decide_eq_true h)
  | _ => rfl

theorem siStep_end_rPh {c : Name} (rich : Option Txt) (ph : Bool) {p : Option String} (h : (⟨p, "rPh"⟩ : Name) ≠ c) :
    siStep c (.outer rich ph) (.end_ ⟨p, "rPh"⟩) = .cont (.outer rich false) := by
  delta siStep
  exact (if_neg h).trans (if_pos rfl)

section
variable (c : Name) (rich : Option Txt) (ph : Bool)

theorem siStep_chunk (tn : Name) (acc : Txt) (k : Chunk) :
    siStep c (.inT rich ph tn acc) k.ev = .cont (.inT rich ph tn (acc ++ k.txt)) := by
  cases k with
  | text s | cdata s => rfl
  | noise => rw [Chunk.txt, List.append_nil]; rfl

theorem siStep_start_r (p : Option String) (a : List (String × Txt)) :
    siStep c (.outer rich ph) (.start ⟨p, "r"⟩ a) = .cont (.outer (some (rich.getD [])) ph) := by
  delta siStep
  exact if_pos rfl

theorem siStep_start_rPh (p : Option String) (a : List (String × Txt)) :
    siStep c (.outer rich ph) (.start ⟨p, "rPh"⟩ a) = .cont (.outer rich true) := by
  delta siStep
  exact (if_neg (by decide : "rPh" ≠ "r")).trans (if_pos rfl)

theorem siStep_start_t {n : Name} (hn : n.loc = "t") (a : List (String × Txt)) :
    siStep c (.outer rich false) (.start n a) = .cont (.inT rich false n []) := by
  delta siStep
  exact (if_neg (hn ▸ (by decide : "t" ≠ "r"))).trans ((if_neg (hn ▸ (by decide : "t" ≠ "rPh"))).trans (if_pos ⟨hn, rfl⟩))

theorem siStep_end_t_rich (s : Txt) (tn : Name) (acc : Txt) :
    siStep c (.inT (some s) ph tn acc) (.end_ tn) = .cont (.outer (some (s ++ acc)) ph) := by
  delta siStep
  exact if_pos rfl

theorem siStep_end_t_plain (tn : Name) (acc : Txt) :
    siStep c (.inT none ph tn acc) (.end_ tn) = .cont (.skip 0 acc) := by
  delta siStep
  exact if_pos rfl

theorem siStep_end_closing : siStep c (.outer rich ph) (.end_ c) = .done rich := by
  delta siStep
  exact if_pos rfl

theorem siStep_skip_end (v : Txt) : siStep c (.skip 0 v) (.end_ c) = .done (some v) := by
  delta siStep
  exact (if_pos rfl).trans (if_pos rfl)

/-- every arm of `siStep` is a cascade of `if`s over `cont` and `done` -/
theorem siStep_isPanic : ∀ (m : SiMode) (e : Ev), (siStep c m e).isPanic = false
  | .outer _ _, .start _ _ => Step.isPanic_ite rfl (Step.isPanic_ite rfl (Step.isPanic_ite rfl rfl))
  | .outer _ _, .end_ _ => Step.isPanic_ite rfl (Step.isPanic_ite rfl rfl)
  | .outer _ _, .text _ | .outer _ _, .cdata _ | .outer _ _, .other => rfl
  | .inT _ _ _ _, .start _ _ | .inT _ _ _ _, .text _ | .inT _ _ _ _, .cdata _ | .inT _ _ _ _, .other => rfl
  | .inT (some _) _ _ _, .end_ _ | .inT none _ _ _, .end_ _ => Step.isPanic_ite rfl rfl
  | .skip _ _, .start _ _ => Step.isPanic_ite rfl rfl
  | .skip _ _, .end_ _ => Step.isPanic_ite (Step.isPanic_ite rfl rfl) rfl
  | .skip _ _, .text _ | .skip _ _, .cdata _ | .skip _ _, .other => rfl

end

section
variable (acc : List Txt)

theorem runSst_skip {e : Ev} (r : List Ev) (h : gapEv e = true) :
    runSst .top acc (e :: r) = runSst .top acc r := by
  cases e with
  | start n a => rw [runSst, if_neg (of_decide_eq_true h)]
  | end_ n => rw [runSst, if_neg (of_decide_eq_true h)]
  | _ => rfl

theorem runSst_start_si {n : Name} (hn : n.loc = "si") (a : List (String × Txt)) (r : List Ev) :
    runSst .top acc (.start n a :: r) = runSst (.inSi n (.outer none false)) acc r := by
  rw [runSst]
  exact if_pos hn

theorem runSst_end_sst (p : Option String) (r : List Ev) :
    runSst .top acc (.end_ ⟨p, "sst"⟩ :: r) = .ok acc := by
  rw [runSst]
  exact if_pos rfl

theorem runSst_inSi (c : Name) (m : SiMode) (evs : List Ev) :
    runSst (.inSi c m) acc evs =
      match runLoop (siStep c) siEof m evs with
      | .ok (v, rest) => runSst .top (acc ++ [v.getD []]) rest
      | .err x => .err x
      | .panic x => .panic x
      | .outOfFuel => .outOfFuel := by
  induction evs generalizing m with
  | nil => rfl
  | cons e es ih =>
    rw [runSst, runLoop]
    cases siStep c m e with
    | cont m' => exact ih m'
    | _ => rfl


theorem runSst_returns (m : SstMode) (evs : List Ev) : (runSst m acc evs).Returns := by
  induction evs generalizing m acc with
  | nil => cases m <;> exact .err _
  | cons e es ih =>
    cases m with
    | top =>
      cases e with
      | start n a => exact .ite (ih _ _) (ih _ _)
      | end_ n => exact .ite (.ok _) (ih _ _)
      | _ => exact ih _ _
    | inSi c m =>
      have hp := siStep_isPanic c m e
      rw [runSst]
      generalize siStep c m e = s at hp ⊢
      cases s with
      | cont m' | done v => exact ih _ _
      | fail x => exact .err _
      | panic x => cases hp

end

/-- the error of the two `[]` arms of `runOds` (the model spells them out instead of naming the function) -/
def odsEof : OdsMode → String
  | .normal .. => "Eof(table:table-cell)"
  | .annot .. => "Eof(office:annotation)"

theorem runOds_eq (m : OdsMode) (evs : List Ev) : runOds m evs = runLoop odsStep odsEof m evs := by
  induction evs generalizing m with
  | nil => cases m <;> rfl
  | cons e r ih => cases m <;> (rw [runOds, runLoop]; cases odsStep _ e <;> simp only [ih])

section
variable (s : Txt) (first : Bool)

theorem odsStep_chunk (k : Chunk) :
    odsStep (.normal s first) k.ev = .cont (.normal (s ++ k.txt) first) := by
  cases k with
  | text t | cdata t => rfl
  | noise => rw [Chunk.txt, List.append_nil]; rfl

theorem odsStep_mark (e : Ev) (h : odsMark e = true) :
    odsStep (.normal s first) e = .cont (.normal s first) := by
  delta odsStep
  cases e with
  | start n a =>
    have h : n ≠ annotation ∧ n ≠ textP ∧ n ≠ textS := of_decide_eq_true h
    exact (if_neg h.1).trans ((if_neg h.2.1).trans (if_neg h.2.2))
  | end_ n =>
    have h : n ≠ tableCell ∧ n ≠ coveredCell := of_decide_eq_true h
    exact if_neg fun ho => ho.elim h.1 h.2
  | other => rfl
  | text | cdata => cases h

theorem odsStep_start_p (a : List (String × Txt)) :
    odsStep (.normal s first) (.start textP a) = .cont (.normal (if first then s else s ++ [10]) false) := by
  delta odsStep
  cases first <;> exact (if_neg (by decide : textP ≠ annotation)).trans (if_pos rfl)

theorem odsStep_spaces {attrs : List (String × Txt)} {c : Txt} {k : Int}
    (hc : getAttr "text:c" attrs = some c) (hk : parseI32 c = some k) :
    odsStep (.normal s first) (.start textS attrs) = .cont (.normal (s ++ List.replicate k.toNat 32) first) := by
  delta odsStep
  refine (if_neg (by decide : textS ≠ annotation)).trans ((if_neg (by decide : textS ≠ textP)).trans ((if_pos rfl).trans ?_))
  rw [hc]
  dsimp only
  rw [hk]

theorem odsStep_space1 {attrs : List (String × Txt)} (hc : getAttr "text:c" attrs = none) :
    odsStep (.normal s first) (.start textS attrs) = .cont (.normal (s ++ [32]) first) := by
  delta odsStep
  refine (if_neg (by decide : textS ≠ annotation)).trans ((if_neg (by decide : textS ≠ textP)).trans ((if_pos rfl).trans ?_))
  rw [hc]

theorem odsStep_start_annot (a : List (String × Txt)) :
    odsStep (.normal s first) (.start annotation a) = .cont (.annot s first) := by
  delta odsStep
  exact if_pos rfl

theorem odsStep_annot {e : Ev} (h : decide (e ≠ .end_ annotation) = true) :
    odsStep (.annot s first) e = .cont (.annot s first) := by
  cases e with
  | end_ n =>
    delta odsStep
    exact if_neg fun hn => of_decide_eq_true h (congrArg Ev.end_ hn)
  | _ => rfl

theorem odsStep_end_annot : odsStep (.annot s first) (.end_ annotation) = .cont (.normal s first) := by
  delta odsStep
  exact if_pos rfl

theorem odsStep_end_cell (covered : Bool) :
    odsStep (.normal s first) (.end_ (if covered then coveredCell else tableCell)) = .done s := by
  delta odsStep
  cases covered
  · exact if_pos (Or.inl rfl)
  · exact if_pos (Or.inr rfl)

end

theorem odsStep_isPanic (m : OdsMode) (e : Ev) : (odsStep m e).isPanic = false := by
  delta odsStep
  cases m <;> cases e <;> simp only [apply_ite Step.isPanic]
  case normal.start s first n attrs =>
    cases getAttr "text:c" attrs with
    | none => simp only [Step.isPanic, ite_self]
    | some c => cases h : parseI32 c <;> simp only [h, Step.isPanic, ite_self]
  all_goals simp only [Step.isPanic, ite_self]

section
variable (t : Option String) (ss : List Txt)

theorem runCell_eq (m : CellMode) (evs : List Ev) :
    runCell t ss m evs = runLoop (cellStep t ss) cellEof m evs := by
  induction evs generalizing m with
  | nil => rfl
  | cons e r ih => rw [runCell, runLoop]; cases cellStep t ss m e <;> simp only [ih]

theorem cellStep_chunk (vn : Name) (acc : Txt) (k : Chunk) :
    cellStep t ss (.inV vn acc) k.ev = .cont (.inV vn (acc ++ k.txt)) := by
  cases k with
  | text s | cdata s => rfl
  | noise => rw [Chunk.txt, List.append_nil]; rfl

theorem cellStep_start_v (val : CellVal) (vp : Option String) (a : List (String × Txt)) :
    cellStep t ss (.inC val) (.start ⟨vp, "v"⟩ a) = .cont (.inV ⟨vp, "v"⟩ []) := by
  delta cellStep
  exact (if_neg (by decide : "v" ≠ "is")).trans (if_pos rfl)

theorem cellStep_start_f (val : CellVal) {fn : Name} (hf : fn.loc = "f")
    (a : List (String × Txt)) : cellStep t ss (.inC val) (.start fn a) = .cont (.inF fn 0) := by
  delta cellStep
  exact (if_neg (hf ▸ (by decide : "f" ≠ "is"))).trans ((if_neg (hf ▸ (by decide : "f" ≠ "v"))).trans (if_pos hf))

theorem cellStep_start_is (val : CellVal) (ip : Option String) (a : List (String × Txt)) :
    cellStep t ss (.inC val) (.start ⟨ip, "is"⟩ a) = .cont (.inIs ⟨ip, "is"⟩ (.outer none false)) := by
  delta cellStep
  exact if_pos rfl

theorem cellStep_inIs (c : Name) (m : SiMode) (e : Ev) :
    cellStep t ss (.inIs c m) e =
      match siStep c m e with
      | .cont m' => .cont (.inIs c m')
      | .done v => .cont (.inC (CellVal.ofOpt v))
      | .fail x => .fail x
      | .panic x => .panic x := by
  delta cellStep
  rfl

theorem cellStep_end_v (vn : Name) (acc : Txt) :
    cellStep t ss (.inV vn acc) (.end_ vn) = readV t ss acc := by
  delta cellStep
  exact if_pos rfl

/-- Inside `<f>` at nesting depth 0 only, like `cellStep_end_f` below: the property's fragments hold no nested `<f>`
    (`siStep_noClosing` holds at any depth and is stated so; it too is used at depth 0 only). -/
theorem cellStep_noClosing {fn : Name} {e : Ev} (h : noClosing fn e = true) :
    cellStep t ss (.inF fn 0) e = .cont (.inF fn 0) := by
  delta cellStep
  cases e with
  | start n a => exact if_neg (of_decide_eq_true h)
  | end_ n => exact if_neg (of_decide_eq_true h)
  | _ => rfl

theorem cellStep_end_f (fn : Name) :
    cellStep t ss (.inF fn 0) (.end_ fn) = .cont (.inC .empty) := by
  delta cellStep
  exact (if_pos rfl).trans (if_pos rfl)

theorem cellStep_end_c (val : CellVal) (cp : Option String) :
    cellStep t ss (.inC val) (.end_ ⟨cp, "c"⟩) = .done val := by
  delta cellStep
  exact if_pos rfl

theorem readV_isPanic (v : Txt) : (readV t ss v).isPanic = false := by
  unfold readV
  split
  · dsimp only
    split <;> rfl
  all_goals rfl

theorem cellStep_isPanic (m : CellMode) (e : Ev) :
    (cellStep t ss m e).isPanic = false := by
  cases m with
  | inIs c m =>
    have := siStep_isPanic c m e
    rw [cellStep_inIs]
    generalize siStep c m e = s at this ⊢
    cases s with
    | panic x => cases this
    | _ => rfl
  | _ =>
    delta cellStep
    cases e <;> simp only [apply_ite Step.isPanic, readV_isPanic] <;> simp only [Step.isPanic, ite_self]

end

/-- the error of the three `[]` arms of `runFmla` -/
def fmlaEof : FmlaMode → String
  | .inC _ => "XmlEof(c)"
  | .skip .. => "Xml(missing-end)"
  | .inF .. => "XmlEof(f)"

theorem runFmla_eq (m : FmlaMode) (evs : List Ev) : runFmla m evs = runLoop fmlaStep fmlaEof m evs := by
  induction evs generalizing m with
  | nil => cases m <;> rfl
  | cons e r ih => cases m <;> (rw [runFmla, runLoop]; cases fmlaStep _ e <;> simp only [ih])

theorem fmlaStep_chunk (fn : Name) (val : Option Txt) (acc : Txt) (k : Chunk) :
    fmlaStep (.inF fn acc val) k.ev = .cont (.inF fn (acc ++ k.txt) val) := by
  cases k with
  | text s | cdata s => rfl
  | noise => rw [Chunk.txt, List.append_nil]; rfl

theorem fmlaStep_start_f (val : Option Txt) (fp : Option String) (a : List (String × Txt)) :
    fmlaStep (.inC val) (.start ⟨fp, "f"⟩ a) = .cont (.inF ⟨fp, "f"⟩ [] val) := by
  delta fmlaStep
  exact (if_neg (by decide : ¬ ("f" = "is" ∨ "f" = "v"))).trans (if_pos rfl)

theorem fmlaStep_end_f (fn : Name) (acc : Txt) (val : Option Txt) :
    fmlaStep (.inF fn acc val) (.end_ fn) = .cont (.inC (some acc)) := by
  delta fmlaStep
  exact if_pos rfl

theorem fmlaStep_start_skip (val : Option Txt) {n : Name} (hn : n.loc = "is" ∨ n.loc = "v") (a : List (String × Txt)) :
    fmlaStep (.inC val) (.start n a) = .cont (.skip n 0 val) := by
  delta fmlaStep
  exact if_pos hn

/-- at nesting depth 0 only, like `fmlaStep_end_skip` below (cf. `cellStep_noClosing`) -/
theorem fmlaStep_noClosing (val : Option Txt) {n : Name} {e : Ev} (h : noClosing n e = true) :
    fmlaStep (.skip n 0 val) e = .cont (.skip n 0 val) := by
  delta fmlaStep
  cases e with
  | start m a => exact if_neg (of_decide_eq_true h)
  | end_ m => exact if_neg (of_decide_eq_true h)
  | _ => rfl

theorem fmlaStep_end_skip (n : Name) (val : Option Txt) : fmlaStep (.skip n 0 val) (.end_ n) = .cont (.inC val) := by
  delta fmlaStep
  exact (if_pos rfl).trans (if_pos rfl)

theorem fmlaStep_end_c (val : Option Txt) (cp : Option String) : fmlaStep (.inC val) (.end_ ⟨cp, "c"⟩) = .done (val.getD []) := by
  delta fmlaStep
  exact if_pos rfl

end XmlText
