import CalVerif.Spec.MetadataEnc
import CalVerif.Lemmas.Xlsb
import CalVerif.Lemmas.ListLoops
/-! xlsb: BrtBundleSh, BrtName, BrtExternSheet and the two loops of `read_workbook` on the output of their encoders. -/
open Meta MetaEnc

namespace MetaLemmas

theorem xlsbVis_lookup (v : SheetVisible) : xlsbVisCode v < 4294967296 ∧ Gen.xlsbVisTable.lookup (xlsbVisCode v) = some v := by
  cases v <;> decide

theorem wideBytes_length (us : List Nat) : (Xlsb.wideBytes us).length = 4 + 2 * us.length := by
  rw [Xlsb.wideBytes, List.length_append, Xlsb.le32_length, Xlsb.unitsBytes_length]

theorem wideText_wideBytes (us : List Nat) (hl : us.length < 4294967296) (h : ∀ u ∈ us, u < 65536) (rest : Bytes) :
    wideText (Xlsb.wideBytes us ++ rest) = .ok (Biff.decodeUtf16 us, 4 + us.length * 2) := by
  rw [wideText, Xlsb.wideStr_wideBytes us hl h rest]

theorem bundleSh_encoded (rels : List (Text × String)) (s : XlsbSheet) (hs : s.ok rels) :
    bundleSh rels s.payload = .ok (some (s.decoded rels)) := by
  obtain ⟨_, h2, h3, h4, h5, target, kind, hl, hk⟩ := hs
  obtain ⟨hv, hvis⟩ := xlsbVis_lookup s.vis
  have hlen : s.payload.length = 16 + 2 * s.relUnits.length + 2 * s.nameUnits.length := by
    simp only [XlsbSheet.payload, encodeBundleSh, List.length_append, Xlsb.le32_length, wideBytes_length]; omega
  -- the payload field by field: three 4-byte fields (list cells), the relationship id, the name
  have hsh : s.payload = Xlsb.le32 (xlsbVisCode s.vis) ++ (Xlsb.le32 s.tabId ++ (Xlsb.le32 s.relUnits.length ++
      (Xlsb.unitsBytes s.relUnits ++ Xlsb.wideBytes s.nameUnits))) := by
    simp only [XlsbSheet.payload, encodeBundleSh, Xlsb.wideBytes, List.append_assoc]
  have hu : Xlsb.u32le s.payload = xlsbVisCode s.vis := by rw [hsh]; exact Xlsb.u32le_le32 _ hv _
  have hrel : u32At s.payload 8 = s.relUnits.length := by rw [u32At, hsh]; exact Xlsb.u32le_le32 _ (by omega) _
  have hd12 : s.payload.drop 12 = Xlsb.unitsBytes s.relUnits ++ Xlsb.wideBytes s.nameUnits := by rw [hsh]; rfl
  have hul : (Xlsb.unitsBytes s.relUnits).length = s.relUnits.length * 2 := by rw [Xlsb.unitsBytes_length, Nat.mul_comm]
  have hdn : s.payload.drop (12 + s.relUnits.length * 2) = Xlsb.wideBytes s.nameUnits := by
    rw [← List.drop_drop, hd12, List.drop_left' hul]
  have hw := wideText_wideBytes s.nameUnits (by omega) h5 []
  rw [List.append_nil] at hw
  have hl12 : ¬ (s.payload.length < 12) := by omega
  have hl12' : ¬ (s.payload.length < 12 + s.relUnits.length * 2) := by omega
  have hne : ¬ (s.relUnits.length = 0xFFFFFFFF) := by omega
  -- the last three unfold the right-hand side, so that the relationship lookup `hl` rewrites both sides
  unfold bundleSh
  simp only [hl12, if_false, hrel, hne, hl12', hd12, List.take_left' hul, Xlsb.units_unitsBytes s.relUnits h4, hl, hu, hvis, hk,
    hdn, hw, XlsbSheet.decoded, XlsbSheet.pathOf, Option.getD_some]

def wrecId : WRec → Nat
  | .sheet _ _ _ => 0x009C
  | .wbprop _ _ _ => 0x0099
  | .other id _ _ _ => id

theorem loop1_frame (rels : List (Text × String)) (id : Nat) (hid : id < 16384) (p : Bytes) (hp : p.length < 268435456)
    (w : Bool) (l : Nat) (fuel : Nat) (rest : Bytes) (st : XlsbSt) :
    xlsbLoop1 rels (fuel + 1) (Xlsb.frame id p w l ++ rest) st =
      if id = 0x0099 then
        if p.isEmpty then .err (unrec "BrtWbProp:len" "0")
        else xlsbLoop1 rels fuel rest { st with is1904 := byteAt p 0 % 2 = 1 }
      else if id = 0x009C then
        match bundleSh rels p with
        | .ok (some s) => xlsbLoop1 rels fuel rest { st with sheets := st.sheets ++ [s] }
        | .ok none => xlsbLoop1 rels fuel rest st
        | .err e => .err e
        | .panic e => .panic e
        | .outOfFuel => .outOfFuel
      else if id = 0x0090 then .ok (st, rest)
      else xlsbLoop1 rels fuel rest st := by
  unfold xlsbLoop1
  rw [xlsbLoop1With, Xlsb.readType_frame id hid]
  simp only [Xlsb.fillBuffer_frame [] p hp, skipPayload, if_true]
  rfl

theorem loop1_step (rels : List (Text × String)) (r : WRec) (hr : r.ok rels) (fuel : Nat) (rest : Bytes) (st : XlsbSt) :
    xlsbLoop1 rels (fuel + 1) (r.bytes ++ rest) st = xlsbLoop1 rels fuel rest (applyW rels st r) := by
  cases r with
  | sheet s w l =>
    rw [WRec.bytes, loop1_frame rels _ (by decide) _ hr.2, bundleSh_encoded rels s hr.1]
    rfl
  | wbprop f w l =>
    -- the BrtWbProp payload has 12 bytes (by computation); its first byte is `f % 256`
    rw [WRec.bytes, loop1_frame rels _ (by decide) _ (Nat.lt_of_le_of_lt (Nat.le_refl 12) (by decide))]
    exact congrArg (fun b => xlsbLoop1 rels fuel rest { st with is1904 := b })
      (by rw [show byteAt (encodeWbProp f) 0 = f % 256 % 256 from UInt8.toNat_ofNat', show f % 256 % 256 % 2 = f % 2 by omega])
  | other id p w l =>
    obtain ⟨h1, h2, h3, h4, h5⟩ := hr
    rw [WRec.bytes, loop1_frame rels id h1 p h5, if_neg h2, if_neg h3, if_neg h4]
    rfl

theorem loop1_recs (rels : List (Text × String)) : ∀ (recs : List WRec), (∀ r ∈ recs, r.ok rels) → ∀ (fuel : Nat) (rest : Bytes) (st : XlsbSt),
    xlsbLoop1 rels (fuel + recs.length) (recs.flatMap WRec.bytes ++ rest) st = xlsbLoop1 rels fuel rest (recs.foldl (applyW rels) st)
  | [], _, _, _, _ => rfl
  | r :: rs, hall, fuel, rest, st => by
    rw [List.flatMap_cons, List.append_assoc, List.length_cons, ← Nat.add_assoc, loop1_step rels r (hall r List.mem_cons_self),
      loop1_recs rels rs (fun x hx => hall x (List.mem_cons_of_mem _ hx))]
    rfl

theorem loop1_encoded (rels : List (Text × String)) (recs : List WRec) (hall : ∀ r ∈ recs, r.ok rels)
    (ew : Bool) (el : Nat) (tail : Bytes) (fuel : Nat) :
    xlsbLoop1 rels (fuel + 1 + recs.length) (encodeWorkbookBin recs ew el tail) {} = .ok (recs.foldl (applyW rels) {}, tail) := by
  unfold encodeWorkbookBin
  rw [loop1_recs rels recs hall, loop1_frame rels _ (by decide) [] (by decide)]
  rfl

theorem foldl_applyW (rels : List (Text × String)) (recs : List WRec) : ∀ (st : XlsbSt),
    recs.foldl (applyW rels) st =
      ⟨st.sheets ++ (declaredW recs).map (XlsbSheet.decoded rels),
       recs.foldl flagStep st.is1904⟩ := by
  induction recs with
  | nil => intro st; simp [declaredW]
  | cons r rs ih =>
    intro st
    rw [List.foldl_cons, ih]
    cases r <;> simp [applyW, declaredW, flagStep, List.append_assoc]

theorem encodeWorkbookBin_fuel (recs : List WRec) (ew : Bool) (el : Nat) (tail : Bytes) :
    ∃ fuel, (encodeWorkbookBin recs ew el tail).length + 1 = fuel + 1 + recs.length := by
  have h1 := ListLoops.length_le_flatMap WRec.bytes (fun r => by cases r <;> exact Nat.lt_of_lt_of_le (by decide) (Xlsb.frame_length_ge ..)) recs
  have h2 : (encodeWorkbookBin recs ew el tail).length = (recs.flatMap WRec.bytes).length + ((Xlsb.frame 0x0090 [] ew el).length + tail.length) := by
    simp only [encodeWorkbookBin, List.length_append]
  exact ⟨(encodeWorkbookBin recs ew el tail).length - recs.length, by omega⟩

theorem afterNames_lt (t : Nat) (h : isAfterNames t = true) : t < 16384 ∧ t ≠ 0x016A ∧ t ≠ 0x0027 := by
  simp only [isAfterNames, Bool.or_eq_true, decide_eq_true_eq] at h
  omega

theorem xtiBytes32_length (x : Nat × Nat × Nat) : (xtiBytes32 x).length = 12 := by
  simp [xtiBytes32, Xlsb.le32_length]

theorem externName_xti (sheets : List (Sheet Text × List Char)) (x : Nat × Nat × Nat) (rest : Bytes)
    (h : x.1 < 4294967296 ∧ x.2.1 < 4294967296 ∧ x.2.2 < 4294967296) :
    externName sheets ((xtiBytes32 x ++ rest).take 12) = xtiName sheets x := by
  have ht : (xtiBytes32 x ++ rest).take 12 = xtiBytes32 x := by
    rw [List.take_left' (xtiBytes32_length x)]
  have hu : u32At (xtiBytes32 x) 4 = x.2.1 := by
    unfold u32At xtiBytes32
    rw [List.drop_left' (Xlsb.le32_length _)]
    exact Xlsb.u32le_le32 _ h.2.1 _
  rw [ht]
  unfold externName xtiName
  simp only [hu]

theorem externLoop_encoded (sheets : List (Sheet Text × List Char)) : ∀ (x : List (Nat × Nat × Nat)),
    (∀ e ∈ x, e.1 < 4294967296 ∧ e.2.1 < 4294967296 ∧ e.2.2 < 4294967296) →
    externLoop sheets x.length (x.flatMap xtiBytes32) = .ok (x.map (xtiName sheets))
  | [], _ => rfl
  | e :: es, hall => by
    have ih := externLoop_encoded sheets es (fun y hy => hall y (List.mem_cons_of_mem _ hy))
    have hne : (xtiBytes32 e ++ es.flatMap xtiBytes32).isEmpty = false := rfl
    have hl8 : ¬ ((xtiBytes32 e ++ es.flatMap xtiBytes32).length < 8) := by
      rw [List.length_append, xtiBytes32_length]; omega
    rw [List.flatMap_cons, List.length_cons, externLoop]
    simp only [hne, hl8, if_false, List.drop_left' (xtiBytes32_length e), ih, externName_xti sheets e _ (hall e List.mem_cons_self),
      Bool.false_eq_true, List.map_cons]

theorem brtName_encoded (n : XName) (h3 : n.nameUnits.length < 2147483648) (h4 : ∀ u ∈ n.nameUnits, u < 65536)
    (h5 : n.payload.length < 268435456) :
    brtName n.payload n.payload.length = .ok (Biff.decodeUtf16 n.nameUnits, n.rgce) := by
  have hlenp : n.payload.length = 9 + (4 + 2 * n.nameUnits.length) + 4 + n.rgce.length + n.extra.length := by
    simp only [XName.payload, List.length_append, Xlsb.le32_length, wideBytes_length, List.length_cons, List.length_nil]; omega
  -- nine fixed bytes (list cells), then the name, the formula length, the formula
  have hd9 : n.payload.drop 9 = Xlsb.wideBytes n.nameUnits ++ (Xlsb.le32 n.rgce.length ++ (n.rgce ++ n.extra)) := rfl
  have hw := wideText_wideBytes n.nameUnits (by omega) h4 (Xlsb.le32 n.rgce.length ++ (n.rgce ++ n.extra))
  have hdl : n.payload.drop (9 + (4 + n.nameUnits.length * 2)) = Xlsb.le32 n.rgce.length ++ (n.rgce ++ n.extra) := by
    rw [← List.drop_drop, hd9, List.drop_left' (by rw [wideBytes_length]; omega)]
  have hu : u32At n.payload (9 + (4 + n.nameUnits.length * 2)) = n.rgce.length := by
    rw [u32At, hdl]; exact Xlsb.u32le_le32 _ (by omega) _
  have hdr : (n.payload.drop (13 + (4 + n.nameUnits.length * 2))).take n.rgce.length = n.rgce := by
    rw [show 13 + (4 + n.nameUnits.length * 2) = (9 + (4 + n.nameUnits.length * 2)) + 4 by omega, ← List.drop_drop, hdl,
      List.drop_left' (Xlsb.le32_length _), List.take_left' rfl]
  have h9 : ¬ (n.payload.length < 9) := by omega
  have hl1 : ¬ (n.payload.length < 9 + (4 + n.nameUnits.length * 2) + 4) := by omega
  have hl2 : ¬ (n.payload.length < 13 + (4 + n.nameUnits.length * 2) + n.rgce.length) := by omega
  unfold brtName
  simp only [h9, if_false, List.take_length, hd9, hw, hl1, hu, hl2, hdr]

/-- the buffer argument of the second loop is dead: `Xlsb.fillBuffer` clears the buffer it is handed (`Xlsb.fillBuffer_buf`) -/
theorem loop2_buf (pf : Bytes → List Text → List (Text × Text) → Res Text) (sheets : List (Sheet Text × List Char))
    (fuel : Nat) (bs buf : Bytes) (ext : List Text) (names : List (Text × Text)) :
    xlsbLoop2With true pf sheets fuel bs buf ext names = xlsbLoop2With true pf sheets fuel bs [] ext names := by
  cases fuel <;> rfl

/-- the buffer a record leaves behind is not looked at again (`loop2_buf`) -/
theorem loop2_frame (pf : Bytes → List Text → List (Text × Text) → Res Text) (sheets : List (Sheet Text × List Char))
    (id : Nat) (hid : id < 16384) (p : Bytes) (hp : p.length < 268435456) (w : Bool) (l : Nat) (fuel : Nat) (rest buf : Bytes)
    (ext : List Text) (names : List (Text × Text)) :
    xlsbLoop2With true pf sheets (fuel + 1) (Xlsb.frame id p w l ++ rest) buf ext names =
      if id = 0x016A then
        if p.length < 4 then .err (unrec "BrtExternSheet:len" (toString p.length))
        else
          match externLoop sheets (Xlsb.u32le p) (p.drop 4) with
          | .ok ext' => xlsbLoop2With true pf sheets fuel rest [] ext' names
          | .err e => .err e
          | .panic e => .panic e
          | .outOfFuel => .outOfFuel
      else if id = 0x0027 then
        match brtName p p.length with
        | .ok (name, rgce) =>
          match pf rgce ext names with
          | .ok f => xlsbLoop2With true pf sheets fuel rest [] ext (names ++ [(name, f)])
          | .err e => .err e
          | .panic e => .panic e
          | .outOfFuel => .outOfFuel
        | .err e => .err e
        | .panic e => .panic e
        | .outOfFuel => .outOfFuel
      else if isAfterNames id then .ok names
      else xlsbLoop2With true pf sheets fuel rest [] ext names := by
  rw [xlsbLoop2With, Xlsb.readType_frame id hid]
  simp only [Xlsb.fillBuffer_frame buf p hp, if_true, loop2_buf pf sheets fuel rest p]
  rfl

theorem pfValue_ok (pf : Bytes → List Text → List (Text × Text) → Res Text) (rgce : Bytes) (st : NSt)
    (h : (pf rgce st.1 st.2).isOk = true) : pf rgce st.1 st.2 = .ok (pfValue pf rgce st) := by
  unfold pfValue
  cases hp : pf rgce st.1 st.2 <;> first | rfl | (rw [hp] at h; cases h)

theorem loop2_step (pf : Bytes → List Text → List (Text × Text) → Res Text) (sheets : List (Sheet Text × List Char))
    (r : NRec) (st : NSt) (hr : r.ok pf st) (fuel : Nat) (rest : Bytes) :
    xlsbLoop2With true pf sheets (fuel + 1) (r.bytes ++ rest) [] st.1 st.2 =
      xlsbLoop2With true pf sheets fuel rest [] (applyN pf sheets st r).1 (applyN pf sheets st r).2 := by
  cases r with
  | extern x w l =>
    obtain ⟨h1, h2, h3⟩ := hr
    have hl4 : ¬ ((externPayload x).length < 4) := Nat.not_lt.mpr (Nat.le_add_left 4 _)
    have hd : (externPayload x).drop 4 = x.flatMap xtiBytes32 := rfl
    rw [NRec.bytes, loop2_frame pf sheets _ (by decide) _ h3, if_pos rfl, if_neg hl4,
      show Xlsb.u32le (externPayload x) = x.length from Xlsb.u32le_le32 _ h1 _, hd, externLoop_encoded sheets x h2]
    rfl
  | name n w l =>
    obtain ⟨_, _, h3, h4, h5, h6⟩ := hr
    rw [NRec.bytes, loop2_frame pf sheets _ (by decide) _ h5, if_neg (by decide), if_pos rfl, brtName_encoded n h3 h4 h5]
    dsimp only
    rw [pfValue_ok pf n.rgce st h6]
    rfl
  | other id p w l =>
    obtain ⟨h1, h2, h3, h4, h5⟩ := hr
    rw [NRec.bytes, loop2_frame pf sheets id h1 p h5, if_neg h2, if_neg h3, h4, if_neg Bool.false_ne_true]
    rfl

theorem loop2_recs (pf : Bytes → List Text → List (Text × Text) → Res Text) (sheets : List (Sheet Text × List Char)) :
    ∀ (recs : List NRec) (st : NSt), namesOk pf sheets st recs → ∀ (fuel : Nat) (rest : Bytes),
    xlsbLoop2With true pf sheets (fuel + recs.length) (recs.flatMap NRec.bytes ++ rest) [] st.1 st.2 =
      xlsbLoop2With true pf sheets fuel rest [] (recs.foldl (applyN pf sheets) st).1 (recs.foldl (applyN pf sheets) st).2
  | [], _, _, _, _ => rfl
  | r :: rs, st, ⟨hr, hrs⟩, fuel, rest => by
    rw [List.flatMap_cons, List.append_assoc, List.length_cons, ← Nat.add_assoc, loop2_step pf sheets r st hr,
      loop2_recs pf sheets rs _ hrs]
    rfl

theorem loop2_encoded (pf : Bytes → List Text → List (Text × Text) → Res Text) (sheets : List (Sheet Text × List Char))
    (recs : List NRec) (hok : namesOk pf sheets ([], []) recs) (t : Nat) (ht : isAfterNames t = true) (tw : Bool) (tl : Nat) (rest : Bytes) :
    xlsbLoop2With true pf sheets ((recs.flatMap NRec.bytes ++ (Xlsb.frame t [] tw tl ++ rest)).length + 1)
      (recs.flatMap NRec.bytes ++ (Xlsb.frame t [] tw tl ++ rest)) [] [] [] =
      .ok (recs.foldl (applyN pf sheets) ([], [])).2 := by
  obtain ⟨ht1, ht2, ht3⟩ := afterNames_lt t ht
  have hlen := ListLoops.length_le_flatMap NRec.bytes
    (fun r => by cases r <;> exact Nat.lt_of_lt_of_le (by decide) (Xlsb.frame_length_ge ..)) recs
  obtain ⟨fuel, hf⟩ : ∃ fuel, (recs.flatMap NRec.bytes ++ (Xlsb.frame t [] tw tl ++ rest)).length + 1 = (fuel + 1) + recs.length :=
    ⟨(recs.flatMap NRec.bytes ++ (Xlsb.frame t [] tw tl ++ rest)).length - recs.length, by rw [List.length_append]; omega⟩
  rw [hf, loop2_recs pf sheets recs ([], []) hok, loop2_frame pf sheets t ht1 [] (by decide), if_neg ht2, if_neg ht3, ht,
    if_pos rfl]

end MetaLemmas

namespace XlsbBook
open MetaLemmas

/-- both loops of `read_workbook` on an encoded `workbook.bin`: the statement of C16's `sheets_in_order_xlsb`, which C03's
    `xlsb_sheet_resolution` needs too (through `XlsbBook.openBook_encoded`; hence the namespace) -/
theorem readWorkbookXlsb_encoded (pf : Bytes → List Text → List (Text × Text) → Res Text) (rels : List (Text × String))
    (recs : List WRec) (hall : ∀ r ∈ recs, r.ok rels) (ew : Bool) (el : Nat)
    (nrecs : List NRec) (hok : namesOk pf ((declaredW recs).map (XlsbSheet.decoded rels)) ([], []) nrecs)
    (t : Nat) (ht : isAfterNames t = true) (tw : Bool) (tl : Nat) (rest : Bytes) :
    readWorkbookXlsb pf rels (encodeWorkbookBin recs ew el (nrecs.flatMap NRec.bytes ++ (Xlsb.frame t [] tw tl ++ rest))) =
      .ok (⟨(declaredW recs).map (fun s => (s.decoded rels).1),
            (nrecs.foldl (applyN pf ((declaredW recs).map (XlsbSheet.decoded rels))) ([], [])).2, flagW recs⟩,
           (declaredW recs).map (fun s => (s.decoded rels).2)) := by
  obtain ⟨fuel, hf⟩ := encodeWorkbookBin_fuel recs ew el (nrecs.flatMap NRec.bytes ++ (Xlsb.frame t [] tw tl ++ rest))
  unfold readWorkbookXlsb readWorkbookXlsbWith
  have h1 := loop1_encoded rels recs hall ew el (nrecs.flatMap NRec.bytes ++ (Xlsb.frame t [] tw tl ++ rest)) fuel
  unfold xlsbLoop1 at h1
  rw [hf, h1]
  simp only
  rw [foldl_applyW]
  simp only [List.nil_append]
  rw [loop2_encoded pf _ nrecs hok t ht tw tl rest]
  simp [flagW, List.map_map, Function.comp_def]

end XlsbBook
