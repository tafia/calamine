import CalVerif.Prim.Utf8
import CalVerif.Lemmas.DivMod
/-! `Prim/Utf8` proves `utf8Decode (utf8Encode l) = some l`; here the converse: the decoder is strict, so a byte
    string that decodes IS the encoding of what it decodes to (used by the xlsb relationship join, C03). -/
namespace Utf8

/-! The radix-64 digits of a number built from them: the arithmetic of `encode ∘ decode`. -/

/-- `n` as `v` with one more digit `x`: the digits of `n` are `x` and, one place up, those of `v` -/
theorem snoc_digit {n : Nat} (v x : Nat) (e : n = v * 64 + x) (h : x < 64) :
    n % 64 = x ∧ n / 64 = v ∧ ∀ b c, 64 * b = c → n / c = v / b := by
  obtain ⟨d, m⟩ := e ▸ DivMod.divmod_mul_add (q := v) h
  exact ⟨m, d, fun b c e => by rw [← e, ← Nat.div_div_eq_div_mul, d]⟩

theorem split3 {n : Nat} (x0 x1 x2 : Nat) (e : n = x0 * 4096 + x1 * 64 + x2) (h1 : x1 < 64) (h2 : x2 < 64) :
    n / 4096 = x0 ∧ n / 64 % 64 = x1 ∧ n % 64 = x2 := by
  -- regrouping the polynomial is linear: `omega` meets no division
  obtain ⟨m, d, up⟩ := snoc_digit (x0 * 64 + x1) x2 (e.trans (by omega)) h2
  obtain ⟨d1, d0, _⟩ := snoc_digit x0 x1 rfl h1
  rw [up 64 4096 rfl, d, d0, d1]
  exact ⟨rfl, rfl, m⟩

theorem split4 {n : Nat} (x0 x1 x2 x3 : Nat) (e : n = x0 * 262144 + x1 * 4096 + x2 * 64 + x3) (h1 : x1 < 64) (h2 : x2 < 64)
    (h3 : x3 < 64) : n / 262144 = x0 ∧ n / 4096 % 64 = x1 ∧ n / 64 % 64 = x2 ∧ n % 64 = x3 := by
  obtain ⟨m, d, up⟩ := snoc_digit (x0 * 4096 + x1 * 64 + x2) x3 (e.trans (by omega)) h3
  obtain ⟨d0, d1, d2⟩ := split3 x0 x1 x2 rfl h1 h2
  rw [up 4096 262144 rfl, up 64 4096 rfl, d, d0, d1, d2]
  exact ⟨rfl, rfl, rfl, m⟩

theorem encodeNat_two (b0 b1 : Nat) (h0 : 0xC2 ≤ b0 ∧ b0 ≤ 0xDF) (h1 : isCont b1 = true) :
    encodeNat ((b0 - 0xC0) * 64 + (b1 - 0x80)) = [b0, b1] := by
  rw [isCont_iff] at h1
  obtain ⟨d1, d0, _⟩ := snoc_digit (b0 - 0xC0) (b1 - 0x80) rfl (by omega)
  unfold encodeNat
  rw [if_neg (by omega), if_pos (by omega), d0, d1, Nat.add_sub_cancel' (by omega), Nat.add_sub_cancel' h1.1]

theorem encodeNat_three (b0 b1 b2 : Nat) (h0 : 0xE0 ≤ b0 ∧ b0 ≤ 0xEF) (h1 : isCont b1 = true) (h2 : isCont b2 = true)
    (hn : 0x800 ≤ (b0 - 0xE0) * 4096 + (b1 - 0x80) * 64 + (b2 - 0x80)) :
    encodeNat ((b0 - 0xE0) * 4096 + (b1 - 0x80) * 64 + (b2 - 0x80)) = [b0, b1, b2] := by
  rw [isCont_iff] at h1 h2
  obtain ⟨d0, d1, d2⟩ := split3 (b0 - 0xE0) (b1 - 0x80) (b2 - 0x80) rfl (by omega) (by omega)
  unfold encodeNat
  rw [if_neg (Nat.not_lt.mpr (Nat.le_trans (by decide) hn)), if_neg (Nat.not_lt.mpr hn), if_pos (by omega), d0, d1, d2,
    Nat.add_sub_cancel' h0.1,
    Nat.add_sub_cancel' h1.1, Nat.add_sub_cancel' h2.1]

theorem encodeNat_four (b0 b1 b2 b3 : Nat) (h0 : 0xF0 ≤ b0 ∧ b0 ≤ 0xF4) (h1 : isCont b1 = true) (h2 : isCont b2 = true)
    (h3 : isCont b3 = true) (hn : 0x10000 ≤ (b0 - 0xF0) * 262144 + (b1 - 0x80) * 4096 + (b2 - 0x80) * 64 + (b3 - 0x80)) :
    encodeNat ((b0 - 0xF0) * 262144 + (b1 - 0x80) * 4096 + (b2 - 0x80) * 64 + (b3 - 0x80)) = [b0, b1, b2, b3] := by
  rw [isCont_iff] at h1 h2 h3
  obtain ⟨d0, d1, d2, d3⟩ := split4 (b0 - 0xF0) (b1 - 0x80) (b2 - 0x80) (b3 - 0x80) rfl (by omega) (by omega) (by omega)
  unfold encodeNat
  rw [if_neg (Nat.not_lt.mpr (Nat.le_trans (by decide) hn)), if_neg (Nat.not_lt.mpr (Nat.le_trans (by decide) hn)),
    if_neg (Nat.not_lt.mpr hn), d0, d1, d2, d3, Nat.add_sub_cancel' h0.1,
    Nat.add_sub_cancel' h1.1, Nat.add_sub_cancel' h2.1, Nat.add_sub_cancel' h3.1]

theorem encode_step {f : Nat} {rest : List Nat} {n : Nat} {cs : List Char} {bs : List Nat}
    (ih : ∀ cs', decodeAux f rest = some cs' → utf8Encode cs' = rest)
    (hn : n < 0xD800 ∨ (0xE000 ≤ n ∧ n < 0x110000)) (he : encodeNat n = bs)
    (h : (decodeAux f rest).map (Char.ofNat n :: ·) = some cs) : utf8Encode cs = bs ++ rest := by
  obtain ⟨cs', hd, rfl⟩ := Option.map_eq_some_iff.mp h
  rw [utf8Encode_cons, ih cs' hd, toNat_ofNat_valid n hn, he]

theorem encode_of_decodeAux (f : Nat) (bs : List Nat) (cs : List Char) (h : decodeAux f bs = some cs) :
    utf8Encode cs = bs := by
  -- the decoder's own case analysis: the four accepting branches hand over their acceptance conditions, the rest return `none`.
  -- Cases are numbered in the order of `decodeAux`'s text: 1 the empty list, 2 no fuel, 3 one byte; per longer form the
  -- accepting branch, its failed test, too few bytes: 4 5 6 (two bytes), 7 8 9 (three), 10 11 12 (four); 13 a bad lead byte.
  -- 2, 5, 6, 8, 9, 11–13 return `none` and fall under `_`.
  fun_induction decodeAux f bs generalizing cs with
  | case1 => cases h; rfl
  | case3 f b0 rest h1 ih => exact encode_step ih (by omega) (by unfold encodeNat; rw [if_pos h1]) h
  | case4 f b0 _ h2 b1 rest' hc ih =>
    exact encode_step ih (by rw [isCont_iff] at hc; omega) (encodeNat_two b0 b1 h2 hc) h
  | case7 f b0 _ _ h3 b1 b2 rest' n hc ih =>
    simp only [Bool.and_eq_true, validScalar, Bool.or_eq_true, decide_eq_true_eq] at hc
    exact encode_step ih hc.2 (encodeNat_three b0 b1 b2 h3 hc.1.1.1 hc.1.1.2 hc.1.2) h
  | case10 f b0 _ _ _ h4 b1 b2 b3 rest' n hc ih =>
    simp only [Bool.and_eq_true, decide_eq_true_eq] at hc
    exact encode_step ih (.inr ⟨by omega, hc.2⟩) (encodeNat_four b0 b1 b2 b3 h4 hc.1.1.1.1 hc.1.1.1.2 hc.1.1.2 hc.1.2) h
  | _ => cases h

end Utf8
