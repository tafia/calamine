import CalVerif.Model.RangeIter
/-! The double-ended iterators of `Model/RangeIter.lean`: a one-step contract for `next` / `next_back`
    (`FrontOk`, `BackOk`), met by `Cells` and `UsedCells`, from which every consumption history splits the
    enumeration into front items, remaining window and back items (`consume_split`); the same for `Rows`. -/

namespace Range

variable {α : Type}

theorem enumFrom_map_yield (w : Nat) : ∀ (i : Nat) (l : List α),
    (enumFrom i l).map (fun p => (p.1 / w, p.1 % w, p.2)) = cellsFrom w i l
  | _, [] => rfl
  | i, v :: rest => by simp [enumFrom, cellsFrom, enumFrom_map_yield w (i + 1) rest]

theorem enumFrom_length : ∀ (i : Nat) (l : List α), (enumFrom i l).length = l.length
  | _, [] => rfl
  | i, _ :: rest => by simp [enumFrom, enumFrom_length (i + 1) rest]

theorem cellsIter_items [Inhabited α] (r : Rng α) : (cellsIter r).rest.map (cellsIter r).yield = cells r := by
  unfold cellsIter cells
  exact enumFrom_map_yield r.width 0 r.inner

theorem dropLast_getLast? {β : Type} (l : List β) (a : β) (h : l.getLast? = some a) : l.dropLast ++ [a] = l := by
  obtain ⟨ys, rfl⟩ := List.getLast?_eq_some_iff.mp h
  simp

theorem split_cons {β : Type} (d : Bool) (o : Option β) (tr : List (Bool × Option β)) (mid : List β) :
    fronts ((d, o) :: tr) ++ mid ++ (backs ((d, o) :: tr)).reverse =
      (if d then o.toList else []) ++ (fronts tr ++ mid ++ (backs tr).reverse) ++ (if d then [] else o.toList) := by
  cases d <;> cases o <;> simp [fronts, backs]

/-- the selected items still in the window -/
def CellIt.pending (sel : Nat × Nat × α → Bool) (it : CellIt α) : List (Nat × Nat × α) :=
  (it.rest.map it.yield).filter sel

/-- one-step contract of a `next`-like function: the selected items of the window are the yielded item followed
    by those of the new window -/
def FrontOk (sel : Nat × Nat × α → Bool) (f : CellIt α → Option (Nat × Nat × α) × CellIt α) : Prop :=
  ∀ it, it.pending sel = (f it).1.toList ++ (f it).2.pending sel

/-- one-step contract of a `next_back`-like function -/
def BackOk (sel : Nat × Nat × α → Bool) (f : CellIt α → Option (Nat × Nat × α) × CellIt α) : Prop :=
  ∀ it, it.pending sel = (f it).2.pending sel ++ (f it).1.toList

theorem consume_split (sel : Nat × Nat × α → Bool) (nx nb : CellIt α → Option (Nat × Nat × α) × CellIt α)
    (hx : FrontOk sel nx) (hb : BackOk sel nb) :
    ∀ (pat : List Bool) (it : CellIt α),
      fronts (CellIt.consume nx nb pat it).1 ++ (CellIt.consume nx nb pat it).2.pending sel ++
        (backs (CellIt.consume nx nb pat it).1).reverse = it.pending sel
  | [], it => by simp [CellIt.consume, fronts, backs]
  | d :: ds, it => by
    simp only [CellIt.consume]
    rw [split_cons, consume_split sel nx nb hx hb ds]
    -- what is left is the one-step contract of the call made
    cases d
    · simpa using (hb it).symm
    · simpa using (hx it).symm

/-- once nothing selected is pending, no later call from either end yields an item -/
theorem consume_done (sel : Nat × Nat × α → Bool) (nx nb : CellIt α → Option (Nat × Nat × α) × CellIt α)
    (hx : FrontOk sel nx) (hb : BackOk sel nb) (it : CellIt α) (h : it.pending sel = []) :
    ∀ (pat : List Bool), fronts (CellIt.consume nx nb pat it).1 = [] ∧ backs (CellIt.consume nx nb pat it).1 = [] := by
  intro pat
  have hs := consume_split sel nx nb hx hb pat it
  rw [h] at hs
  have h1 := List.append_eq_nil_iff.mp hs
  have h2 := List.append_eq_nil_iff.mp h1.1
  exact ⟨h2.1, by simpa using h1.2⟩

/-- `Cells` yields every item -/
def selAll (_ : Nat × Nat × α) : Bool := true

theorem pending_all (it : CellIt α) : it.pending selAll = it.rest.map it.yield := by
  simp [CellIt.pending, selAll]

theorem next_ok : FrontOk (α := α) selAll CellIt.next := fun it => by
  rw [pending_all, pending_all]
  unfold CellIt.next
  split <;> rename_i h <;> simp [h, CellIt.yield]

theorem nextBack_ok : BackOk (α := α) selAll CellIt.nextBack := fun it => by
  rw [pending_all, pending_all]
  unfold CellIt.nextBack
  split <;> rename_i h
  · simp [List.getLast?_eq_none_iff.mp h]
  · rename_i q
    have := dropLast_getLast? _ _ h
    have e : List.map it.yield it.rest = List.map it.yield it.rest.dropLast ++ [it.yield q] := by
      conv => lhs; rw [← this]
      rw [List.map_append]; rfl
    exact e

variable [Inhabited α] [DecidableEq α]

/-- `UsedCells` yields the items whose value is not the default -/
def selUsed (c : Nat × Nat × α) : Bool := !decide (c.2.2 = default)

/-- `selUsed` on the pairs `(index, value)` of the window, before `yield` turns the index into coordinates -/
def nd (p : Nat × α) : Bool := !decide (p.2 = default)

theorem pending_used (it : CellIt α) : it.pending selUsed = (it.rest.filter nd).map it.yield := by
  unfold CellIt.pending; rw [List.filter_map]; rfl

theorem filter_dropWhile_default (l : List (Nat × α)) :
    (l.dropWhile fun p => decide (p.2 = default)).filter nd = l.filter nd := by
  induction l with
  | nil => rfl
  | cons p tl ih =>
    by_cases h : p.2 = default
    · simp only [List.dropWhile_cons, h, decide_true, if_true, List.filter_cons, nd, Bool.not_true,
        Bool.false_eq_true, if_false]
      exact ih
    · simp [h]

theorem head_dropWhile_default (l : List (Nat × α)) (p : Nat × α) (tl : List (Nat × α))
    (h : l.dropWhile (fun p => decide (p.2 = default)) = p :: tl) : nd p = true := by
  have := List.head_dropWhile_not (fun p : Nat × α => decide (p.2 = default)) (l := l)
    (by rw [h]; exact List.cons_ne_nil _ _)
  simp only [h, List.head_cons] at this
  unfold nd; rw [this]; rfl

theorem nextUsed_ok : FrontOk (α := α) selUsed CellIt.nextUsed := fun it => by
  rw [pending_used, pending_used, ← filter_dropWhile_default]
  unfold CellIt.nextUsed
  split <;> rename_i h
  · simp [h]
  · have hp := head_dropWhile_default _ _ _ h
    rw [h]
    simp [hp, CellIt.yield]

theorem nextUsed_none (it : CellIt α) (h : it.nextUsed.1 = none) : it.nextUsed.2.pending selUsed = [] := by
  rw [pending_used]
  unfold CellIt.nextUsed at h ⊢
  split at h <;> rename_i hr
  · simp
  · simp at h

theorem filter_reverse_dropWhile_default (l : List (Nat × α)) :
    ((l.reverse.dropWhile fun p => decide (p.2 = default)).reverse).filter nd = l.filter nd := by
  rw [List.filter_reverse, filter_dropWhile_default, ← List.filter_reverse, List.reverse_reverse]

theorem nextBackUsed_ok : BackOk (α := α) selUsed CellIt.nextBackUsed := fun it => by
  rw [pending_used, pending_used, ← filter_reverse_dropWhile_default]
  unfold CellIt.nextBackUsed
  split <;> rename_i h
  · simp [h]
  · have hp := head_dropWhile_default _ _ _ h
    rw [h]
    simp [List.filter_append, hp, CellIt.yield]

theorem nextBackUsed_none (it : CellIt α) (h : it.nextBackUsed.1 = none) : it.nextBackUsed.2.pending selUsed = [] := by
  rw [pending_used]
  unfold CellIt.nextBackUsed at h ⊢
  split at h <;> rename_i hr
  · simp
  · simp at h

omit [Inhabited α] [DecidableEq α] in
theorem rowsConsume_split : ∀ (pat : List Bool) (w : List (List α)),
    fronts (rowsConsume pat w).1 ++ (rowsConsume pat w).2 ++ (backs (rowsConsume pat w).1).reverse = w
  | [], w => by simp [rowsConsume, fronts, backs]
  | true :: ds, [] => by
    simp only [rowsConsume]
    rw [split_cons, rowsConsume_split ds]
    rfl
  | true :: ds, x :: tl => by
    simp only [rowsConsume]
    rw [split_cons, rowsConsume_split ds]
    simp
  | false :: ds, w => by
    unfold rowsConsume
    split <;> rename_i h
    · simp only []
      rw [split_cons, rowsConsume_split ds]
      simp
    · simp only []
      rw [split_cons, rowsConsume_split ds]
      simpa using dropLast_getLast? _ _ h

end Range
