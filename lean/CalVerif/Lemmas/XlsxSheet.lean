import CalVerif.Lemmas.XlsxCursor
import CalVerif.Lemmas.Range
/-! `XlsxCellReader::new` / `next_cell` / `read_shared_strings` (`Model/XlsxCells.lean`) run on the events the encoders of
    `Spec/XlsxSheet.lean` produce (`readCells_render`, `range_view_spec`, `sstLoop_items`), and that they never panic.
    A run of the reader is `Res.foldl (step cfg)` (`Lemmas/ResFold.lean`; `steps` is the same, `steps_eq`). The outer
    `<row>`/`<c>` loop and its run over a rendered sheet are `Lemmas/XlsxCursor.lean`'s (`rowsLoop`); this file adds what
    `next_cell` does inside a `<c>` (`cellBody`: the typing table `readV`).
    Runs on concrete events are computed by `simp only [Res.foldl, step.eq_def, …]`: `step.eq_def` unfolds the body
    once, whereas `simp only [step]` makes Lean derive an equation per arm of the whole `match`, anew in every proof. -/
namespace XlsxCells
open XlsxSheet

/-- `step` folded over all events; no early exit is needed, `step` is the identity once `done` -/
def steps (cfg : Cfg) : St → List Ev → Res St
  | st, [] => .ok st
  | st, ev :: rest =>
    match step cfg st ev with
    | .ok st' => steps cfg st' rest
    | .err e => .err e
    | .panic s => .panic s
    | .outOfFuel => .outOfFuel

/-- the statement of `typing` (Props/C01) is written with `steps`, and that is its only use; every lemma, the ones
    named `steps_…` included, is about `Res.foldl (step cfg)`, which this equation exchanges for it -/
theorem steps_eq (cfg : Cfg) (st : St) (evs : List Ev) : steps cfg st evs = Res.foldl (step cfg) st evs := by
  induction evs generalizing st with
  | nil => rfl
  | cons ev rest ih =>
    rw [steps, Res.foldl]
    cases step cfg st ev <;> simp only [ih]

theorem run_of_foldl (cfg : Cfg) (evs : List Ev) (st st' : St) (h : Res.foldl (step cfg) st evs = .ok st')
    (hd : st'.mode = .done) : run cfg evs st = (st'.out.reverse, .ok ()) :=
  Res.run_of_foldl (run := run cfg) (done := fun st => st.mode = .done) (fin := fun st => (st.out.reverse, Res.ok ()))
    (fun st hd => by simp only [run, hd, if_true]) (fun ev rest st st1 hs => by simp only [run, hs])
    (fun st _ hd => by obtain ⟨mode, row, col, out⟩ := st; subst hd; rfl) h hd

theorem localName_q (p : Bool) (n : Bytes) (h : ∀ x ∈ n, x ≠ 58) : localName (q p n) = n := by
  cases p with
  | false => exact localName_no_colon n h
  | true => exact localName_append [120] n (by decide)

@[simp] theorem ln_c (p : Bool) : localName (q p nC) = nC := localName_q p nC (by decide)
@[simp] theorem ln_row (p : Bool) : localName (q p nRow) = nRow := localName_q p nRow (by decide)
@[simp] theorem ln_v (p : Bool) : localName (q p nV) = nV := localName_q p nV (by decide)
@[simp] theorem ln_f (p : Bool) : localName (q p nF) = nF := localName_q p nF (by decide)
@[simp] theorem ln_is (p : Bool) : localName (q p nIs) = nIs := localName_q p nIs (by decide)
@[simp] theorem ln_t (p : Bool) : localName (q p nT) = nT := localName_q p nT (by decide)
@[simp] theorem ln_sd (p : Bool) : localName (q p nSheetData) = nSheetData := localName_q p nSheetData (by decide)
@[simp] theorem ln_dim (p : Bool) : localName (q p nDimension) = nDimension := localName_q p nDimension (by decide)
@[simp] theorem ln_ws (p : Bool) : localName (q p nWorksheet) = nWorksheet := localName_q p nWorksheet (by decide)
@[simp] theorem ln_si (p : Bool) : localName (q p nSi) = nSi := localName_q p nSi (by decide)
@[simp] theorem ln_sst (p : Bool) : localName (q p nSst) = nSst := localName_q p nSst (by decide)
@[simp] theorem ln_r (p : Bool) : localName (q p nR) = nR := localName_q p nR (by decide)
@[simp] theorem ln_rph (p : Bool) : localName (q p nRPh) = nRPh := localName_q p nRPh (by decide)

/-! The element and attribute names the sheet reader compares are pairwise different: the complete grid over `nRow`, `nC`,
    `nV`, `nIs`, `nF`, `nT`, `nR`, `nRPh`, `nSheetData`, `nDimension`, `nWorksheet`, `nS`, `nRef` (12 × 13 lemmas); `nSi` and
    `nSst` of the shared-string reader have only the pairs its runs meet (further down). The values of `t` (`tB`, `tE`, …)
    have none: `readV` is rewritten with the lookup of `t` as a hypothesis, and the comparison of two literals is `rfl`. -/
@[simp] theorem nRow_ne_nC : (nRow = nC) = False := eq_false (by decide)
@[simp] theorem nRow_ne_nV : (nRow = nV) = False := eq_false (by decide)
@[simp] theorem nRow_ne_nIs : (nRow = nIs) = False := eq_false (by decide)
@[simp] theorem nRow_ne_nF : (nRow = nF) = False := eq_false (by decide)
@[simp] theorem nRow_ne_nT : (nRow = nT) = False := eq_false (by decide)
@[simp] theorem nRow_ne_nR : (nRow = nR) = False := eq_false (by decide)
@[simp] theorem nRow_ne_nRPh : (nRow = nRPh) = False := eq_false (by decide)
@[simp] theorem nRow_ne_nSheetData : (nRow = nSheetData) = False := eq_false (by decide)
@[simp] theorem nRow_ne_nDimension : (nRow = nDimension) = False := eq_false (by decide)
@[simp] theorem nRow_ne_nWorksheet : (nRow = nWorksheet) = False := eq_false (by decide)
@[simp] theorem nRow_ne_nS : (nRow = nS) = False := eq_false (by decide)
@[simp] theorem nRow_ne_nRef : (nRow = nRef) = False := eq_false (by decide)
@[simp] theorem nC_ne_nRow : (nC = nRow) = False := eq_false (by decide)
@[simp] theorem nC_ne_nV : (nC = nV) = False := eq_false (by decide)
@[simp] theorem nC_ne_nIs : (nC = nIs) = False := eq_false (by decide)
@[simp] theorem nC_ne_nF : (nC = nF) = False := eq_false (by decide)
@[simp] theorem nC_ne_nT : (nC = nT) = False := eq_false (by decide)
@[simp] theorem nC_ne_nR : (nC = nR) = False := eq_false (by decide)
@[simp] theorem nC_ne_nRPh : (nC = nRPh) = False := eq_false (by decide)
@[simp] theorem nC_ne_nSheetData : (nC = nSheetData) = False := eq_false (by decide)
@[simp] theorem nC_ne_nDimension : (nC = nDimension) = False := eq_false (by decide)
@[simp] theorem nC_ne_nWorksheet : (nC = nWorksheet) = False := eq_false (by decide)
@[simp] theorem nC_ne_nS : (nC = nS) = False := eq_false (by decide)
@[simp] theorem nC_ne_nRef : (nC = nRef) = False := eq_false (by decide)
@[simp] theorem nV_ne_nRow : (nV = nRow) = False := eq_false (by decide)
@[simp] theorem nV_ne_nC : (nV = nC) = False := eq_false (by decide)
@[simp] theorem nV_ne_nIs : (nV = nIs) = False := eq_false (by decide)
@[simp] theorem nV_ne_nF : (nV = nF) = False := eq_false (by decide)
@[simp] theorem nV_ne_nT : (nV = nT) = False := eq_false (by decide)
@[simp] theorem nV_ne_nR : (nV = nR) = False := eq_false (by decide)
@[simp] theorem nV_ne_nRPh : (nV = nRPh) = False := eq_false (by decide)
@[simp] theorem nV_ne_nSheetData : (nV = nSheetData) = False := eq_false (by decide)
@[simp] theorem nV_ne_nDimension : (nV = nDimension) = False := eq_false (by decide)
@[simp] theorem nV_ne_nWorksheet : (nV = nWorksheet) = False := eq_false (by decide)
@[simp] theorem nV_ne_nS : (nV = nS) = False := eq_false (by decide)
@[simp] theorem nV_ne_nRef : (nV = nRef) = False := eq_false (by decide)
@[simp] theorem nIs_ne_nRow : (nIs = nRow) = False := eq_false (by decide)
@[simp] theorem nIs_ne_nC : (nIs = nC) = False := eq_false (by decide)
@[simp] theorem nIs_ne_nV : (nIs = nV) = False := eq_false (by decide)
@[simp] theorem nIs_ne_nF : (nIs = nF) = False := eq_false (by decide)
@[simp] theorem nIs_ne_nT : (nIs = nT) = False := eq_false (by decide)
@[simp] theorem nIs_ne_nR : (nIs = nR) = False := eq_false (by decide)
@[simp] theorem nIs_ne_nRPh : (nIs = nRPh) = False := eq_false (by decide)
@[simp] theorem nIs_ne_nSheetData : (nIs = nSheetData) = False := eq_false (by decide)
@[simp] theorem nIs_ne_nDimension : (nIs = nDimension) = False := eq_false (by decide)
@[simp] theorem nIs_ne_nWorksheet : (nIs = nWorksheet) = False := eq_false (by decide)
@[simp] theorem nIs_ne_nS : (nIs = nS) = False := eq_false (by decide)
@[simp] theorem nIs_ne_nRef : (nIs = nRef) = False := eq_false (by decide)
@[simp] theorem nF_ne_nRow : (nF = nRow) = False := eq_false (by decide)
@[simp] theorem nF_ne_nC : (nF = nC) = False := eq_false (by decide)
@[simp] theorem nF_ne_nV : (nF = nV) = False := eq_false (by decide)
@[simp] theorem nF_ne_nIs : (nF = nIs) = False := eq_false (by decide)
@[simp] theorem nF_ne_nT : (nF = nT) = False := eq_false (by decide)
@[simp] theorem nF_ne_nR : (nF = nR) = False := eq_false (by decide)
@[simp] theorem nF_ne_nRPh : (nF = nRPh) = False := eq_false (by decide)
@[simp] theorem nF_ne_nSheetData : (nF = nSheetData) = False := eq_false (by decide)
@[simp] theorem nF_ne_nDimension : (nF = nDimension) = False := eq_false (by decide)
@[simp] theorem nF_ne_nWorksheet : (nF = nWorksheet) = False := eq_false (by decide)
@[simp] theorem nF_ne_nS : (nF = nS) = False := eq_false (by decide)
@[simp] theorem nF_ne_nRef : (nF = nRef) = False := eq_false (by decide)
@[simp] theorem nT_ne_nRow : (nT = nRow) = False := eq_false (by decide)
@[simp] theorem nT_ne_nC : (nT = nC) = False := eq_false (by decide)
@[simp] theorem nT_ne_nV : (nT = nV) = False := eq_false (by decide)
@[simp] theorem nT_ne_nIs : (nT = nIs) = False := eq_false (by decide)
@[simp] theorem nT_ne_nF : (nT = nF) = False := eq_false (by decide)
@[simp] theorem nT_ne_nR : (nT = nR) = False := eq_false (by decide)
@[simp] theorem nT_ne_nRPh : (nT = nRPh) = False := eq_false (by decide)
@[simp] theorem nT_ne_nSheetData : (nT = nSheetData) = False := eq_false (by decide)
@[simp] theorem nT_ne_nDimension : (nT = nDimension) = False := eq_false (by decide)
@[simp] theorem nT_ne_nWorksheet : (nT = nWorksheet) = False := eq_false (by decide)
@[simp] theorem nT_ne_nS : (nT = nS) = False := eq_false (by decide)
@[simp] theorem nT_ne_nRef : (nT = nRef) = False := eq_false (by decide)
@[simp] theorem nR_ne_nRow : (nR = nRow) = False := eq_false (by decide)
@[simp] theorem nR_ne_nC : (nR = nC) = False := eq_false (by decide)
@[simp] theorem nR_ne_nV : (nR = nV) = False := eq_false (by decide)
@[simp] theorem nR_ne_nIs : (nR = nIs) = False := eq_false (by decide)
@[simp] theorem nR_ne_nF : (nR = nF) = False := eq_false (by decide)
@[simp] theorem nR_ne_nT : (nR = nT) = False := eq_false (by decide)
@[simp] theorem nR_ne_nRPh : (nR = nRPh) = False := eq_false (by decide)
@[simp] theorem nR_ne_nSheetData : (nR = nSheetData) = False := eq_false (by decide)
@[simp] theorem nR_ne_nDimension : (nR = nDimension) = False := eq_false (by decide)
@[simp] theorem nR_ne_nWorksheet : (nR = nWorksheet) = False := eq_false (by decide)
@[simp] theorem nR_ne_nS : (nR = nS) = False := eq_false (by decide)
@[simp] theorem nR_ne_nRef : (nR = nRef) = False := eq_false (by decide)
@[simp] theorem nRPh_ne_nRow : (nRPh = nRow) = False := eq_false (by decide)
@[simp] theorem nRPh_ne_nC : (nRPh = nC) = False := eq_false (by decide)
@[simp] theorem nRPh_ne_nV : (nRPh = nV) = False := eq_false (by decide)
@[simp] theorem nRPh_ne_nIs : (nRPh = nIs) = False := eq_false (by decide)
@[simp] theorem nRPh_ne_nF : (nRPh = nF) = False := eq_false (by decide)
@[simp] theorem nRPh_ne_nT : (nRPh = nT) = False := eq_false (by decide)
@[simp] theorem nRPh_ne_nR : (nRPh = nR) = False := eq_false (by decide)
@[simp] theorem nRPh_ne_nSheetData : (nRPh = nSheetData) = False := eq_false (by decide)
@[simp] theorem nRPh_ne_nDimension : (nRPh = nDimension) = False := eq_false (by decide)
@[simp] theorem nRPh_ne_nWorksheet : (nRPh = nWorksheet) = False := eq_false (by decide)
@[simp] theorem nRPh_ne_nS : (nRPh = nS) = False := eq_false (by decide)
@[simp] theorem nRPh_ne_nRef : (nRPh = nRef) = False := eq_false (by decide)
@[simp] theorem nSheetData_ne_nRow : (nSheetData = nRow) = False := eq_false (by decide)
@[simp] theorem nSheetData_ne_nC : (nSheetData = nC) = False := eq_false (by decide)
@[simp] theorem nSheetData_ne_nV : (nSheetData = nV) = False := eq_false (by decide)
@[simp] theorem nSheetData_ne_nIs : (nSheetData = nIs) = False := eq_false (by decide)
@[simp] theorem nSheetData_ne_nF : (nSheetData = nF) = False := eq_false (by decide)
@[simp] theorem nSheetData_ne_nT : (nSheetData = nT) = False := eq_false (by decide)
@[simp] theorem nSheetData_ne_nR : (nSheetData = nR) = False := eq_false (by decide)
@[simp] theorem nSheetData_ne_nRPh : (nSheetData = nRPh) = False := eq_false (by decide)
@[simp] theorem nSheetData_ne_nDimension : (nSheetData = nDimension) = False := eq_false (by decide)
@[simp] theorem nSheetData_ne_nWorksheet : (nSheetData = nWorksheet) = False := eq_false (by decide)
@[simp] theorem nSheetData_ne_nS : (nSheetData = nS) = False := eq_false (by decide)
@[simp] theorem nSheetData_ne_nRef : (nSheetData = nRef) = False := eq_false (by decide)
@[simp] theorem nDimension_ne_nRow : (nDimension = nRow) = False := eq_false (by decide)
@[simp] theorem nDimension_ne_nC : (nDimension = nC) = False := eq_false (by decide)
@[simp] theorem nDimension_ne_nV : (nDimension = nV) = False := eq_false (by decide)
@[simp] theorem nDimension_ne_nIs : (nDimension = nIs) = False := eq_false (by decide)
@[simp] theorem nDimension_ne_nF : (nDimension = nF) = False := eq_false (by decide)
@[simp] theorem nDimension_ne_nT : (nDimension = nT) = False := eq_false (by decide)
@[simp] theorem nDimension_ne_nR : (nDimension = nR) = False := eq_false (by decide)
@[simp] theorem nDimension_ne_nRPh : (nDimension = nRPh) = False := eq_false (by decide)
@[simp] theorem nDimension_ne_nSheetData : (nDimension = nSheetData) = False := eq_false (by decide)
@[simp] theorem nDimension_ne_nWorksheet : (nDimension = nWorksheet) = False := eq_false (by decide)
@[simp] theorem nDimension_ne_nS : (nDimension = nS) = False := eq_false (by decide)
@[simp] theorem nDimension_ne_nRef : (nDimension = nRef) = False := eq_false (by decide)
@[simp] theorem nWorksheet_ne_nRow : (nWorksheet = nRow) = False := eq_false (by decide)
@[simp] theorem nWorksheet_ne_nC : (nWorksheet = nC) = False := eq_false (by decide)
@[simp] theorem nWorksheet_ne_nV : (nWorksheet = nV) = False := eq_false (by decide)
@[simp] theorem nWorksheet_ne_nIs : (nWorksheet = nIs) = False := eq_false (by decide)
@[simp] theorem nWorksheet_ne_nF : (nWorksheet = nF) = False := eq_false (by decide)
@[simp] theorem nWorksheet_ne_nT : (nWorksheet = nT) = False := eq_false (by decide)
@[simp] theorem nWorksheet_ne_nR : (nWorksheet = nR) = False := eq_false (by decide)
@[simp] theorem nWorksheet_ne_nRPh : (nWorksheet = nRPh) = False := eq_false (by decide)
@[simp] theorem nWorksheet_ne_nSheetData : (nWorksheet = nSheetData) = False := eq_false (by decide)
@[simp] theorem nWorksheet_ne_nDimension : (nWorksheet = nDimension) = False := eq_false (by decide)
@[simp] theorem nWorksheet_ne_nS : (nWorksheet = nS) = False := eq_false (by decide)
@[simp] theorem nWorksheet_ne_nRef : (nWorksheet = nRef) = False := eq_false (by decide)
@[simp] theorem nS_ne_nRow : (nS = nRow) = False := eq_false (by decide)
@[simp] theorem nS_ne_nC : (nS = nC) = False := eq_false (by decide)
@[simp] theorem nS_ne_nV : (nS = nV) = False := eq_false (by decide)
@[simp] theorem nS_ne_nIs : (nS = nIs) = False := eq_false (by decide)
@[simp] theorem nS_ne_nF : (nS = nF) = False := eq_false (by decide)
@[simp] theorem nS_ne_nT : (nS = nT) = False := eq_false (by decide)
@[simp] theorem nS_ne_nR : (nS = nR) = False := eq_false (by decide)
@[simp] theorem nS_ne_nRPh : (nS = nRPh) = False := eq_false (by decide)
@[simp] theorem nS_ne_nSheetData : (nS = nSheetData) = False := eq_false (by decide)
@[simp] theorem nS_ne_nDimension : (nS = nDimension) = False := eq_false (by decide)
@[simp] theorem nS_ne_nWorksheet : (nS = nWorksheet) = False := eq_false (by decide)
@[simp] theorem nS_ne_nRef : (nS = nRef) = False := eq_false (by decide)
@[simp] theorem nRef_ne_nRow : (nRef = nRow) = False := eq_false (by decide)
@[simp] theorem nRef_ne_nC : (nRef = nC) = False := eq_false (by decide)
@[simp] theorem nRef_ne_nV : (nRef = nV) = False := eq_false (by decide)
@[simp] theorem nRef_ne_nIs : (nRef = nIs) = False := eq_false (by decide)
@[simp] theorem nRef_ne_nF : (nRef = nF) = False := eq_false (by decide)
@[simp] theorem nRef_ne_nT : (nRef = nT) = False := eq_false (by decide)
@[simp] theorem nRef_ne_nR : (nRef = nR) = False := eq_false (by decide)
@[simp] theorem nRef_ne_nRPh : (nRef = nRPh) = False := eq_false (by decide)
@[simp] theorem nRef_ne_nSheetData : (nRef = nSheetData) = False := eq_false (by decide)
@[simp] theorem nRef_ne_nDimension : (nRef = nDimension) = False := eq_false (by decide)
@[simp] theorem nRef_ne_nWorksheet : (nRef = nWorksheet) = False := eq_false (by decide)
@[simp] theorem nRef_ne_nS : (nRef = nS) = False := eq_false (by decide)

@[simp] theorem q_eq (p : Bool) (a b : Bytes) : (q p a = q p b) = (a = b) := by
  cases p <;> simp [q]

theorem getAttr_reverse (a : Attrs) (k : Bytes) (hnd : a.Pairwise (fun p q => p.1 ≠ q.1)) :
    getAttr a.reverse k = getAttr a k := by
  unfold getAttr
  cases h : a.find? (fun p => p.1 == k) with
  | none => rw [List.find?_eq_none.mpr fun p hp => List.find?_eq_none.mp h p (List.mem_reverse.mp hp)]
  | some x =>
    -- `x` has the key `k`, and no other attribute of `a` has
    have hx : (x.1 == k) = true := List.find?_some (p := fun p : Bytes × Bytes => p.1 == k) h
    have hm := List.mem_of_find?_eq_some h
    rw [ListLoops.find?_unique _ a.reverse x (List.mem_reverse.mpr hm) hx fun p hp hk =>
      ListLoops.eq_of_pairwise_not (R := fun p q => p.1 = q.1) (fun _ _ => Eq.symm) hnd (List.mem_reverse.mp hp) hm
        ((eq_of_beq hk).trans (eq_of_beq hx).symm)]

theorem getAttr_cons_ne (a : Attrs) (k x v : Bytes) (hx : x ≠ k) : getAttr ((x, v) :: a) k = getAttr a k := by
  have : (x == k) = false := by simpa using hx
  simp [getAttr, List.find?, this]

theorem parseError_literal (k : CellErrorType) (hk : k ≠ .gettingData) : parseError (errLiteral k) = some k := by
  cases k <;> first | exact absurd rfl hk | decide

theorem pieces_cons (c : Bytes) (cs : List Bytes) : pieces (c :: cs) = [.text c, .other] ++ pieces cs := rfl

/-- text arriving in pieces (text nodes separated by comments) is concatenated by every mode `S acc` that appends
    text to `acc` and ignores comments (`read_value`'s `<v>` loop, `read_string`'s `<t>` loop; with `S` constant, a mode
    that ignores both: `next_formula` skipping an element), whatever the reader `f` -/
theorem steps_pieces {σ : Type} (f : σ → Ev → Res σ) (S : Bytes → σ) (ht : ∀ acc c, f (S acc) (.text c) = .ok (S (acc ++ c)))
    (ho : ∀ acc, f (S acc) .other = .ok (S acc)) (chunks : List Bytes) (acc : Bytes) :
    Res.foldl f (S acc) (pieces chunks) = .ok (S (acc ++ chunks.flatten)) := by
  induction chunks generalizing acc with
  | nil => simp only [pieces, List.flatMap_nil, Res.foldl, List.flatten_nil, List.append_nil]
  | cons c cs ih =>
    simp only [pieces_cons, List.cons_append, List.nil_append, Res.foldl, ht, ho]
    rw [ih, List.flatten_cons, List.append_assoc]

theorem steps_v (cfg : Cfg) (p : Bool) (pos : Nat × Nat) (attrs : Attrs) (v0 v : Val) (row col : Nat)
    (out : List (Nat × Nat × Val)) (chunks : List Bytes) (t : Bytes) (hfl : chunks.flatten = t)
    (h : readV cfg attrs t = .ok v) :
    Res.foldl (step cfg) ⟨.cell pos attrs v0, row, col, out⟩ (vEvents p chunks) = .ok ⟨.cell pos attrs v, row, col, out⟩ := by
  simp only [vEvents, List.cons_append, List.nil_append, Res.foldl, step.eq_def, ln_v, nV_ne_nIs, if_false, if_true]
  rw [Res.foldl_append_ok (steps_pieces (step cfg) (fun acc => ⟨.inV pos attrs (q p nV) acc, row, col, out⟩)
    (fun _ _ => rfl) (fun _ => rfl) chunks [])]
  simp only [Res.foldl, step.eq_def, if_true, List.nil_append, hfl, h]

theorem steps_formula (cfg : Cfg) (p : Bool) (pos : Nat × Nat) (attrs : Attrs) (row col : Nat)
    (out : List (Nat × Nat × Val)) (f : Option Bytes) :
    Res.foldl (step cfg) ⟨.cell pos attrs .empty, row, col, out⟩ (formulaEvents p f) = .ok ⟨.cell pos attrs .empty, row, col, out⟩ := by
  cases f with
  | none => rfl
  | some f =>
    by_cases hf : f = [] <;>
      simp only [formulaEvents, hf, if_true, if_false, List.cons_append, List.nil_append, List.append_nil, Res.foldl,
        step.eq_def, ln_f, nF_ne_nIs, nF_ne_nV]

/-- the typing table, in terms of what the attribute lookups of `s` and `t` give (nothing else of the
    attribute list matters: order, inert extra attributes) -/
theorem readV_of_attrs (cfg : Cfg) (attrs : Attrs) (v : Bytes) :
    readV cfg attrs v =
      match getAttr attrs nT with
      | some t =>
        if t = nS then
          match cfg.strings[(atoiUsize v).getD 0]? with
          | some s => .ok (.shared s)
          | none => .err "Unexpected"
        else if t = tB then .ok (.bool (v ≠ [48]))
        else if t = tE then
          match parseError v with
          | some code => .ok (.error code)
          | none => .err "CellError"
        else if t = tD then .ok (.dateIso v)
        else if t = tStr then .ok (.str v)
        else if t = tN then (if v = [] then .ok .empty else .ok (.num v (styleFmt cfg (getAttr attrs nS)) true))
        else if t = nIs then .err "Unexpected"
        else .err "CellTAttribute"
      | none => .ok (.num v (styleFmt cfg (getAttr attrs nS)) false) := by
  unfold readV
  cases getAttr attrs nS <;> rfl

theorem readV_untyped (cfg : Cfg) (attrs : Attrs) (v : Bytes) (h : getAttr attrs nT = none) :
    readV cfg attrs v = .ok (.num v (styleFmt cfg (getAttr attrs nS)) false) := by
  rw [readV_of_attrs, h]

theorem readV_num (cfg : Cfg) (attrs : Attrs) (v : Bytes) (h : getAttr attrs nT = some tN) :
    readV cfg attrs v = if v = [] then .ok .empty else .ok (.num v (styleFmt cfg (getAttr attrs nS)) true) := by
  rw [readV_of_attrs, h]; rfl

theorem readV_shared (cfg : Cfg) (attrs : Attrs) (v : Bytes) (h : getAttr attrs nT = some nS) :
    readV cfg attrs v = match cfg.strings[(atoiUsize v).getD 0]? with
      | some s => .ok (.shared s)
      | none => .err "Unexpected" := by
  rw [readV_of_attrs, h]; rfl

theorem readV_bool (cfg : Cfg) (attrs : Attrs) (v : Bytes) (h : getAttr attrs nT = some tB) :
    readV cfg attrs v = .ok (.bool (v ≠ [48])) := by
  rw [readV_of_attrs, h]; rfl

theorem readV_error (cfg : Cfg) (attrs : Attrs) (v : Bytes) (h : getAttr attrs nT = some tE) :
    readV cfg attrs v = match parseError v with
      | some code => .ok (.error code)
      | none => .err "CellError" := by
  rw [readV_of_attrs, h]; rfl

theorem readV_iso (cfg : Cfg) (attrs : Attrs) (v : Bytes) (h : getAttr attrs nT = some tD) :
    readV cfg attrs v = .ok (.dateIso v) := by
  rw [readV_of_attrs, h]; rfl

theorem readV_str (cfg : Cfg) (attrs : Attrs) (v : Bytes) (h : getAttr attrs nT = some tStr) :
    readV cfg attrs v = .ok (.str v) := by
  rw [readV_of_attrs, h]; rfl

theorem steps_content (cfg : Cfg) (p : Bool) (sp : Bytes → List Bytes) (hsp : ∀ t, (sp t).flatten = t)
    (pos : Nat × Nat) (attrs : Attrs) (cs : CellSpec)
    (hs : getAttr attrs nS = cs.style) (ht : getAttr attrs nT = (contentEvents p sp cs.content).1.head?.map (·.2))
    (hok : cs.content.Ok cfg) (row col : Nat) (out : List (Nat × Nat × Val)) :
    Res.foldl (step cfg) ⟨.cell pos attrs .empty, row, col, out⟩ (contentEvents p sp cs.content).2 =
    .ok ⟨.cell pos attrs (expect cfg cs), row, col, out⟩ := by
  obtain ⟨content, style, formula⟩ := cs
  cases content with
  | blank => rfl
  | num t tn =>
    refine steps_v (hfl := hsp t) (h := ?_) ..
    cases tn with
    | false => rw [readV_untyped cfg attrs t ht, hs]; rfl
    | true =>
      rw [readV_num cfg attrs t ht, hs]
      by_cases h0 : t = [] <;> simp only [expect, h0, true_and, if_true, if_false]
  | shared idx =>
    refine steps_v (hfl := hsp (dec idx)) (h := ?_) ..
    rw [readV_shared cfg attrs _ ht, atoiUsize_dec idx hok.2, Option.getD_some, List.getElem?_eq_getElem hok.1]
    simp only [expect, List.getD_eq_getElem?_getD, List.getElem?_eq_getElem hok.1, Option.getD_some]
  | inline s =>
    simp only [contentEvents, List.cons_append, List.nil_append, Res.foldl, step.eq_def, strStep.eq_def, ln_is, ln_t,
      nT_ne_nR, nT_ne_nRPh, if_true, if_false, and_self]
    rw [Res.foldl_append_ok (steps_pieces (step cfg)
      (fun acc => ⟨.inIs pos attrs (q p nIs) (.inT none false (q p nT) acc), row, col, out⟩) (fun _ _ => rfl) (fun _ => rfl)
      (sp s) [])]
    simp only [Res.foldl, step.eq_def, strStep.eq_def, if_true, List.nil_append, hsp s, expect]
  | fstr s => exact steps_v (hfl := hsp s) (h := readV_str cfg attrs s ht) ..
  | bool b =>
    refine steps_v (hfl := hsp _) (h := ?_) ..
    rw [readV_bool cfg attrs _ ht]
    cases b <;> rfl
  | err k =>
    refine steps_v (hfl := hsp _) (h := ?_) ..
    rw [readV_error cfg attrs _ ht, parseError_literal k hok]
    rfl
  | iso s => exact steps_v (hfl := hsp s) (h := readV_iso cfg attrs s ht) ..

theorem rowsLoop (cfg : Cfg) : RowsLoop (step cfg) (fun r c out => ⟨.rows, r, c, out⟩)
    (fun pos attrs r out => ⟨.cell pos attrs .empty, r, pos.2, out⟩) (fun r c out => ⟨.done, r, c, out⟩) where
  text _ _ _ _ := rfl
  other _ _ _ := rfl
  rowStart r c x p attrs := by
    simp only [step.eq_def, ln_row, if_true, refOr]
    cases getAttr attrs nR with
    | none => rfl
    | some ref => dsimp only; cases getRow ref <;> rfl
  rowStop r c x p := by simp only [step.eq_def, ln_row, if_true]
  cellStart r c x p attrs := by
    simp only [step.eq_def, ln_c, nC_ne_nRow, if_false, if_true, refOr]
    cases getAttr attrs nR with
    | none => rfl
    | some ref => dsimp only; cases getRowColumn ref <;> rfl
  dataStop r c x p := by simp only [step.eq_def, ln_sd, nSheetData_ne_nRow, if_false, if_true]
  done _ _ _ _ := rfl

/-- inside a `<c>`: an `<f>` is skipped, the value children are typed by `readV`, `</c>` returns the cell -/
theorem cellBody (cfg : Cfg) : CellBody (step cfg) (fun r c out => ⟨.rows, r, c, out⟩)
    (fun pos attrs r out => ⟨.cell pos attrs .empty, r, pos.2, out⟩) (fun cs => cs.content.Ok cfg)
    (fun r c cs out => (r, c, expect cfg cs) :: out) := by
  intro p sp hsp r c attrs cs out hS hT hok
  rw [Res.foldl_append_ok (steps_formula ..),
    Res.foldl_append_ok (steps_content cfg p sp hsp (r, c) attrs cs hS hT hok r c out)]
  simp only [Res.foldl, step.eq_def, ln_c, if_true]

theorem readerNew_skip (l rest : List Ev) (d : Dims) (b : Bool) (h : NoHead l) :
    ∃ b', readerNew (l ++ rest) d b = readerNew rest d b' := by
  induction l generalizing b with
  | nil => exact ⟨b, rfl⟩
  | cons ev l ih =>
    have hl : NoHead l := fun e he => h e (List.mem_cons_of_mem _ he)
    cases ev with
    | start n a =>
      obtain ⟨h1, h2⟩ := h (.start n a) List.mem_cons_self n a rfl
      rw [List.cons_append, readerNew, if_neg h1, if_neg h2]
      exact ih true hl
    | text s => exact ih b hl
    | stop n => exact ih b hl
    | other => exact ih b hl

theorem readerNew_render (s : Sheet) (lay : Layout) (hl : lay.Legal) :
    readerNew (renderSheet s lay) default false = .ok (lay.dim.getD default, renderBody s lay) := by
  have hsd : ∀ d b, readerNew (lay.afterDim ++ .start (q lay.pfx nSheetData) [] :: renderBody s lay) d b =
      .ok (d, renderBody s lay) := by
    intro d b
    obtain ⟨b2, h2⟩ := readerNew_skip lay.afterDim (.start (q lay.pfx nSheetData) [] :: renderBody s lay) d b hl.head.2
    simp only [h2, readerNew, ln_sd, nSheetData_ne_nDimension, if_false, if_true]
  obtain ⟨b1, h1⟩ := readerNew_skip lay.beforeDim
    (dimEvents lay ++ (lay.afterDim ++ .start (q lay.pfx nSheetData) [] :: renderBody s lay)) default true hl.head.1
  simp only [renderSheet, List.append_assoc, List.cons_append, List.nil_append, readerNew, ln_ws,
    nWorksheet_ne_nDimension, nWorksheet_ne_nSheetData, if_false]
  rw [h1, dimEvents]
  cases hd : lay.dim with
  | none => exact hsd _ _
  | some d =>
    have hg : getAttr [(nRef, dimRef d)] nRef = some (dimRef d) := rfl
    simp only [List.cons_append, List.nil_append, readerNew, ln_dim, if_true, hg,
      getDimension_dimRef_grid d (hl.dim d hd)]
    exact hsd _ _

theorem run_render (cfg : Cfg) (s : Sheet) (lay : Layout) (hl : lay.Legal) (hg : s.InGrid) (hok : s.ContentOk cfg) :
    run cfg (renderBody s lay) initSt = (cellsOf cfg s, .ok ()) := by
  obtain ⟨row, h⟩ := (rowsLoop cfg).body_items (cellBody cfg) lay hl s hg hok
  rw [run_of_foldl cfg _ initSt _ h rfl, List.reverse_reverse]
  rfl

/-- the cells `next_cell` returns are the cells of the sheet, whatever the order of its rows and of the cells in a row
    (a well-formed sheet is in the grid: `Sheet.WF.inGrid`) -/
theorem readCells_render (cfg : Cfg) (s : Sheet) (lay : Layout) (hl : lay.Legal) (hg : s.InGrid)
    (hok : s.ContentOk cfg) : readCells cfg (renderSheet s lay) = .ok (lay.dim.getD default, cellsOf cfg s) := by
  unfold readCells
  rw [readerNew_render s lay hl]
  simp only [run_render cfg s lay hl hg hok]

theorem worksheetRange_render (cfg : Cfg) (s : Sheet) (lay : Layout) (hl : lay.Legal) (hg : s.InGrid) (hok : s.ContentOk cfg) :
    worksheetRange cfg (renderSheet s lay) = Range.fromSparse ((cellsOf cfg s).filter (fun c => c.2.2 ≠ .empty)) := by
  unfold worksheetRange
  rw [readerNew_render s lay hl]
  simp only [run_render cfg s lay hl hg hok]

/-- strictly increasing in row-major order -/
def Lex (a b : Nat × Nat × Val) : Prop := a.1 < b.1 ∨ (a.1 = b.1 ∧ a.2.1 < b.2.1)

theorem Increasing_pairwise {α : Type} {b lo : Nat} {l : List (Nat × α)} (h : Increasing b lo l) :
    l.Pairwise (fun x y => x.1 < y.1) := by
  induction l generalizing lo with
  | nil => exact .nil
  | cons a l ih => exact .cons (fun y hy => (Increasing_mem h.2.2 y hy).1) (ih h.2.2)

theorem cellsOf_pairwise (cfg : Cfg) (s : Sheet) (hwf : s.WF) : (cellsOf cfg s).Pairwise Lex := by
  refine List.pairwise_flatMap.mpr ⟨fun row hrow =>
    List.pairwise_map.mpr ((Increasing_pairwise (hwf.2 row hrow)).imp fun hlt => .inr ⟨rfl, hlt⟩), ?_⟩
  refine (Increasing_pairwise hwf.1).imp fun hlt x hx y hy => ?_
  obtain ⟨_, _, rfl⟩ := List.mem_map.mp hx
  obtain ⟨_, _, rfl⟩ := List.mem_map.mp hy
  exact .inl hlt

theorem lex_last {l : List (Nat × Nat × Val)} (hp : l.Pairwise Lex) (hne : l ≠ []) :
    ∀ c ∈ l, c.1 ≤ (l.getLast hne).1 := by
  intro c hc
  have hsplit := List.dropLast_concat_getLast hne
  have hp' : (l.dropLast ++ [l.getLast hne]).Pairwise Lex := by rw [hsplit]; exact hp
  have hc' : c ∈ l.dropLast ++ [l.getLast hne] := by rw [hsplit]; exact hc
  rw [List.pairwise_append] at hp'
  rw [List.mem_append] at hc'
  rcases hc' with hc' | hc'
  · have := hp'.2.2 c hc' (l.getLast hne) (List.mem_singleton.mpr rfl)
    rcases this with h | h <;> omega
  · simp only [List.mem_singleton] at hc'; rw [hc']; exact Nat.le_refl _

theorem lex_head {l : List (Nat × Nat × Val)} (hp : l.Pairwise Lex) (hne : l ≠ []) :
    ∀ c ∈ l, (l.head hne).1 ≤ c.1 := by
  intro c hc
  cases l with
  | nil => exact absurd rfl hne
  | cons a rest =>
    simp only [List.head_cons]
    simp only [List.mem_cons] at hc
    rcases hc with rfl | hc
    · exact Nat.le_refl _
    · have := (List.pairwise_cons.mp hp).1 c hc
      rcases this with h | h <;> omega

theorem Lex.ne_pos {a b : Nat × Nat × Val} (h : Lex a b) : ¬ (a.1 = b.1 ∧ a.2.1 = b.2.1) := by
  rcases h with h | h <;> omega

theorem lex_unique {l : List (Nat × Nat × Val)} (hp : l.Pairwise Lex) {x c : Nat × Nat × Val} (hx : x ∈ l) (hc : c ∈ l)
    (hpos : x.1 = c.1 ∧ x.2.1 = c.2.1) : x = c :=
  ListLoops.eq_of_pairwise_not (R := fun a b => a.1 = b.1 ∧ a.2.1 = b.2.1) (fun _ _ h => ⟨h.1.symm, h.2.symm⟩)
    (hp.imp Lex.ne_pos) hx hc hpos

theorem cellsOf_positions (cfg : Cfg) (s : Sheet) :
    (cellsOf cfg s).map (fun c => (c.1, c.2.1)) = s.flatMap (fun row => row.2.map fun cell => (row.1, cell.1)) := by
  simp only [cellsOf, List.map_flatMap, List.map_map]
  rfl

theorem expect_table (cfg : Cfg) (cs : CellSpec) :
    expect cfg cs = (match cs.content with
      | .blank => .empty
      | .num t tn => if tn ∧ t = [] then .empty else .num t (styleFmt cfg cs.style) tn
      | .shared idx => .shared (cfg.strings.getD idx [])
      | .inline s => .str s
      | .fstr s => .str s
      | .bool b => .bool b
      | .err k => .error k
      | .iso s => .dateIso s) := rfl

/-- `cellsOf`, `dataOf` and the cell list of `range_view_spec` are this list for their `g` -/
theorem mem_cells {β : Type} (g : CellSpec → β) (s : Sheet) (x : Nat × Nat × β) :
    x ∈ s.flatMap (fun row => row.2.map fun cell => (row.1, cell.1, g cell.2)) ↔
      ∃ row ∈ s, ∃ cell ∈ row.2, x = (row.1, cell.1, g cell.2) := by
  simp only [List.mem_flatMap, List.mem_map]
  constructor
  · rintro ⟨row, hrow, cell, hcell, rfl⟩; exact ⟨row, hrow, cell, hcell, rfl⟩
  · rintro ⟨row, hrow, cell, hcell, rfl⟩; exact ⟨row, hrow, cell, hcell, rfl⟩

theorem toData_expect (env : NumEnv) (cfg : Cfg) (cs : CellSpec)
    (hnum : ∀ t, cs.content = .num t true → t ≠ [] → env.parse t ≠ none) :
    toData env (expect cfg cs) = .ok (expectData env cfg cs) := by
  obtain ⟨content, style, formula⟩ := cs
  cases content with
  | num t tn =>
    simp only [expect, expectData]
    by_cases h : tn = true ∧ t = []
    · simp [h, toData]
    · simp only [h, if_false, toData]
      cases hp : env.parse t with
      | some bits => cases hf : styleFmt cfg style <;> simp [Formats.formatF64]
      | none =>
        cases tn with
        | false => simp
        | true =>
          have ht : t ≠ [] := fun h0 => h ⟨rfl, h0⟩
          exact absurd hp (hnum t rfl ht)
  | _ => simp [expect, expectData, toData]

theorem toData_empty_iff (env : NumEnv) (v : Val) (d : Data) (h : toData env v = .ok d) : d = .empty ↔ v = .empty := by
  cases v with
  | num t f st =>
    simp only [toData] at h
    cases hp : env.parse t with
    | some bits => rw [hp] at h; simp only at h; injection h with h; subst h; simp
    | none =>
      rw [hp] at h; simp only at h
      cases st with
      | true => simp at h
      | false => simp at h; subst h; simp
  | _ => simp only [toData] at h; injection h with h; subst h; simp

/-- the conclusion is `HeaderRow.InSheet (cellsOf cfg s)` (Lemmas/HeaderRow.lean, C08) written out — the same bound for a
    cell list that `Sheet.InGrid` states for a sheet; this file does not import that module -/
theorem cellsOf_inGrid (cfg : Cfg) (s : Sheet) (hg : s.InGrid) : ∀ c ∈ cellsOf cfg s, c.1 < 1048576 ∧ c.2.1 < 16384 := by
  intro c hc
  obtain ⟨row, hrow, cell, hcell, rfl⟩ := (mem_cells (expect cfg) s c).mp hc
  exact ⟨(hg row hrow).1, (hg row hrow).2 cell hcell⟩

/-- `worksheet_range_ref` of an encoded sheet, seen through any view `V v b` ("the reader's value `v` shows as `b`")
    under which `Empty` and only `Empty` shows as `e`: the tight bounding rectangle of the cells that do not show as
    `e`, every cell of the sheet at its position, `e` everywhere else. `V := (· = ·)` is the range itself,
    `V v d := toData env v = .ok d` what a caller of `worksheet_range` sees. -/
theorem range_view_spec {β : Type} (V : Val → β → Prop) (e : β) (g : CellSpec → β)
    (cfg : Cfg) (s : Sheet) (lay : Layout) (hl : lay.Legal) (hwf : s.WF) (hok : s.ContentOk cfg)
    (hg : ∀ row ∈ s, ∀ cell ∈ row.2, V (expect cfg cell.2) (g cell.2))
    (he : ∀ v b, V v b → (b = e ↔ v = .empty)) (h0 : V .empty e) :
    let D := s.flatMap fun row => row.2.map fun cell => (row.1, cell.1, g cell.2)
    ((∀ c ∈ D, c.2.2 = e) → worksheetRange cfg (renderSheet s lay) = .ok Range.empty) ∧
    ((∃ c ∈ D, c.2.2 ≠ e) → ∃ rg, worksheetRange cfg (renderSheet s lay) = .ok rg ∧ rg.inner.length ≠ 0 ∧
      (∀ c ∈ D, c.2.2 ≠ e → rg.sr ≤ c.1 ∧ c.1 ≤ rg.er ∧ rg.sc ≤ c.2.1 ∧ c.2.1 ≤ rg.ec) ∧
      (∃ c ∈ D, c.2.2 ≠ e ∧ c.1 = rg.sr) ∧ (∃ c ∈ D, c.2.2 ≠ e ∧ c.1 = rg.er) ∧
      (∃ c ∈ D, c.2.2 ≠ e ∧ c.2.1 = rg.sc) ∧ (∃ c ∈ D, c.2.2 ≠ e ∧ c.2.1 = rg.ec) ∧
      (∀ c ∈ D, V (rg.valAt c.1 c.2.1) c.2.2) ∧
      (∀ p q, (∀ c ∈ D, ¬ (c.1 = p ∧ c.2.1 = q)) → V (rg.valAt p q) e)) := by
  intro D
  rw [worksheetRange_render cfg s lay hl hwf.inGrid hok]
  have hall_p := cellsOf_pairwise cfg s hwf
  generalize hne_def : (cellsOf cfg s).filter (fun c => c.2.2 ≠ .empty) = ne
  have hmem : ∀ c, c ∈ ne ↔ c ∈ cellsOf cfg s ∧ c.2.2 ≠ .empty := by
    intro c; rw [← hne_def, List.mem_filter]; simp
  have toAll : ∀ x ∈ D, ∃ c ∈ cellsOf cfg s, c.1 = x.1 ∧ c.2.1 = x.2.1 ∧ V c.2.2 x.2.2 := by
    intro x hx
    obtain ⟨row, hrow, cell, hcell, rfl⟩ := (mem_cells g s x).mp hx
    exact ⟨_, (mem_cells (expect cfg) s _).mpr ⟨row, hrow, cell, hcell, rfl⟩, rfl, rfl, hg row hrow cell hcell⟩
  have toD : ∀ c ∈ cellsOf cfg s, ∃ x ∈ D, x.1 = c.1 ∧ x.2.1 = c.2.1 ∧ V c.2.2 x.2.2 := by
    intro c hc
    obtain ⟨row, hrow, cell, hcell, rfl⟩ := (mem_cells (expect cfg) s c).mp hc
    exact ⟨_, (mem_cells g s _).mpr ⟨row, hrow, cell, hcell, rfl⟩, rfl, rfl, hg row hrow cell hcell⟩
  constructor
  · intro h
    have : ne = [] := List.eq_nil_iff_forall_not_mem.mpr fun c hc => by
      obtain ⟨hc, hcne⟩ := (hmem c).mp hc
      obtain ⟨x, hx, _, _, hv⟩ := toD c hc
      exact hcne ((he _ _ hv).mp (h x hx))
    rw [this]; rfl
  · rintro ⟨x0, hx0, hx0ne⟩
    obtain ⟨c0, hc0, _, _, hv0⟩ := toAll x0 hx0
    have hne : ne ≠ [] := List.ne_nil_of_mem ((hmem c0).mpr ⟨hc0, fun h => hx0ne ((he _ _ hv0).mpr h)⟩)
    obtain ⟨rg, hrg⟩ := Range.fromSparse_of_pre ne <|
      Range.sparsePre_of_sheet ne fun c hc =>
        cellsOf_inGrid cfg s hwf.inGrid c ((hmem c).mp hc).1
    obtain ⟨-, hlen, hbox, hside, -, hat, hfree⟩ := Range.fromSparse_spec_all ne rg hrg
    obtain ⟨h1, h2, h3, h4⟩ := hside hne
    -- a side attained by a cell of the range is attained by a cell that does not show as `e`
    have tr : ∀ {P : Nat → Nat → Prop}, (∃ c ∈ ne, P c.1 c.2.1) → ∃ x ∈ D, x.2.2 ≠ e ∧ P x.1 x.2.1 := by
      rintro P ⟨c, hc, hP⟩
      obtain ⟨hc, hcne⟩ := (hmem c).mp hc
      obtain ⟨x, hx, e1, e2, hv⟩ := toD c hc
      exact ⟨x, hx, fun h => hcne ((he _ _ hv).mp h), by rw [e1, e2]; exact hP⟩
    refine ⟨rg, hrg, mt hlen.mp hne, ?_, tr (P := fun r _ => r = rg.sr) h1, tr (P := fun r _ => r = rg.er) h2,
      tr (P := fun _ q => q = rg.sc) h3, tr (P := fun _ q => q = rg.ec) h4, ?_, ?_⟩
    · intro x hx hxne
      obtain ⟨c, hc, e1, e2, hv⟩ := toAll x hx
      exact e1 ▸ e2 ▸ hbox c ((hmem c).mpr ⟨hc, fun h => hxne ((he _ _ hv).mpr h)⟩)
    · intro x hx
      obtain ⟨c, hc, e1, e2, hv⟩ := toAll x hx
      rw [← e1, ← e2]
      by_cases hcv : c.2.2 = .empty
      · -- a blank cell: no cell of the range shares its position
        rw [hfree _ _ fun y hy hpos => ((hmem y).mp hy).2 (lex_unique hall_p ((hmem y).mp hy).1 hc hpos ▸ hcv)]
        rw [hcv] at hv; exact hv
      · -- row-major order survives the filter, so no two cells of the range share a position
        have hdist : ne.Pairwise (fun a b => ¬ (a.1 = b.1 ∧ a.2.1 = b.2.1)) := hne_def ▸ (hall_p.filter _).imp Lex.ne_pos
        rw [hat hdist c ((hmem c).mpr ⟨hc, hcv⟩)]; exact hv
    · intro p q hfreeD
      rw [hfree p q fun c hc hpos => by
        obtain ⟨x, hx, e1, e2, _⟩ := toD c ((hmem c).mp hc).1
        exact hfreeD x hx (by rw [e1, e2]; exact hpos)]
      exact h0

@[simp] theorem nSi_ne_nSst : (nSi = nSst) = False := eq_false (by decide)
@[simp] theorem nSst_ne_nSi : (nSst = nSi) = False := eq_false (by decide)
@[simp] theorem nSi_ne_nT : (nSi = nT) = False := eq_false (by decide)
@[simp] theorem nT_ne_nSi : (nT = nSi) = False := eq_false (by decide)
@[simp] theorem nSi_ne_nR : (nSi = nR) = False := eq_false (by decide)
@[simp] theorem nR_ne_nSi : (nR = nSi) = False := eq_false (by decide)
@[simp] theorem nSi_ne_nRPh : (nSi = nRPh) = False := eq_false (by decide)
@[simp] theorem nRPh_ne_nSi : (nRPh = nSi) = False := eq_false (by decide)

/-- a `<t>` in the main loop of `read_string`: its text goes to the rich buffer if there is one, else it is the value -/
theorem sstLoop_t (p : Bool) (rich : Option Bytes) (s : Bytes) (rest : List Ev) (acc : List Bytes) :
    sstLoop (tEvents p s ++ rest) (some (q p nSi, .main rich false)) acc =
      sstLoop rest (some (q p nSi, match rich with
        | some r => .main (some (r ++ s)) false
        | none => .toEnd 0 s)) acc := by
  by_cases hs : s = [] <;> cases rich <;>
    simp only [tEvents, hs, if_true, if_false, List.cons_append, List.nil_append, List.append_nil, sstLoop,
      strStep.eq_def, ln_t, nT_ne_nR, nT_ne_nRPh, and_self]

theorem sstLoop_runs (p : Bool) (runs : List Bytes) (rich : Option Bytes) (rest : List Ev) (acc : List Bytes)
    (hne : runs ≠ []) :
    sstLoop (runs.flatMap (runEvents p) ++ rest) (some (q p nSi, .main rich false)) acc =
      sstLoop rest (some (q p nSi, .main (some (rich.getD [] ++ runs.flatten)) false)) acc := by
  induction runs generalizing rich with
  | nil => exact absurd rfl hne
  | cons r rs ih =>
    simp only [List.flatMap_cons, runEvents, List.append_assoc, List.cons_append, List.nil_append, sstLoop,
      strStep.eq_def, ln_r, if_true, sstLoop_t, q_eq, nR_ne_nSi, nR_ne_nRPh, if_false]
    by_cases hrs : rs = []
    · subst hrs; simp only [List.flatMap_nil, List.nil_append, List.flatten_cons, List.flatten_nil, List.append_nil]
    · rw [ih _ hrs, Option.getD_some, List.flatten_cons, List.append_assoc]

theorem sstLoop_phonetic (p : Bool) (rich : Option Bytes) (ph : Option Bytes) (rest : List Ev) (acc : List Bytes) :
    sstLoop (phoneticEvents p ph ++ rest) (some (q p nSi, .main rich false)) acc =
      sstLoop rest (some (q p nSi, .main rich false)) acc := by
  cases ph with
  | none => rfl
  | some ph =>
    -- after `<rPh>` a `<t>` is not read
    by_cases hs : ph = [] <;>
      simp only [phoneticEvents, tEvents, hs, List.cons_append, List.nil_append, sstLoop,
        strStep.eq_def, ln_rph, ln_t, nRPh_ne_nR, nT_ne_nR, nT_ne_nRPh, q_eq, nRPh_ne_nSi, nT_ne_nSi,
        Bool.true_eq_false, and_false, if_true, if_false]

theorem sstLoop_item (p : Bool) (it : SstItem) (rest : List Ev) (acc : List Bytes) :
    sstLoop (renderSi p it ++ rest) none acc = sstLoop rest none (it.text :: acc) := by
  cases it with
  | plain s =>
    simp only [renderSi, List.append_assoc, List.cons_append, List.nil_append, sstLoop, ln_si, if_true, sstLoop_t,
      strStep.eq_def, Option.getD_some, SstItem.text]
  | emptyElem =>
    simp only [renderSi, List.cons_append, List.nil_append, sstLoop, ln_si, if_true, strStep.eq_def,
      Option.getD_none, SstItem.text]
  | rich runs ph =>
    simp only [renderSi, List.append_assoc, List.cons_append, List.nil_append, sstLoop, ln_si, if_true]
    by_cases hr : runs = []
    · subst hr
      simp only [List.flatMap_nil, List.nil_append, sstLoop_phonetic, sstLoop, strStep.eq_def, if_true,
        Option.getD_none, SstItem.text, List.flatten_nil]
    · simp only [sstLoop_runs p runs none _ _ hr, sstLoop_phonetic, sstLoop, strStep.eq_def, if_true, Option.getD_none,
        Option.getD_some, List.nil_append, SstItem.text]

theorem sstLoop_items (p : Bool) (items : List SstItem) (rest : List Ev) (acc : List Bytes) :
    sstLoop (items.flatMap (renderSi p) ++ rest) none acc =
      sstLoop rest none ((items.map SstItem.text).reverse ++ acc) := by
  induction items generalizing acc with
  | nil => rfl
  | cons it its ih =>
    rw [List.flatMap_cons, List.append_assoc, sstLoop_item, ih, List.map_cons, List.reverse_cons, List.append_assoc]
    rfl

/-! ### the reader never panics (after ledger D30-a/c/d, D39) -/

theorem readV_returns (cfg : Cfg) (attrs : Attrs) (v : Bytes) : (readV cfg attrs v).Returns := by
  rw [readV_of_attrs]
  cases getAttr attrs nT with
  | none => exact .ok _
  | some t =>
    -- one `.ite` per `if t = …` of the table `readV_of_attrs`, in its order: s, b, e, d, str, n, is, else;
    -- the two holes are the lookups of `t="s"` and `t="e"`
    refine .ite ?_ (.ite (.ok _) (.ite ?_ (.ite (.ok _) (.ite (.ok _) (.ite (.ite (.ok _) (.ok _)) (.ite (.err _) (.err _)))))))
    · cases cfg.strings[(atoiUsize v).getD 0]? with
      | some s => exact .ok _
      | none => exact .err _
    · cases parseError v with
      | some k => exact .ok _
      | none => exact .err _

theorem step_returns (cfg : Cfg) (st : St) (ev : Ev) : (step cfg st ev).Returns := by
  obtain ⟨mode, row, col, out⟩ := st
  cases mode with
  | done => exact .ok _
  | rows =>
    cases ev with
    | start n attrs =>
      simp only [step.eq_def]
      refine .ite ?_ (.ite ?_ (.ok _))
      · cases getAttr attrs nR with
        | none => exact .ok _
        | some range => dsimp only; exact (getRow_returns range).elim (fun _ => .ok _) .err
      · cases getAttr attrs nR with
        | none => exact .ok _
        | some range => dsimp only; exact (getRowColumn_returns range).elim (fun _ => .ok _) .err
    | stop n => exact .ite (.ok _) (.ite (.ok _) (.ok _))
    | text s => exact .ok _
    | other => exact .ok _
  | cell pos attrs v =>
    cases ev with
    | start n a => exact .ite (.ok _) (.ite (.ok _) (.ite (.ok _) (.err _)))
    | stop n => exact .ite (.ok _) (.ok _)
    | text s => exact .ok _
    | other => exact .ok _
  | inV pos attrs vname acc =>
    cases ev with
    | start n a => exact .ok _
    | stop n =>
      simp only [step.eq_def]
      exact .ite ((readV_returns cfg attrs acc).elim (fun _ => .ok _) .err) (.ok _)
    | text s => exact .ok _
    | other => exact .ok _
  | inF pos attrs name depth =>
    cases ev with
    | start n a => exact .ite (.ok _) (.ok _)
    | stop n => exact .ite (.ite (.ok _) (.ok _)) (.ok _)
    | text s => exact .ok _
    | other => exact .ok _
  | inIs pos attrs closing m =>
    simp only [step.eq_def]
    cases strStep closing m ev with
    | cont m' => exact .ok _
    | ret v => cases v <;> exact .ok _

theorem run_returns (cfg : Cfg) (evs : List Ev) (st : St) : (run cfg evs st).2.Returns := by
  induction evs generalizing st with
  | nil => exact .ite (.ok _) (.err _)
  | cons ev rest ih =>
    rcases step_returns cfg st ev with ⟨st', h⟩ | ⟨e, h⟩ <;> simp only [run, h]
    · split
      · exact .ok _
      · exact ih st'
    · exact .err _

theorem readerNew_returns (evs : List Ev) (d : Dims) (b : Bool) : (readerNew evs d b).Returns := by
  induction evs generalizing d b with
  | nil => exact .ite (.err _) (.err _)
  | cons ev rest ih =>
    cases ev with
    | start n attrs =>
      rw [readerNew]
      refine .ite ?_ (.ite (.ok _) (ih _ _))
      cases getAttr attrs nRef with
      | none => exact .err _
      | some rdim => dsimp only; exact (getDimension_returns rdim).elim (fun _ => ih _ _) .err
    | text s => exact ih _ _
    | stop n => exact ih _ _
    | other => exact ih _ _

end XlsxCells
