import CalVerif.Spec.MetadataEnc
import CalVerif.Lemmas.ListLoops
/-! xlsx and ods: the event loops of `read_workbook` / `parse_content` on the segments of an encoded document. The xlsx
    segments are composed here (`readWorkbookXlsx_encoded`, which the hand-over lemmas need too); the ods ones are composed
    in the proof of `C16.sheets_in_order_ods` itself. -/
open Meta MetaEnc

namespace MetaLemmas

/-- the namespace declaration `xmlns:id="…"` is not the relationship-id attribute (fix f69fe90) -/
theorem xmlns_id_not_rid : ¬ relIdKey "xmlns:id" := by decide

theorem xlsxVis_lookup (v : SheetVisible) : Gen.xlsxVisTable.lookup (xlsxVisName v) = some v := by
  cases v <;> rfl

theorem sheetAttrs_name (rels : List (String × String)) (v : String) (rest : List (String × String)) (acc : SheetAcc) :
    sheetAttrs rels (("name", v) :: rest) acc = sheetAttrs rels rest { acc with name := v } := by
  rw [sheetAttrs]; simp only [if_true]

theorem sheetAttrs_other (rels : List (String × String)) (k v : String) (rest : List (String × String)) (acc : SheetAcc)
    (h1 : k ≠ "name") (h2 : k ≠ "state") (h3 : ¬ relIdKey k) :
    sheetAttrs rels ((k, v) :: rest) acc = sheetAttrs rels rest acc := by
  rw [sheetAttrs]; simp only [h1, h2, h3, if_false]

theorem sheetAttrs_state (rels : List (String × String)) (vis : SheetVisible) (rest : List (String × String)) (acc : SheetAcc) :
    sheetAttrs rels (("state", xlsxVisName vis) :: rest) acc = sheetAttrs rels rest { acc with visible := vis } := by
  rw [sheetAttrs]
  have : ("state" : String) ≠ "name" := by decide
  simp only [this, if_false, if_true, xlsxVis_lookup]

theorem sheetAttrs_rid (rels : List (String × String)) (k v t : String) (acc : SheetAcc)
    (hk : ridKeyOk k) (ht : rels.lookup v = some t) :
    sheetAttrs rels [(k, v)] acc = .ok { acc with path := xlsxPath t.toList } := by
  have hn : k ≠ "name" := fun h => absurd (h ▸ hk).1 (by decide)
  have hst : k ≠ "state" := fun h => absurd (h ▸ hk).1 (by decide)
  rw [sheetAttrs]
  have hc : relIdKey k := hk
  simp only [hn, hst, hc, if_false, if_true, ht, sheetAttrs]

theorem xlsxSheet_encoded (rels : List (String × String)) (ridKey : String) (hk : ridKeyOk ridKey) (s : XSheet) (hs : s.ok rels) :
    xlsxSheet rels (sheetAttrList ridKey s) = .ok (xsheetDecoded s) := by
  obtain ⟨h1, h2, h3⟩ := hs
  unfold sheetAttrList
  have hsid : sheetAttrs rels (("sheetId", s.sheetId) :: ((if s.writeState then [("state", xlsxVisName s.vis)] else []) ++ [(ridKey, s.rid)])) { name := s.name }
      = .ok { name := s.name, path := xlsxPath s.target.toList, visible := s.vis } := by
    rw [sheetAttrs_other rels "sheetId" _ _ _ (by decide) (by decide) (by decide)]
    cases hw : s.writeState with
    | true =>
      simp only [if_true, List.cons_append, List.nil_append]
      rw [sheetAttrs_state, sheetAttrs_rid rels ridKey s.rid s.target _ hk h1]
    | false =>
      have hv := h3 hw
      simp only [Bool.false_eq_true, if_false, List.nil_append]
      rw [sheetAttrs_rid rels ridKey s.rid s.target _ hk h1, hv]
  unfold xlsxSheet
  simp only [List.cons_append, List.nil_append]
  rw [sheetAttrs_name]
  have : ({ name := s.name } : SheetAcc) = { ({} : SheetAcc) with name := s.name } := rfl
  rw [← this, hsid]
  simp only [h2, xsheetDecoded]


section steps
variable (cfg : XlsxCfg) (rels : List (String × String))

theorem loop_start (n : String) (attrs : List (String × String)) (rest : List Ev)
    (sh : List (Sheet String × List Char)) (nm : List (String × String)) (d : Bool) :
    xlsxLoopWith cfg rels (.start n attrs :: rest) ⟨sh, nm, d, none, none⟩ =
      if cfg.skipExt ∧ localName n = "extLst" then xlsxLoopWith cfg rels rest ⟨sh, nm, d, none, some (n, 0)⟩
      else if localName n = "sheet" then
        match xlsxSheet rels attrs with
        | .ok s => xlsxLoopWith cfg rels rest ⟨sh ++ [s], nm, d, none, none⟩
        | .err e => .err e
        | .panic e => .panic e
        | .outOfFuel => .outOfFuel
      else if cfg.prMatch n then xlsxLoopWith cfg rels rest ⟨sh, nm, date1904Upd cfg.keepFlag d attrs, none, none⟩
      else if localName n = "definedName" then
        match attrs.lookup "name" with
        | some name => xlsxLoopWith cfg rels rest ⟨sh, nm, d, some (name, n, ""), none⟩
        | none => xlsxLoopWith cfg rels rest ⟨sh, nm, d, none, none⟩
      else xlsxLoopWith cfg rels rest ⟨sh, nm, d, none, none⟩ :=
  rfl

theorem loop_end (n : String) (rest : List Ev) (sh : List (Sheet String × List Char)) (nm : List (String × String)) (d : Bool) :
    xlsxLoopWith cfg rels (.end_ n :: rest) ⟨sh, nm, d, none, none⟩ =
      if localName n = "workbook" then .ok ⟨sh, nm, d, none, none⟩ else xlsxLoopWith cfg rels rest ⟨sh, nm, d, none, none⟩ :=
  rfl

theorem loop_start_skip (n : String) (attrs : List (String × String)) (rest : List Ev)
    (sh : List (Sheet String × List Char)) (nm : List (String × String)) (d : Bool) (hx : localName n ≠ "extLst")
    (h1 : localName n ≠ "sheet") (h2 : cfg.prMatch n = false) (h3 : localName n ≠ "definedName") :
    xlsxLoopWith cfg rels (.start n attrs :: rest) ⟨sh, nm, d, none, none⟩ = xlsxLoopWith cfg rels rest ⟨sh, nm, d, none, none⟩ := by
  rw [loop_start, if_neg (fun h => hx h.2), if_neg h1, h2, if_neg Bool.false_ne_true, if_neg h3]

theorem loop_start_workbookPr (n : String) (attrs : List (String × String)) (rest : List Ev)
    (sh : List (Sheet String × List Char)) (nm : List (String × String)) (d : Bool)
    (hx : localName n ≠ "extLst") (h1 : localName n ≠ "sheet") (h2 : cfg.prMatch n = true) :
    xlsxLoopWith cfg rels (.start n attrs :: rest) ⟨sh, nm, d, none, none⟩ =
      xlsxLoopWith cfg rels rest ⟨sh, nm, date1904Upd cfg.keepFlag d attrs, none, none⟩ := by
  rw [loop_start, if_neg (fun h => hx h.2), if_neg h1, h2, if_pos rfl]

theorem loop_end_skip (n : String) (rest : List Ev) (sh : List (Sheet String × List Char)) (nm : List (String × String)) (d : Bool)
    (h : localName n ≠ "workbook") :
    xlsxLoopWith cfg rels (.end_ n :: rest) ⟨sh, nm, d, none, none⟩ = xlsxLoopWith cfg rels rest ⟨sh, nm, d, none, none⟩ :=
  if_neg h

theorem loop_sheet_elem (n : String) (attrs : List (String × String)) (hn : localName n = "sheet")
    (s : Sheet String × List Char) (h : xlsxSheet rels attrs = .ok s) (rest : List Ev)
    (sh : List (Sheet String × List Char)) (nm : List (String × String)) (d : Bool) :
    xlsxLoopWith cfg rels (.start n attrs :: .end_ n :: rest) ⟨sh, nm, d, none, none⟩ =
      xlsxLoopWith cfg rels rest ⟨sh ++ [s], nm, d, none, none⟩ := by
  rw [loop_start, hn, h, if_neg (fun h => absurd h.2 (by decide)), if_pos rfl]
  exact loop_end_skip cfg rels _ _ _ _ _ (by rw [hn]; decide)

theorem loop_end_workbook (n : String) (rest : List Ev) (sh : List (Sheet String × List Char)) (nm : List (String × String)) (d : Bool)
    (h : localName n = "workbook") :
    xlsxLoopWith cfg rels (.end_ n :: rest) ⟨sh, nm, d, none, none⟩ = .ok ⟨sh, nm, d, none, none⟩ :=
  if_pos h

theorem loop_end_in (rest : List Ev) (sh : List (Sheet String × List Char)) (nm : List (String × String)) (d : Bool)
    (name q val : String) :
    xlsxLoopWith cfg rels (.end_ q :: rest) ⟨sh, nm, d, some (name, q, val), none⟩ =
      xlsxLoopWith cfg rels rest ⟨sh, nm ++ [(name, val)], d, none, none⟩ :=
  if_pos rfl

theorem loop_skip_body (q : String) (depth : Nat) (body : List Ev) (hb : ExtOk q body) (rest : List Ev) (st : XlsxSt)
    (hk : st.skip = some (q, depth)) : xlsxLoopWith cfg rels (body ++ rest) st = xlsxLoopWith cfg rels rest st := by
  obtain ⟨sh, nm, d, cur, _⟩ := st
  cases hk
  refine ListLoops.skip_append (f := fun evs => xlsxLoopWith cfg rels evs ⟨sh, nm, d, cur, some (q, depth)⟩) (fun e rest he => ?_) body rest hb
  cases e with
  | start n a => exact if_neg fun h => he.1 a (by rw [h])
  | end_ n => exact if_neg fun h => he.2 (by rw [h])
  | _ => rfl

theorem loop_skip_end (q : String) (rest : List Ev) (sh : List (Sheet String × List Char)) (nm : List (String × String)) (d : Bool)
    (cur : Option (String × String × String)) :
    xlsxLoopWith cfg rels (.end_ q :: rest) ⟨sh, nm, d, cur, some (q, 0)⟩ = xlsxLoopWith cfg rels rest ⟨sh, nm, d, cur, none⟩ :=
  (if_pos rfl).trans (if_pos rfl)

end steps

theorem inertX_nil : InertX [] := fun _ h => by cases h
theorem inertO_nil : InertO [] := fun _ h => by cases h
theorem gaps_ok_empty : ({} : Gaps).ok := ⟨inertX_nil, inertX_nil, inertX_nil, inertX_nil, inertX_nil⟩
theorem gaps_okO_empty : ({} : Gaps).okO := ⟨inertO_nil, inertO_nil, inertO_nil, inertO_nil, inertO_nil⟩

instance (evs : List Ev) : Decidable (InertX evs) :=
  @List.decidableBAll _ _ (fun e => by cases e <;> exact inferInstance) evs

theorem loop_inert (rels : List (String × String)) (evs : List Ev) (hi : InertX evs) (rest : List Ev)
    (sh : List (Sheet String × List Char)) (nm : List (String × String)) (d : Bool) :
    xlsxLoopWith cfgNow rels (evs ++ rest) ⟨sh, nm, d, none, none⟩ = xlsxLoopWith cfgNow rels rest ⟨sh, nm, d, none, none⟩ := by
  refine ListLoops.skip_append (f := fun evs => xlsxLoopWith cfgNow rels evs ⟨sh, nm, d, none, none⟩) (fun e rest he => ?_) evs rest hi
  cases e with
  | start n a =>
    obtain ⟨hni, hpr⟩ := he
    simp only [xlsxAlwaysInterpreted, List.mem_cons, List.not_mem_nil, or_false, not_or] at hni
    obtain ⟨h0, h1, h3⟩ := hni
    by_cases h2 : localName n = "workbookPr"
    · -- a `workbookPr` without `date1904`: the flag stays as it is
      have hd : date1904Upd cfgNow.keepFlag d a = d := by simp only [date1904Upd, cfgNow, hpr h2, if_true]
      rw [loop_start_workbookPr cfgNow rels n a _ sh nm d h0 h1 (beq_iff_eq.mpr h2), hd]
    · exact loop_start_skip cfgNow rels n a _ sh nm d h0 h1 (beq_eq_false_iff_ne.mpr h2) h3
  | end_ n => exact loop_end_skip cfgNow rels n _ sh nm d he
  | _ => rfl

theorem loop_sheets (cfg : XlsxCfg) (rels : List (String × String)) (q : String → String) (hq : QOk q)
    (ridKey : String) (hk : ridKeyOk ridKey) (sheets : List XSheet) (hs : ∀ s ∈ sheets, s.ok rels) (rest : List Ev)
    (sh : List (Sheet String × List Char)) (nm : List (String × String)) (d : Bool) :
    xlsxLoopWith cfg rels (sheets.flatMap (sheetEvents q ridKey) ++ rest) ⟨sh, nm, d, none, none⟩ =
      xlsxLoopWith cfg rels rest ⟨sh ++ sheets.map xsheetDecoded, nm, d, none, none⟩ :=
  ListLoops.pass_items (fun evs sh => xlsxLoopWith cfg rels evs ⟨sh, nm, d, none, none⟩) (sheetEvents q ridKey) xsheetDecoded sheets
    (fun s hm rest sh => loop_sheet_elem cfg rels (q "sheet") (sheetAttrList ridKey s) (hq _ (by simp [xlsxNames])) _
      (xlsxSheet_encoded rels ridKey hk s (hs s hm)) rest sh nm d)
    rest sh

/-- text and CDATA sections contribute alike to the text of a defined name (fix 5d9aab9) -/
theorem loop_texts (cfg : XlsxCfg) (rels : List (String × String)) (hc : cfg.cdataNames = true) :
    ∀ (chunks : List (Bool × String)) (rest : List Ev) (sh : List (Sheet String × List Char)) (nm : List (String × String)) (d : Bool)
      (name q val : String),
      xlsxLoopWith cfg rels (chunks.map chunkEv ++ rest) ⟨sh, nm, d, some (name, q, val), none⟩ =
      xlsxLoopWith cfg rels rest ⟨sh, nm, d, some (name, q, chunks.foldl (fun acc c => acc ++ c.2) val), none⟩
  | [], _, _, _, _, _, _, _ => rfl
  | (true, t) :: cs, rest, sh, nm, d, name, q, val => (if_pos hc).trans (loop_texts cfg rels hc cs rest sh nm d name q (val ++ t))
  | (false, t) :: cs, rest, sh, nm, d, name, q, val => loop_texts cfg rels hc cs rest sh nm d name q (val ++ t)

theorem loop_names (cfg : XlsxCfg) (rels : List (String × String)) (q : String → String) (hq : QOk q)
    (hpm : cfg.prMatch (q "definedName") = false) (hc : cfg.cdataNames = true)
    (names : List (String × List (Bool × String))) (rest : List Ev) (sh : List (Sheet String × List Char))
    (nm : List (String × String)) (d : Bool) :
    xlsxLoopWith cfg rels (names.flatMap (definedNameEvents q) ++ rest) ⟨sh, nm, d, none, none⟩ =
      xlsxLoopWith cfg rels rest ⟨sh, nm ++ names.map dnValue, d, none, none⟩ := by
  refine ListLoops.pass_items (fun evs nm => xlsxLoopWith cfg rels evs ⟨sh, nm, d, none, none⟩) _ _ names (fun n _ rest nm => ?_) rest nm
  simp only [definedNameEvents, List.cons_append, List.nil_append, List.append_assoc]
  -- the tests of `loop_start` in their order: not `extLst`, not `sheet`, not `workbookPr` (`hpm`), but `definedName`
  rw [loop_start, hq _ (by simp [xlsxNames]), hpm, List.lookup_cons_self,
    if_neg (fun h => absurd h.2 (by decide)), if_neg (by decide), if_neg Bool.false_ne_true, if_pos rfl]
  dsimp only
  rw [loop_texts cfg rels hc, loop_end_in]
  rfl

theorem date1904Upd_of_false (attrs : List (String × String)) : date1904Upd true false attrs = date1904Attr attrs := by
  unfold date1904Upd date1904Attr
  simp only [if_true]

theorem loop_start_q (rels : List (String × String)) (q : String → String) (n : String) (hn : localName (q n) = n)
    (hni : n ∉ xlsxInterpreted) (a : List (String × String)) (rest : List Ev)
    (sh : List (Sheet String × List Char)) (nm : List (String × String)) (d : Bool) :
    xlsxLoopWith cfgNow rels (.start (q n) a :: rest) ⟨sh, nm, d, none, none⟩ = xlsxLoopWith cfgNow rels rest ⟨sh, nm, d, none, none⟩ := by
  simp only [xlsxInterpreted, List.mem_cons, List.not_mem_nil, or_false, not_or] at hni
  exact loop_start_skip _ _ _ _ _ _ _ _ (by rw [hn]; exact hni.1) (by rw [hn]; exact hni.2.1)
    (by show (localName (q n) == "workbookPr") = false; rw [hn]; exact beq_eq_false_iff_ne.mpr hni.2.2.1)
    (by rw [hn]; exact hni.2.2.2)

theorem loop_pr (rels : List (String × String)) (q : String → String) (hq : QOk q) (pr : Option (List (String × String)))
    (rest : List Ev) (sh : List (Sheet String × List Char)) (nm : List (String × String)) :
    xlsxLoopWith cfgNow rels (prEvents q pr ++ rest) ⟨sh, nm, false, none, none⟩ =
      xlsxLoopWith cfgNow rels rest ⟨sh, nm, (pr.map date1904Attr).getD false, none, none⟩ := by
  have qpr : localName (q "workbookPr") = "workbookPr" := hq _ (by simp [xlsxNames])
  cases pr with
  | none => rfl
  | some attrs =>
    simp only [prEvents, List.cons_append, List.nil_append, Option.map_some, Option.getD_some]
    rw [loop_start_workbookPr _ _ _ _ _ _ _ _ (by rw [qpr]; decide) (by rw [qpr]; decide)
      (by show (localName (q "workbookPr") == "workbookPr") = true; rw [qpr]; rfl),
      loop_end_skip _ _ _ _ _ _ _ (by rw [qpr]; decide)]
    exact congrArg (fun b => xlsxLoopWith cfgNow rels rest ⟨sh, nm, b, none, none⟩) (date1904Upd_of_false attrs)

/-- `read_to_end_into` of the `extLst` arm (fix 4dbff9e) -/
theorem loop_ext (rels : List (String × String)) (q : String → String) (hq : QOk q) (ext : Option (List Ev))
    (hext : ∀ body, ext = some body → ExtOk (q "extLst") body) (rest : List Ev) (sh : List (Sheet String × List Char))
    (nm : List (String × String)) (d : Bool) :
    xlsxLoopWith cfgNow rels (extEvents q ext ++ rest) ⟨sh, nm, d, none, none⟩ =
      xlsxLoopWith cfgNow rels rest ⟨sh, nm, d, none, none⟩ := by
  cases hE : ext with
  | none => rfl
  | some body =>
    simp only [extEvents, List.cons_append, List.append_assoc, List.nil_append]
    rw [loop_start, if_pos ⟨rfl, hq _ (by simp [xlsxNames])⟩,
      loop_skip_body _ _ (q "extLst") 0 body (hext body hE) _ _ rfl, loop_skip_end]

/-- `read_workbook` on an encoded `workbook.xml`: the statement of C16's `sheets_in_order_xlsx`; it stands here for the
    hand-over lemmas of `Lemmas/MetadataCompose.lean` -/
theorem readWorkbookXlsx_encoded (rels : List (String × String)) (q : String → String) (hq : QOk q)
    (ridKey : String) (hk : ridKeyOk ridKey) (pr : Option (List (String × String)))
    (sheets : List XSheet) (hs : ∀ s ∈ sheets, s.ok rels) (names : List (String × List (Bool × String)))
    (ext : Option (List Ev)) (hext : ∀ body, ext = some body → ExtOk (q "extLst") body)
    (g : Gaps) (hg : g.ok) :
    readWorkbookXlsx rels (workbookEvents q ridKey pr sheets names ext g) =
      .ok (⟨sheets.map (fun s => ⟨s.name, s.kind, s.vis⟩), names.map dnValue, (pr.map date1904Attr).getD false⟩,
           sheets.map (fun s => xlsxPath s.target.toList)) := by
  unfold readWorkbookXlsx xlsxLoop workbookEvents
  obtain ⟨hg0, hg1, hg2, hg3, hg4⟩ := hg
  rw [loop_start_q rels q "workbook" (hq _ (by simp [xlsxNames])) (by simp [xlsxInterpreted]),
    loop_inert rels g.g0 hg0, loop_pr rels q hq, loop_inert rels g.g1 hg1,
    loop_start_q rels q "sheets" (hq _ (by simp [xlsxNames])) (by simp [xlsxInterpreted]),
    loop_sheets _ _ q hq ridKey hk sheets hs, loop_end_skip _ _ _ _ _ _ _ (by rw [hq "sheets" (by simp [xlsxNames])]; decide),
    loop_inert rels g.g2 hg2,
    loop_start_q rels q "definedNames" (hq _ (by simp [xlsxNames])) (by simp [xlsxInterpreted]),
    loop_names _ _ q hq (by show (localName (q "definedName") == "workbookPr") = false
                            rw [hq _ (by simp [xlsxNames])]; rfl) rfl,
    loop_end_skip _ _ _ _ _ _ _ (by rw [hq "definedNames" (by simp [xlsxNames])]; decide),
    loop_inert rels g.g3 hg3, loop_ext rels q hq ext hext, loop_inert rels g.g4 hg4,
    loop_end_workbook _ _ _ _ _ _ _ (hq _ (by simp [xlsxNames]))]
  simp [xlsxFinish, xsheetDecoded, List.map_map, Function.comp_def]

theorem ods_top_start_skip (n : String) (attrs : List (String × String)) (rest : List Ev)
    (sh : List (Sheet String)) (nm : List (String × String)) (sty : List (String × SheetVisible)) (sn : Option String)
    (h : n ∉ odsInterpreted) :
    odsLoop (.start n attrs :: rest) ⟨sh, nm, sty, sn, .top⟩ = odsLoop rest ⟨sh, nm, sty, sn, .top⟩ := by
  simp only [odsInterpreted, List.mem_cons, List.not_mem_nil, or_false, not_or] at h
  -- the four tests of `odsLoop` at top level, in the order of `odsInterpreted`
  exact (if_neg h.1).trans ((if_neg fun h' => h.2.1 h'.2).trans ((if_neg h.2.2.1).trans (if_neg h.2.2.2)))

theorem ods_top_end (n : String) (rest : List Ev) (sh : List (Sheet String)) (nm : List (String × String))
    (sty : List (String × SheetVisible)) (sn : Option String) :
    odsLoop (.end_ n :: rest) ⟨sh, nm, sty, sn, .top⟩ = odsLoop rest ⟨sh, nm, sty, sn, .top⟩ :=
  rfl

theorem ods_style (st : String × Option Bool) (rest : List Ev) (sh : List (Sheet String)) (nm : List (String × String))
    (sty : List (String × SheetVisible)) (sn : Option String) :
    odsLoop (styleEvents st ++ rest) ⟨sh, nm, sty, sn, .top⟩ =
      odsLoop rest ⟨sh, nm, (st.1, styleVis st.2) :: sty, some st.1, .top⟩ := by
  obtain ⟨name, d⟩ := st
  rcases d with _ | _ | _ <;> rfl

theorem ods_inert (evs : List Ev) (hi : InertO evs) (rest : List Ev) (sh : List (Sheet String)) (nm : List (String × String))
    (sty : List (String × SheetVisible)) (sn : Option String) :
    odsLoop (evs ++ rest) ⟨sh, nm, sty, sn, .top⟩ = odsLoop rest ⟨sh, nm, sty, sn, .top⟩ := by
  refine ListLoops.skip_append (f := fun evs => odsLoop evs ⟨sh, nm, sty, sn, .top⟩) (fun e rest he => ?_) evs rest hi
  cases e with
  | start n a => exact ods_top_start_skip n a _ sh nm sty sn he
  | _ => rfl

theorem ods_styles : ∀ (styles : List (String × Option Bool)) (rest : List Ev) (sh : List (Sheet String)) (nm : List (String × String))
    (sty : List (String × SheetVisible)) (sn : Option String),
    odsLoop (styles.flatMap styleEvents ++ rest) ⟨sh, nm, sty, sn, .top⟩ =
      odsLoop rest ⟨sh, nm, styleTable styles ++ sty, styles.foldl (fun _ s => some s.1) sn, .top⟩
  | [], _, _, _, _, _ => rfl
  | s :: ss, rest, sh, nm, sty, sn => by
    rw [List.flatMap_cons, List.append_assoc, ods_style, ods_styles ss]
    simp [styleTable]

theorem ods_table_body (body : List Ev) (hb : ∀ e ∈ body, e ≠ Ev.end_ "table:table") (rest : List Ev) (sh : List (Sheet String))
    (nm : List (String × String)) (sty : List (String × SheetVisible)) (sn : Option String) :
    odsLoop (body ++ rest) ⟨sh, nm, sty, sn, .table⟩ = odsLoop rest ⟨sh, nm, sty, sn, .table⟩ := by
  refine ListLoops.skip_append (f := fun evs => odsLoop evs ⟨sh, nm, sty, sn, .table⟩) (fun e rest he => ?_) body rest hb
  cases e with
  | end_ n => exact if_neg fun h => he (by rw [h])
  | _ => rfl

/-- the start tag of a table carries its name and its optional style, whichever of the two attribute lists is written -/
theorem tableEvents_attrs (t : OTable) : ∃ A, tableEvents t = .start "table:table" A :: (t.body ++ [.end_ "table:table"]) ∧
    A.lookup "table:name" = some t.name ∧ A.lookup "table:style-name" = t.styleName := by
  obtain ⟨name, sty, body⟩ := t
  cases sty with
  | none => exact ⟨_, rfl, by simp, by simp⟩
  | some s => exact ⟨_, rfl, by simp [List.lookup], by simp⟩

theorem ods_table (styles0 : List (String × Option Bool)) (t : OTable) (ht : t.ok) (rest : List Ev) (sh : List (Sheet String))
    (nm : List (String × String)) (sn : Option String) :
    odsLoop (tableEvents t ++ rest) ⟨sh, nm, styleTable styles0, sn, .top⟩ =
      odsLoop rest ⟨sh ++ [⟨t.name, .workSheet, tableVis styles0 t⟩], nm, styleTable styles0, sn, .top⟩ := by
  obtain ⟨A, hA, hl, hl2⟩ := tableEvents_attrs t
  rw [hA, List.cons_append, List.append_assoc, odsLoop]
  simp only [String.reduceEq, if_false, and_false, if_true, hl, hl2]
  rw [ods_table_body t.body ht, List.singleton_append, odsLoop, if_pos rfl, tableVis]
  cases t.styleName <;> rfl

theorem ods_tables (styles0 : List (String × Option Bool)) (tables : List OTable) (ht : ∀ t ∈ tables, t.ok) (rest : List Ev)
    (sh : List (Sheet String)) (nm : List (String × String)) (sn : Option String) :
    odsLoop (tables.flatMap tableEvents ++ rest) ⟨sh, nm, styleTable styles0, sn, .top⟩ =
      odsLoop rest ⟨sh ++ tables.map (fun t => ⟨t.name, .workSheet, tableVis styles0 t⟩), nm, styleTable styles0, sn, .top⟩ :=
  ListLoops.pass_items (fun evs sh => odsLoop evs ⟨sh, nm, styleTable styles0, sn, .top⟩) _ _ tables
    (fun t hm rest sh => ods_table styles0 t (ht t hm) rest sh nm sn) rest sh

theorem ods_named (names : List (String × String)) (rest : List Ev) (sh : List (Sheet String)) (nm : List (String × String))
    (sty : List (String × SheetVisible)) (sn : Option String) (acc : List (String × String)) :
    odsLoop (names.flatMap namedRangeEvents ++ rest) ⟨sh, nm, sty, sn, .named acc⟩ =
      odsLoop rest ⟨sh, nm, sty, sn, .named (acc ++ names)⟩ := by
  have h := ListLoops.pass_items (fun evs acc => odsLoop evs ⟨sh, nm, sty, sn, .named acc⟩) namedRangeEvents id names
    (fun n _ rest acc => by
      have h1 : isNamedElem "table:named-range" = true := by decide
      have ha : namedAttrs [("table:name", n.1), ("table:cell-range-address", n.2)] ("", "") = n := by simp [namedAttrs]
      simp only [namedRangeEvents, List.cons_append, List.nil_append]
      rw [odsLoop]
      simp only [h1, if_true, ha]
      rw [odsLoop]
      simp only [h1, if_true, id])
    rest acc
  rwa [List.map_id] at h

/-- `read_named_expressions` replaces the names collected so far by those the element lists -/
theorem ods_named_elem (names : List (String × String)) (rest : List Ev) (sh : List (Sheet String)) (nm : List (String × String))
    (sty : List (String × SheetVisible)) (sn : Option String) :
    odsLoop (.start "table:named-expressions" [] :: (names.flatMap namedRangeEvents ++ (.end_ "table:named-expressions" :: rest)))
        ⟨sh, nm, sty, sn, .top⟩ = odsLoop rest ⟨sh, names, sty, sn, .top⟩ := by
  rw [odsLoop]
  simp only [String.reduceEq, if_false, and_false, if_true]
  rw [ods_named, odsLoop]
  simp only [isNamedElem, String.reduceEq, decide_false, Bool.or_self, Bool.false_eq_true, if_false, if_true, List.nil_append]

end MetaLemmas
