import CalVerif.Lemmas.MetadataBase
import CalVerif.Lemmas.MetadataXls
import CalVerif.Lemmas.MetadataXlsb
import CalVerif.Lemmas.MetadataXml
/-! Lemmas for Props/C16.lean: each reader of the metadata model on the output of its encoder, one module per reader
    (`MetadataXls`, `MetadataXlsb`, `MetadataXml`), and `MetadataBase` for the theorems about the code tables and exact names. -/
