import CalVerif.Spec.XlsbEnc
import CalVerif.Lemmas.Range
import CalVerif.Lemmas.ResReturns
import CalVerif.Lemmas.LittleEndian
/-! Lemmas for C03: one equation of `Xlsb.interpret` per record kind, what it makes of every well-formed cell record
    (`interpret_cellRec`) and the classification of its outcomes (`interpret_cases`); the readers on encoder output, up
    to the whole sheet part; for every reader function ONE lemma on arbitrary bytes (`…_returnsWith`, `…_returns`): it
    neither panics nor runs out of fuel — a fuelled loop under the premise that the fuel exceeds the bytes left — and,
    where a caller needs it, what it consumes or the coordinates of the cells read. -/

namespace Xlsb

theorem u32le_cons4 (a b c d : UInt8) (rest : Bytes) :
    u32le (a :: b :: c :: d :: rest) = a.toNat + 256 * b.toNat + 65536 * c.toNat + 16777216 * d.toNat := rfl

/-! The fields of this format as instances of `Lemmas/LittleEndian.lean` (`le16 v = le 2 v` and `u16le b = rd 2 b 0` hold by `rfl`). -/

theorem le32_eq (v : Nat) : le32 v = LittleEndian.le 4 v := by simp only [le32, LittleEndian.le, Nat.div_div_eq_div_mul]
theorem le64_eq (v : Nat) : le64 v = LittleEndian.le 8 v := by rw [le64, le32_eq, le32_eq, LittleEndian.le_add 4 4, ← LittleEndian.le_mod 4 v]
theorem u32le_eq (b : Bytes) : u32le b = LittleEndian.rd 4 b 0 := by simp only [u32le, LittleEndian.rd, Nat.reduceAdd]; omega
theorem u64le_eq (b : Bytes) : u64le b = LittleEndian.rd 8 b 0 := by rw [u64le, u32le_eq, u32le_eq, LittleEndian.rd_drop, LittleEndian.rd_add 4 4]

theorem u16le_le16 (n : Nat) (h : n < 65536) (rest : Bytes) : u16le (le16 n ++ rest) = n := LittleEndian.rd_le 2 n rest h

theorem u32le_le32 (n : Nat) (h : n < 4294967296) (rest : Bytes) : u32le (le32 n ++ rest) = n :=
  (LittleEndian.bytes4 n).trans (Nat.mod_eq_of_lt h)

theorem le32_length (n : Nat) : (le32 n).length = 4 := rfl

theorem cellHead_length (col style : Nat) : (cellHead col style).length = 8 := rfl

theorem drop_cellHead (col style : Nat) (body : Bytes) : (cellHead col style ++ body).drop 8 = body := rfl

theorem getD_cellHead (col style : Nat) (x : UInt8) (body : Bytes) : (cellHead col style ++ x :: body).getD 8 0 = x := rfl

theorem u32le_cellHead (col style : Nat) (h : col < 4294967296) (body : Bytes) :
    u32le (cellHead col style ++ body) = col := by
  unfold cellHead
  rw [List.append_assoc, u32le_le32 col h]

theorem cellFormat_cellHead (fmts : List Nat) (col style : Nat) (body : Bytes) :
    cellFormat fmts (cellHead col style ++ body) = fmts[style % 16777216]? := by
  have : style % 256 + 256 * (style / 256 % 256) + 65536 * (style / 65536 % 256) = style % 16777216 := by omega
  rw [← this]
  simp only [cellFormat, cellHead, le32, List.cons_append, List.nil_append, List.getD_cons_succ, List.getD_cons_zero, UInt8.toNat_ofNat', Nat.mod_mod]

theorem formatF64_cellHead (ctx : Ctx) (col style : Nat) (body : Bytes) (bits : Nat) :
    formatF64 ctx (cellHead col style ++ body) bits = styled ctx style bits := by
  unfold formatF64 styled
  rw [cellFormat_cellHead]
  rfl

/-- `CellRec.tail` is the `match` on the formula part that `CellRec.payload` writes out -/
theorem payload_eq (c : CellRec) : c.payload = cellHead c.col c.style ++ (c.content.bytes ++ c.tail) :=
  List.append_assoc ..

theorem u64le_le64 (n : Nat) (h : n < 18446744073709551616) (rest : Bytes) : u64le (le64 n ++ rest) = n := by
  rw [u64le_eq, le64_eq, LittleEndian.rd_le 8 n rest h]

theorem le64_length (n : Nat) : (le64 n).length = 8 := rfl

theorem rkInt_eq (w : Nat) (h : w < 4294967296) : rkInt w = rkIntSpec w := by
  unfold rkInt rkIntSpec
  simp only
  split <;> split <;> omega

theorem rkFloatBits_eq (w : Nat) : rkFloatBits w = (w / 4) * 17179869184 := by
  unfold rkFloatBits; omega

theorem unitsBytes_length (us : List Nat) : (unitsBytes us).length = 2 * us.length := by
  induction us with
  | nil => rfl
  | cons u rest ih => simp only [unitsBytes, List.length_cons, ih]; omega

theorem units_unitsBytes (us : List Nat) (h : ∀ u ∈ us, u < 65536) : units (unitsBytes us) = us := by
  induction us with
  | nil => rfl
  | cons u rest ih =>
    rw [unitsBytes, units, LittleEndian.bytes2, Nat.mod_eq_of_lt (h u List.mem_cons_self),
      ih fun x hx => h x (List.mem_cons_of_mem _ hx)]

theorem wideStr_wideBytes (us : List Nat) (hl : us.length < 4294967296) (h : ∀ u ∈ us, u < 65536) (rest : Bytes) :
    wideStr (wideBytes us ++ rest) = .ok (us, 4 + us.length * 2) := by
  unfold wideStr wideBytes
  have hlen : (le32 us.length ++ unitsBytes us ++ rest).length = 4 + 2 * us.length + rest.length := by
    simp only [List.length_append, le32_length, unitsBytes_length]
  rw [List.append_assoc, u32le_le32 _ hl]
  rw [← List.append_assoc, hlen]
  rw [if_neg (by omega), if_neg (by omega)]
  have : ((le32 us.length ++ unitsBytes us ++ rest).drop 4).take (us.length * 2) = unitsBytes us := by
    rw [List.append_assoc, List.drop_left' (le32_length _)]
    rw [List.take_left' (by rw [unitsBytes_length]; omega)]
  rw [this, units_unitsBytes us h]

theorem xlsbErrTable_eq_berr : Gen.xlsbErrTable = berrTable := by decide

theorem isErrCode_eq_berr (c : Nat) : isErrCode c = (berrKind c).isSome := by
  unfold isErrCode berrKind; rw [xlsbErrTable_eq_berr]

theorem wideStr_returns (b : Bytes) : (wideStr b).Returns := by
  unfold wideStr
  split
  · exact .err _
  · split
    · exact .err _
    · exact .ok _

theorem interpret_rk (ctx : Ctx) (p : Bytes) :
    interpret ctx 2 p = if p.length < 12 then .fail (.err "Unrecognized") else .value (u32le p) (rkVal ctx p) := rfl

theorem interpret_error (ctx : Ctx) (t : Nat) (ht : t = 3 ∨ t = 11) (p : Bytes) :
    interpret ctx t p = if p.length < 9 then .fail (.err "Unrecognized")
      else if isErrCode (p.getD 8 0).toNat then .value (u32le p) (.error (p.getD 8 0).toNat)
      else .fail (.err "CellError") := by
  rcases ht with rfl | rfl <;> rfl

theorem interpret_bool (ctx : Ctx) (t : Nat) (ht : t = 4 ∨ t = 10) (p : Bytes) :
    interpret ctx t p = if p.length < 9 then .fail (.err "Unrecognized")
      else .value (u32le p) (.bool ((p.getD 8 0).toNat ≠ 0)) := by
  rcases ht with rfl | rfl <;> rfl

theorem interpret_real (ctx : Ctx) (t : Nat) (ht : t = 5 ∨ t = 9) (p : Bytes) :
    interpret ctx t p = if p.length < 16 then .fail (.err "Unrecognized")
      else .value (u32le p) (formatF64 ctx p (u64le (p.drop 8))) := by
  rcases ht with rfl | rfl <;> rfl

theorem interpret_str (ctx : Ctx) (t : Nat) (ht : t = 6 ∨ t = 8) (p : Bytes) :
    interpret ctx t p = if p.length < 8 then .fail (.err "Unrecognized")
      else match wideStr (p.drop 8) with
        | .ok (s, _) => .value (u32le p) (.str s)
        | .err e => .fail (.err e)
        | .panic s => .fail (.panic s)
        | .outOfFuel => .fail .outOfFuel := by
  rcases ht with rfl | rfl <;> rfl

theorem interpret_isst (ctx : Ctx) (p : Bytes) :
    interpret ctx 7 p = if p.length < 12 then .fail (.err "Unrecognized")
      else match ctx.strings[u32le (p.drop 8)]? with
        | some s => .value (u32le p) (.str s)
        | none => .fail (.err "Unrecognized") := rfl

theorem interpret_rowHdr (ctx : Ctx) (p : Bytes) :
    interpret ctx 0 p = if p.length < 4 then .fail (.err "Unrecognized") else .row (u32le p) := rfl

theorem interpret_stop (ctx : Ctx) (p : Bytes) : interpret ctx 0x92 p = .stop := rfl

theorem interpret_skip (ctx : Ctx) (t : Nat) (p : Bytes) (h : interpretedId t = false) :
    interpret ctx t p = .skip := by
  have h' : t ≠ 0 ∧ ¬ (2 ≤ t ∧ t ≤ 11) ∧ t ≠ 0x92 := by
    simp only [interpretedId, Bool.or_eq_false_iff, Bool.and_eq_false_imp, decide_eq_false_iff_not, decide_eq_true_eq] at h
    omega
  unfold interpret
  rw [if_neg (by omega), if_neg (by omega), if_neg (by omega), if_neg (by omega), if_neg (by omega),
    if_neg (by omega), if_neg (by omega), if_neg (by omega)]

theorem rkVal_cellHead (ctx : Ctx) (col style w : Nat) (hw : w < 4294967296) (tail : Bytes) :
    some (rkVal ctx (cellHead col style ++ (le32 w ++ tail))) = valueOf ctx style (.rk w) := by
  unfold rkVal valueOf
  simp only [drop_cellHead, u32le_le32 w hw, formatF64_cellHead, cellFormat_cellHead, rkInt_eq w hw, rkFloatBits_eq]
  by_cases h1 : w / 2 % 2 = 1
  · rw [if_pos h1, if_pos h1]
    by_cases h2 : w % 2 = 1
    · rw [if_pos h2, if_pos h2]
    · rw [if_neg h2, if_neg h2]
      unfold styled
      generalize ctx.formats[style % 16777216]? = o
      rcases o with _ | _ | _ | _ | n <;> rfl
  · rw [if_neg h1, if_neg h1]

/-- In this shape the hypothesis `t = a ∨ t = b` of `interpret_error / _bool / _real / _str` is met by a record id left
    as `_`: both right sides evaluate to the constant and the formula id of the content's kind. -/
theorem recId_or (col style : Nat) (content : Content) (fmla : Option Bytes) :
    (CellRec.mk col style content fmla).recId = (CellRec.mk col style content none).recId ∨
    (CellRec.mk col style content fmla).recId = (CellRec.mk col style content (some [])).recId := by
  cases fmla with
  | none => exact .inl rfl
  | some f => exact .inr rfl

/-- the step a well-formed cell record is to the cell loop; the formula bytes do not occur. (In the last arm `valueOf`
    of an rk / bool / real / str content is never `none`; the `.skip` there only completes the match.) -/
def cellStep (ctx : Ctx) (col style : Nat) : Content → Step
  | .blank => .skip
  | .err code => if isErrCode code then .value col (.error code) else .fail (.err "CellError")
  | .isst i => match ctx.strings[i]? with
    | some s => .value col (.str s)
    | none => .fail (.err "Unrecognized")
  | c => match valueOf ctx style c with
    | some v => .value col v
    | none => .skip

theorem interpret_cellRec (ctx : Ctx) (c : CellRec) (hwf : c.WF) :
    interpret ctx c.recId c.payload = cellStep ctx c.col c.style c.content := by
  obtain ⟨col, style, content, fmla⟩ := c
  obtain ⟨hcol, hc⟩ := hwf
  rw [payload_eq]
  generalize CellRec.tail ⟨col, style, content, fmla⟩ = tail
  have hu := u32le_cellHead col style hcol
  have hlen : ∀ body, (cellHead col style ++ body).length = 8 + body.length := fun body => List.length_append
  cases content with
  | blank => exact interpret_skip ctx 1 _ rfl
  | rk w =>
    -- `change`: the payload with `Content.bytes` evaluated (`rfl`); the record id stays `_` where `recId_or` supplies it
    change interpret ctx 2 (cellHead col style ++ (le32 w ++ tail)) = _
    rw [interpret_rk, if_neg (by rw [hlen, List.length_append, le32_length]; omega), hu]
    simp only [cellStep, ← rkVal_cellHead ctx col style w hc tail]
  | err code =>
    change interpret ctx _ (cellHead col style ++ UInt8.ofNat code :: tail) = _
    rw [interpret_error ctx _ (recId_or col style (.err code) fmla), if_neg (by rw [hlen, List.length_cons]; omega), hu,
      getD_cellHead, UInt8.toNat_ofNat_of_lt' hc]
    rfl
  | bool b =>
    change interpret ctx _ (cellHead col style ++ UInt8.ofNat b :: tail) = _
    rw [interpret_bool ctx _ (recId_or col style (.bool b) fmla), if_neg (by rw [hlen, List.length_cons]; omega), hu,
      getD_cellHead, UInt8.toNat_ofNat']
    rfl
  | real bits =>
    change interpret ctx _ (cellHead col style ++ (le64 bits ++ tail)) = _
    rw [interpret_real ctx _ (recId_or col style (.real bits) fmla),
      if_neg (by rw [hlen, List.length_append, le64_length]; omega), hu, formatF64_cellHead, drop_cellHead, u64le_le64 bits hc]
    rfl
  | str us =>
    change interpret ctx _ (cellHead col style ++ (wideBytes us ++ tail)) = _
    rw [interpret_str ctx _ (recId_or col style (.str us) fmla), if_neg (by rw [hlen]; omega), hu, drop_cellHead,
      wideStr_wideBytes us hc.1 hc.2]
    rfl
  | isst i =>
    change interpret ctx 7 (cellHead col style ++ (le32 i ++ tail)) = _
    rw [interpret_isst, if_neg (by rw [hlen, List.length_append, le32_length]; omega), hu, drop_cellHead, u32le_le32 i hc]
    rfl

theorem cellStep_of_value {ctx : Ctx} {col style : Nat} {content : Content} {v : Val}
    (hv : valueOf ctx style content = some v) : cellStep ctx col style content = .value col v := by
  cases content with
  | blank => cases hv
  | err code =>
    simp only [valueOf, ← isErrCode_eq_berr] at hv
    simp only [cellStep]
    split at hv
    · rw [if_pos ‹_›, ← Option.some.inj hv]
    · cases hv
  | isst i =>
    simp only [valueOf] at hv
    simp only [cellStep]
    cases hs : ctx.strings[i]? with
    | none => rw [hs] at hv; cases hv
    | some s => rw [hs] at hv; exact congrArg _ (Option.some.inj hv)
  | rk _ | bool _ | real _ | str _ => simp only [cellStep, hv]

/-- for the records the sheet encoder writes (blank or value-bearing) -/
theorem cellStep_spec {ctx : Ctx} {c : CellRec} (hv : c.content = .blank ∨ (valueOf ctx c.style c.content).isSome) :
    cellStep ctx c.col c.style c.content = match valueOf ctx c.style c.content with
      | some v => .value c.col v
      | none => .skip := by
  rcases hv with hb | hs
  · rw [hb]; rfl
  · obtain ⟨v, hv⟩ := Option.isSome_iff_exists.mp hs
    rw [cellStep_of_value hv, hv]

theorem interpret_cases (ctx : Ctx) (t : Nat) (p : Bytes) :
    (∃ e, interpret ctx t p = .fail (.err e)) ∨ (∃ v, interpret ctx t p = .value (u32le p) v) ∨
    interpret ctx t p = .row (u32le p) ∨ interpret ctx t p = .stop ∨ interpret ctx t p = .skip := by
  cases hi : interpretedId t with
  | false => exact .inr (.inr (.inr (.inr (interpret_skip ctx t p hi))))
  | true =>
    have ht : t = 0 ∨ t = 2 ∨ (t = 3 ∨ t = 11) ∨ (t = 4 ∨ t = 10) ∨ (t = 5 ∨ t = 9) ∨ (t = 6 ∨ t = 8) ∨ t = 7 ∨ t = 0x92 := by
      simp only [interpretedId, Bool.or_eq_true, Bool.and_eq_true, decide_eq_true_eq] at hi
      omega
    rcases ht with rfl | rfl | h | h | h | h | rfl | rfl
    · rw [interpret_rowHdr]; split
      · exact .inl ⟨_, rfl⟩
      · exact .inr (.inr (.inl rfl))
    · rw [interpret_rk]; split
      · exact .inl ⟨_, rfl⟩
      · exact .inr (.inl ⟨_, rfl⟩)
    · rw [interpret_error ctx t h]; split
      · exact .inl ⟨_, rfl⟩
      · split
        · exact .inr (.inl ⟨_, rfl⟩)
        · exact .inl ⟨_, rfl⟩
    · rw [interpret_bool ctx t h]; split
      · exact .inl ⟨_, rfl⟩
      · exact .inr (.inl ⟨_, rfl⟩)
    · rw [interpret_real ctx t h]; split
      · exact .inl ⟨_, rfl⟩
      · exact .inr (.inl ⟨_, rfl⟩)
    · rw [interpret_str ctx t h]; split
      · exact .inl ⟨_, rfl⟩
      · exact (wideStr_returns (p.drop 8)).elim (fun _ => .inr (.inl ⟨_, rfl⟩)) fun _ => .inl ⟨_, rfl⟩
    · rw [interpret_isst]; split
      · exact .inl ⟨_, rfl⟩
      · cases ctx.strings[u32le (p.drop 8)]? with
        | none => exact .inl ⟨_, rfl⟩
        | some s => exact .inr (.inl ⟨_, rfl⟩)
    · exact .inr (.inr (.inr (.inl (interpret_stop ctx p))))

theorem u32le_lt (b : Bytes) : u32le b < 4294967296 := by
  rw [u32le_eq]; exact LittleEndian.rd_lt 4 b 0

theorem interpret_row_lt (ctx : Ctx) (t : Nat) (p : Bytes) (r : Nat) (h : interpret ctx t p = .row r) : r < 4294967296 := by
  rcases interpret_cases ctx t p with ⟨e, he⟩ | ⟨v, he⟩ | he | he | he <;> rw [he] at h
  · cases h
  · cases h
  · exact Step.row.inj h ▸ u32le_lt p
  all_goals cases h

theorem readType_encId (t : Nat) (ht : t < 16384) (wide : Bool) (rest : Bytes) :
    readType (encId t wide ++ rest) = .ok (t, rest) := by
  unfold encId
  split
  · simp only [List.cons_append, List.nil_append, readType, UInt8.toNat_ofNat']
    rw [if_pos (by omega)]
    congr 2; omega
  · simp only [List.cons_append, List.nil_append, readType, UInt8.toNat_ofNat']
    rw [if_neg (by omega)]
    congr 2; omega

theorem div128_lt {n w : Nat} (h : n < 2 ^ (7 * (w + 1))) : n / 128 < 2 ^ (7 * w) :=
  Nat.div_lt_of_lt_mul (by rwa [Nat.mul_add, Nat.pow_add, Nat.mul_comm] at h)

/-- the next group the encoder writes: the low seven bits, with the continuation bit unless it is the last -/
def group (w n : Nat) : UInt8 := UInt8.ofNat (n % 128 + if w = 0 then 0 else 128)

theorem encLenW_succ (w n : Nat) : encLenW (w + 1) n = group w n :: encLenW w (n / 128) := by
  cases w <;> rfl

theorem group_spec (w n : Nat) : ((group w n).toNat < 128 ↔ w = 0) ∧ (group w n).toNat % 128 = n % 128 := by
  rw [group, UInt8.toNat_ofNat']; split <;> omega

/-- the loop of `fill_buffer` with `w` groups still to come, `prev` being the group before them: its continuation
    bit says whether `w = 0`. Fuel beyond `w` is harmless (`w ≤ f`): the loop stops at the group without continuation
    bit, not at its bound — which is why every width that holds the number, minimal or not, is read back. -/
theorem readLenGo_encLenW (rest : Bytes) : ∀ (w f i acc n : Nat) (prev : UInt8), (prev.toNat < 128 ↔ w = 0) → w ≤ f →
    n < 2 ^ (7 * w) → readLenGo f i acc prev (encLenW w n ++ rest) = .ok (acc + n * 2 ^ (7 * i), rest)
  | 0, f, i, acc, n, prev, hp, _, hn => by
    rw [Nat.lt_one_iff.mp hn, Nat.zero_mul, Nat.add_zero]
    cases f with
    | zero => rfl
    | succ f => unfold readLenGo; exact if_pos (hp.mpr rfl)
  | w + 1, f + 1, i, acc, n, prev, hp, hw, hn => by
    obtain ⟨hg, hm⟩ := group_spec w n
    rw [encLenW_succ, List.cons_append, readLenGo, if_neg (fun h => nomatch hp.mp h),
      readLenGo_encLenW rest w f (i + 1) _ (n / 128) (group w n) hg (Nat.le_of_succ_le_succ hw) (div128_lt hn), hm]
    have e : n / 128 * 2 ^ (7 * (i + 1)) = 128 * (n / 128) * 2 ^ (7 * i) := by
      rw [Nat.mul_add, Nat.pow_add, Nat.mul_comm (2 ^ (7 * i)), ← Nat.mul_assoc, Nat.mul_comm _ 128]
    rw [e, Nat.add_assoc, ← Nat.add_mul, Nat.add_comm (n % 128), Nat.div_add_mod]

theorem readLen_encLenW (n w : Nat) (hw1 : 1 ≤ w) (hw4 : w ≤ 4) (hn : n < 2 ^ (7 * w)) (rest : Bytes) :
    readLen (encLenW w n ++ rest) = .ok (n, rest) := by
  obtain ⟨w, rfl⟩ : ∃ w', w = w' + 1 := ⟨w - 1, by omega⟩
  obtain ⟨hg, hm⟩ := group_spec w n
  rw [encLenW_succ, List.cons_append, readLen,
    readLenGo_encLenW rest w 3 1 _ (n / 128) (group w n) hg (by omega) (div128_lt hn), hm]
  -- `2 ^ (7 * 1)` is `128` by evaluation
  rw [Nat.mul_comm, Nat.add_comm, Nat.div_add_mod]

theorem minLenWidth_ok (n : Nat) :
    1 ≤ minLenWidth n ∧ minLenWidth n ≤ 4 ∧ (n < 268435456 → n < 2 ^ (7 * minLenWidth n)) := by
  unfold minLenWidth
  split
  · exact ⟨by omega, by omega, fun _ => by omega⟩
  · split
    · exact ⟨by omega, by omega, fun _ => by omega⟩
    · split
      · exact ⟨by omega, by omega, fun _ => by omega⟩
      · exact ⟨by omega, by omega, fun _ => by omega⟩

theorem lenWidth_ok (n w : Nat) :
    1 ≤ lenWidth n w ∧ lenWidth n w ≤ 4 ∧ (n < 268435456 → n < 2 ^ (7 * lenWidth n w)) := by
  obtain ⟨m1, m4, mlt⟩ := minLenWidth_ok n
  unfold lenWidth
  split
  · exact ⟨m1, m4, mlt⟩
  · exact ⟨by omega, by omega, fun hn => Nat.lt_of_lt_of_le (mlt hn) (Nat.pow_le_pow_right (by omega) (by omega))⟩

theorem readLen_encLen (n w : Nat) (hn : n < 268435456) (rest : Bytes) :
    readLen (encLen n w ++ rest) = .ok (n, rest) := by
  obtain ⟨h1, h4, hlt⟩ := lenWidth_ok n w
  exact readLen_encLenW n _ h1 h4 (hlt hn) rest

theorem frame_eq (t : Nat) (p : Bytes) (wide : Bool) (w : Nat) (rest : Bytes) :
    frame t p wide w ++ rest = encId t wide ++ (encLen p.length w ++ (p ++ rest)) := by
  unfold frame; simp only [List.append_assoc]

theorem readType_frame (t : Nat) (ht : t < 16384) (p : Bytes) (wide : Bool) (w : Nat) (rest : Bytes) :
    readType (frame t p wide w ++ rest) = .ok (t, encLen p.length w ++ (p ++ rest)) := by
  rw [frame_eq, readType_encId t ht]

theorem fillBuffer_frame (buf p : Bytes) (hp : p.length < 268435456) (w : Nat) (rest : Bytes) :
    fillBuffer buf (encLen p.length w ++ (p ++ rest)) = .ok (p.length, p, rest) := by
  unfold fillBuffer
  rw [readLen_encLen _ _ hp]
  simp only
  rw [if_neg (by simp), List.take_left' rfl, List.drop_left' rfl]

/-- `fill_buffer` clears the buffer it is handed (`buf.clear()`): what was in it does not matter -/
theorem fillBuffer_buf (buf bs : Bytes) : fillBuffer buf bs = fillBuffer [] bs := rfl

/-- `read_type`, then `fill_buffer` on a cleared buffer (the model writes `fillBuffer`'s body out) -/
theorem readRecord_eq (bs : Bytes) :
    readRecord bs = match readType bs with
      | .ok (t, r) =>
        match fillBuffer [] r with
        | .ok (_, p, rest) => .ok (t, p, rest)
        | .err e => .err e
        | .panic s => .panic s
        | .outOfFuel => .outOfFuel
      | .err e => .err e
      | .panic s => .panic s
      | .outOfFuel => .outOfFuel := by
  unfold readRecord fillBuffer
  cases readType bs with
  | ok v =>
    dsimp only
    cases readLen v.2 with
    | ok w => dsimp only; split <;> rfl
    | _ => rfl
  | _ => rfl

theorem readRecord_frame (t : Nat) (ht : t < 16384) (p : Bytes) (hp : p.length < 268435456) (wide : Bool)
    (w : Nat) (rest : Bytes) : readRecord (frame t p wide w ++ rest) = .ok (t, p, rest) := by
  rw [readRecord_eq, readType_frame t ht]
  dsimp only
  rw [fillBuffer_frame [] p hp]

theorem Framed.bytes_eq (f : Framed) : f.bytes = frame f.id f.pay f.wide f.lenW := rfl

theorem readCells_data (ctx : Ctx) (endWide : Bool) (endLenW : Nat) (post : Bytes) :
    ∀ (data : List Framed) (f row : Nat), (∀ d ∈ data, d.item.OK ctx) → data.length < f →
      readCells ctx f (encodeItems data ++ (frame 0x92 [] endWide endLenW ++ post)) row
        = .ok (specCells ctx (data.map (·.item)) row)
  | _, 0, _, _, hf => absurd hf (Nat.not_lt_zero _)
  | [], f' + 1, row, _, _ => by
    simp only [encodeItems, List.nil_append, List.map_nil, specCells]
    rw [readCells, readRecord_frame _ (by omega) _ (by simp)]
    simp only [interpret_stop]
  | d :: rest, f' + 1, row, hok, hf => by
    have hd := hok d (List.mem_cons_self ..)
    have hrest : ∀ x ∈ rest, x.item.OK ctx := fun x hx => hok x (List.mem_cons_of_mem _ hx)
    have hf' : rest.length < f' := Nat.lt_of_succ_lt_succ hf
    simp only [encodeItems, List.append_assoc, List.map_cons]
    obtain ⟨item, wide, lenW⟩ := d
    cases item with
    | row r tail =>
      obtain ⟨hr, hl⟩ := hd
      rw [readCells, Framed.bytes]
      dsimp only [Item.recId, Item.payload]
      rw [readRecord_frame _ (Nat.zero_lt_succ _) _ (by rw [List.length_append, le32_length]; omega)]
      simp only [specCells]
      rw [interpret_rowHdr, if_neg (by simp [le32_length]), u32le_le32 r (by omega)]
      simp only
      rw [if_neg (by omega)]
      exact readCells_data ctx endWide endLenW post rest f' r hrest hf'
    | raw id p =>
      obtain ⟨hid, hni, hl⟩ := hd
      rw [readCells, Framed.bytes]
      dsimp only [Item.recId, Item.payload]
      rw [readRecord_frame _ hid _ hl]
      simp only [interpret_skip ctx id p hni, specCells]
      exact readCells_data ctx endWide endLenW post rest f' row hrest hf'
    | cell c =>
      obtain ⟨hwf, hl, hv⟩ := hd
      have hidlt : c.recId < 16384 := by
        unfold CellRec.recId; split <;> omega
      rw [readCells, Framed.bytes]
      dsimp only [Item.recId, Item.payload]
      rw [readRecord_frame _ hidlt _ hl]
      dsimp only
      rw [interpret_cellRec ctx c hwf, cellStep_spec hv]
      simp only [specCells]
      cases valueOf ctx c.style c.content with
      | none => exact readCells_data ctx endWide endLenW post rest f' row hrest hf'
      | some v =>
        dsimp only
        rw [readCells_data ctx endWide endLenW post rest f' row hrest hf']

/-- `bufAfter buf inner` (Spec) is the buffer the skipped records leave behind — the last payload, or `buf` when there is
    none; no caller reads it: the `fill_buffer` that follows clears it (`fillBuffer_buf`) and `nextSkipBlocks_enc` passes `_` -/
theorem skipToEnd_enc (e : Nat) (he : e < 16384) (ewide : Bool) (rest : Bytes) :
    ∀ (inner : List Framed) (f : Nat) (buf : Bytes), (∀ x ∈ inner, x.Fits ∧ x.id ≠ e) → inner.length < f →
      skipToEnd e f buf (encodeItems inner ++ (encId e ewide ++ rest)) = .ok (bufAfter buf inner, rest)
  | _, 0, _, _, hf => absurd hf (Nat.not_lt_zero _)
  | [], f + 1, buf, _, _ => by
    rw [encodeItems, List.nil_append, skipToEnd, readType_encId e he]
    exact if_pos rfl
  | x :: inner, f + 1, buf, h, hf => by
    obtain ⟨⟨hid, hpl⟩, hne⟩ := h x (List.mem_cons_self ..)
    rw [encodeItems, List.append_assoc, Framed.bytes_eq, skipToEnd, readType_frame _ hid]
    dsimp only
    rw [if_neg hne, fillBuffer_frame _ _ hpl]
    exact skipToEnd_enc e he ewide rest inner f _ (fun y hy => h y (List.mem_cons_of_mem _ hy)) (Nat.lt_of_succ_lt_succ hf)

theorem nextSkipBlocks_enc (target : Nat) (ht : target < 16384) (bounds : List (Nat × Option Nat))
    (tp : Bytes) (htp : tp.length < 268435456) (twide : Bool) (tw : Nat) (rest : Bytes) :
    ∀ (segs : List Seg) (f : Nat) (buf : Bytes), (∀ s ∈ segs, s.OK target bounds) → segsSize segs < f →
      nextSkipBlocks target bounds f buf (encodeSegs segs ++ (frame target tp twide tw ++ rest)) = .ok (tp.length, tp, rest)
  | _, 0, _, _, hf => absurd hf (Nat.not_lt_zero _)
  | [], f + 1, buf, _, _ => by
    rw [encodeSegs, List.nil_append, nextSkipBlocks, readType_frame _ ht]
    dsimp only
    rw [fillBuffer_frame _ _ htp]
    exact if_pos rfl
  | .one r :: segs, f + 1, buf, h, hf => by
    obtain ⟨⟨hid, hpl⟩, hne, hb⟩ := h (.one r) (List.mem_cons_self ..)
    rw [encodeSegs, Seg.bytes, List.append_assoc, Framed.bytes_eq, nextSkipBlocks, readType_frame _ hid]
    dsimp only
    rw [fillBuffer_frame _ _ hpl]
    dsimp only
    rw [if_neg hne, hb]
    exact nextSkipBlocks_enc target ht bounds tp htp twide tw rest segs f _ (fun y hy => h y (List.mem_cons_of_mem _ hy))
      (by rw [segsSize, Seg.size] at hf; omega)
  | .block s inner e :: segs, f + 1, buf, h, hf => by
    obtain ⟨⟨hid, hpl⟩, hne, hb, ⟨heid, hepl⟩, hin⟩ := h (.block s inner e) (List.mem_cons_self ..)
    rw [segsSize, Seg.size] at hf
    simp only [encodeSegs, Seg.bytes, List.append_assoc, Framed.bytes_eq]
    rw [nextSkipBlocks, readType_frame _ hid]
    dsimp only
    rw [fillBuffer_frame _ _ hpl]
    dsimp only
    rw [if_neg hne, hb]
    dsimp only
    rw [frame_eq e.id, skipToEnd_enc e.id heid e.wide _ inner f _ hin (by omega)]
    dsimp only
    rw [fillBuffer_frame _ _ hepl]
    exact nextSkipBlocks_enc target ht bounds tp htp twide tw rest segs f _ (fun y hy => h y (List.mem_cons_of_mem _ hy))
      (by omega)

theorem encLenW_length : ∀ (w n : Nat), (encLenW w n).length = w
  | 0, _ => rfl
  | 1, _ => rfl
  | w+2, n => by simp only [encLenW, List.length_cons, encLenW_length (w+1)]

theorem frame_length_ge (t : Nat) (p : Bytes) (wide : Bool) (w : Nat) : 2 ≤ (frame t p wide w).length := by
  have h1 : 1 ≤ (encId t wide).length := by unfold encId; split <;> simp
  have h2 := (lenWidth_ok p.length w).1
  simp only [frame, encLen, List.length_append, encLenW_length]; omega

theorem encodeItems_length_ge : ∀ (l : List Framed), 2 * l.length ≤ (encodeItems l).length
  | [] => by simp [encodeItems]
  | x :: l => by
    have := encodeItems_length_ge l
    have := frame_length_ge x.id x.pay x.wide x.lenW
    simp only [encodeItems, List.length_append, List.length_cons, Framed.bytes_eq]; omega

theorem encodeSegs_length_ge : ∀ (l : List Seg), 2 * segsSize l ≤ (encodeSegs l).length
  | [] => by simp [encodeSegs, segsSize]
  | .one r :: l => by
    have := encodeSegs_length_ge l
    have := frame_length_ge r.id r.pay r.wide r.lenW
    simp only [encodeSegs, segsSize, Seg.size, Seg.bytes, List.length_append, Framed.bytes_eq]; omega
  | .block s inner e :: l => by
    have := encodeSegs_length_ge l
    have := frame_length_ge s.id s.pay s.wide s.lenW
    have := frame_length_ge e.id e.pay e.wide e.lenW
    have := encodeItems_length_ge inner
    simp only [encodeSegs, segsSize, Seg.size, Seg.bytes, List.length_append, Framed.bytes_eq]; omega

theorem u32le_append (p t : Bytes) (h : 4 ≤ p.length) : u32le (p ++ t) = u32le p := by
  rw [u32le_eq, u32le_eq]; exact LittleEndian.rd_append_left 4 p t 0 (by omega)

/-- `XlsbCellsReader::new` on an encoded prologue: anything up to BrtWsDim, segments (records and skipped
    blocks) up to BrtBeginSheetData; the reader is left on the first record of the sheet data -/
theorem newReader_enc (pre1 pre2 : List Seg) (dims : Bytes) (dw : Bool) (dl : Nat) (bp : Bytes) (bw : Bool) (bl : Nat)
    (rest : Bytes) (h1 : ∀ s ∈ pre1, s.OK 0x0094 bounds1) (h2 : ∀ s ∈ pre2, s.OK 0x0091 bounds2)
    (hd : 16 ≤ dims.length ∧ dims.length < 268435456) (hb : bp.length < 268435456) :
    newReader (encodeSegs pre1 ++ (frame 0x0094 dims dw dl ++ (encodeSegs pre2 ++ (frame 0x0091 bp bw bl ++ rest))))
      = .ok (parseDimensions dims, rest) := by
  have hl1 := encodeSegs_length_ge pre1
  have hl2 := encodeSegs_length_ge pre2
  unfold newReader
  -- the model writes its two `bounds` lists out; they are `bounds1`, `bounds2` of the specification, unfolded by unification
  rw [nextSkipBlocks_enc 0x0094 (by omega) [(0x0081, none), (0x0093, none)] dims hd.2 dw dl _ pre1 _ [] h1 (by simp only [List.length_append]; omega)]
  dsimp only
  rw [if_neg (by omega),
    nextSkipBlocks_enc 0x0091 (by omega) [(0x0085, some 0x0086), (0x0025, some 0x0026), (0x01E5, none), (0x0186, some 0x0187)] bp hb bw bl rest pre2 _ dims h2 (by simp only [List.length_append]; omega)]

theorem styled_ne_empty (ctx : Ctx) (style bits : Nat) : styled ctx style bits ≠ .empty := by
  unfold styled; split <;> simp

theorem valueOf_forall (ctx : Ctx) (style : Nat) (P : Val → Prop) (hs : ∀ bits, P (styled ctx style bits))
    (hi : ∀ i, P (.int i)) (he : ∀ k, P (.error k)) (hb : ∀ b, P (.bool b)) (hu : ∀ us, P (.str us))
    (c : Content) (v : Val) (h : valueOf ctx style c = some v) : P v := by
  cases c with
  | blank => cases h
  | bool _ => cases h; exact hb _
  | str _ => cases h; exact hu _
  | real bits => cases h; exact hs _
  | err c =>
    simp only [valueOf] at h
    split at h <;> cases h
    exact he _
  | isst i =>
    simp only [valueOf, Option.map_eq_some_iff] at h
    obtain ⟨_, _, rfl⟩ := h
    exact hu _
  | rk w =>
    simp only [valueOf] at h
    split at h
    · split at h
      · cases h; exact hs _
      · split at h <;> cases h
        · exact hi _
        · exact hs _
    · cases h; exact hs _

theorem valueOf_ne_empty (ctx : Ctx) (style : Nat) : ∀ (c : Content) (v : Val), valueOf ctx style c = some v → v ≠ .empty :=
  valueOf_forall ctx style (· ≠ .empty) (styled_ne_empty ctx style) (fun _ => nofun) (fun _ => nofun) (fun _ => nofun) (fun _ => nofun)

theorem specCells_forall (ctx : Ctx) (P : Val → Prop) (hP : ∀ style c v, valueOf ctx style c = some v → P v) :
    ∀ (items : List Item) (row : Nat), ∀ c ∈ specCells ctx items row, P c.2.2
  | [], _, c, h => by simp [specCells] at h
  | .row r _ :: rest, _, c, h => specCells_forall ctx P hP rest r c (by simpa [specCells] using h)
  | .raw _ _ :: rest, row, c, h => specCells_forall ctx P hP rest row c (by simpa [specCells] using h)
  | .cell cr :: rest, row, c, h => by
    simp only [specCells] at h
    cases hv : valueOf ctx cr.style cr.content with
    | none => rw [hv] at h; exact specCells_forall ctx P hP rest row c h
    | some v =>
      rw [hv] at h
      rcases List.mem_cons.mp h with rfl | h'
      · exact hP _ _ v hv
      · exact specCells_forall ctx P hP rest row c h'

theorem decodeSheet_enc (ctx : Ctx) (pre1 pre2 : List Seg) (dims : Bytes) (dw : Bool) (dl : Nat) (bp : Bytes)
    (bw : Bool) (bl : Nat) (data : List Framed) (ew : Bool) (el : Nat) (post : Bytes)
    (h1 : ∀ s ∈ pre1, s.OK 0x0094 bounds1) (h2 : ∀ s ∈ pre2, s.OK 0x0091 bounds2)
    (hd : 16 ≤ dims.length ∧ dims.length < 268435456) (hb : bp.length < 268435456)
    (hok : ∀ d ∈ data, d.item.OK ctx) :
    decodeSheet ctx (sheetBytes pre1 dims dw dl pre2 bp bw bl data ew el post)
      = Range.fromSparse (specCells ctx (data.map (·.item)) 0) := by
  unfold decodeSheet sheetCells sheetBytes
  rw [newReader_enc pre1 pre2 dims dw dl bp bw bl _ h1 h2 hd hb]
  simp only [dimLen]
  have hlen := encodeItems_length_ge data
  rw [readCells_data ctx ew el post data _ 0 hok (by simp only [List.length_append]; omega)]
  simp only
  congr 1
  rw [List.filter_eq_self]
  intro c hc
  simpa using specCells_forall ctx (· ≠ .empty) (valueOf_ne_empty ctx) _ _ c hc

theorem sparsePre_of_gridSorted (S : List (Nat × Nat × Val)) (h : GridSorted S) : Range.sparsePre S :=
  Range.sparsePre_of_sheet S h.2

theorem gridSorted_le_last (S : List (Nat × Nat × Val)) (hne : S ≠ []) (h : GridSorted S) :
    ∀ c ∈ S, c.1 ≤ (S.getLast hne).1 := by
  intro c hc
  obtain ⟨i, hi, rfl⟩ := List.mem_iff_getElem.mp hc
  rw [List.getLast_eq_getElem]
  by_cases hlt : i = S.length - 1
  · subst hlt; exact Nat.le_refl _
  · exact List.pairwise_iff_getElem.mp h.1 i (S.length - 1) hi (by omega) (by omega)

theorem recordsGo_step {f : Nat} {bs : Bytes} {t : Nat} {p rest : Bytes} {l : List (Nat × Bytes)}
    (hr : readRecord bs = .ok (t, p, rest)) (hl : recordsGo f rest = .ok l) : recordsGo (f + 1) bs = .ok ((t, p) :: l) := by
  cases bs with
  | nil => cases hr
  | cons b bs => rw [recordsGo, hr]; dsimp only; rw [hl]

theorem recordsGo_enc : ∀ (l : List Framed) (f : Nat), (∀ x ∈ l, x.Fits) → l.length < f →
    recordsGo f (encodeItems l) = .ok (l.map fun x => (x.id, x.pay))
  | _, 0, _, hf => absurd hf (Nat.not_lt_zero _)
  | [], _ + 1, _, _ => rfl
  | x :: l, f + 1, h, hf =>
    recordsGo_step (readRecord_frame _ (h x (List.mem_cons_self ..)).1 _ (h x (List.mem_cons_self ..)).2 ..)
      (recordsGo_enc l f (fun y hy => h y (List.mem_cons_of_mem _ hy)) (Nat.lt_of_succ_lt_succ hf))

theorem specCells_insert_raw (ctx : Ctx) (id : Nat) (p : Bytes) (l2 : List Item) :
    ∀ (l1 : List Item) (row : Nat), specCells ctx (l1 ++ .raw id p :: l2) row = specCells ctx (l1 ++ l2) row
  | [], _ => rfl
  | .row r _ :: l1, _ => by simp only [List.cons_append, specCells]; exact specCells_insert_raw ctx id p l2 l1 r
  | .raw _ _ :: l1, row => by simp only [List.cons_append, specCells]; exact specCells_insert_raw ctx id p l2 l1 row
  | .cell c :: l1, row => by
    simp only [List.cons_append, specCells]
    rw [specCells_insert_raw ctx id p l2 l1 row]

theorem sstEntriesBytes_length_ge (post : Bytes) : ∀ (l : List SstEntry), ∀ e ∈ l,
    2 * segsSize e.pre ≤ (sstEntriesBytes l post).length
  | [], _, h => nomatch h
  | x :: l, e, h => by
    have hx := encodeSegs_length_ge x.pre
    simp only [sstEntriesBytes, List.length_append]
    rcases List.mem_cons.mp h with rfl | h'
    · omega
    · have := sstEntriesBytes_length_ge post l e h'; omega

theorem sstItems_enc (post : Bytes) : ∀ (l : List SstEntry) (fuel : Nat) (buf : Bytes) (acc : List (List Nat)),
    (∀ e ∈ l, e.OK) → (∀ e ∈ l, segsSize e.pre < fuel) →
    sstItems l.length fuel buf (sstEntriesBytes l post) acc = .ok (acc.reverse ++ l.map (·.text))
  | [], _, _, acc, _, _ => by rw [List.map_nil, List.append_nil]; rfl
  | e :: l, fuel, buf, acc, h, hf => by
    obtain ⟨hl, hu, hpl, hpre⟩ := h e (List.mem_cons_self ..)
    rw [List.length_cons, sstEntriesBytes, sstItems,
      nextSkipBlocks_enc 0x0013 (by omega) _ e.payload hpl e.wide e.lenW _ e.pre fuel buf hpre (hf e (List.mem_cons_self ..))]
    dsimp only
    -- of `SstEntry.OK`'s text bound (`hl`, 10^8) only `< 2^32` is used: the count field of the XLWideString holds the length
    rw [if_neg (show ¬ e.payload.length < 1 from Nat.not_lt.mpr (Nat.succ_le_succ (Nat.zero_le _))),
      show e.payload.drop 1 = wideBytes e.text ++ e.trailer from rfl, wideStr_wideBytes e.text (Nat.lt_trans hl (by decide)) hu]
    dsimp only
    rw [sstItems_enc post l fuel _ (e.text :: acc) (fun x hx => h x (List.mem_cons_of_mem _ hx))
      (fun x hx => hf x (List.mem_cons_of_mem _ hx)), List.reverse_cons, List.map_cons, List.append_assoc]
    rfl

theorem readType_returnsWith (bs : Bytes) : Res.ReturnsWith (readType bs) fun v => v.2.length + 1 ≤ bs.length := by
  unfold readType
  split
  · exact .err
  · split
    · exact .ok (Nat.le_refl _)
    · split
      · exact .err
      · exact .ok (Nat.le_succ _)

theorem readLenGo_returnsWith : ∀ (f i acc : Nat) (prev : UInt8) (bs : Bytes),
    Res.ReturnsWith (readLenGo f i acc prev bs) fun v => v.2.length ≤ bs.length
  | 0, _, _, _, _ => .ok (Nat.le_refl _)
  | f+1, i, acc, prev, bs => by
    unfold readLenGo
    split
    · exact .ok (Nat.le_refl _)
    · split
      · exact .err
      · exact (readLenGo_returnsWith f _ _ _ _).mono fun v h => Nat.le_succ_of_le h

theorem readLen_returnsWith (bs : Bytes) : Res.ReturnsWith (readLen bs) fun v => v.2.length + 1 ≤ bs.length := by
  unfold readLen
  split
  · exact .err
  · exact (readLenGo_returnsWith _ _ _ _ _).mono fun v h => Nat.succ_le_succ h

theorem fillBuffer_returnsWith (buf bs : Bytes) : Res.ReturnsWith (fillBuffer buf bs) fun v => v.2.2.length + 1 ≤ bs.length := by
  unfold fillBuffer
  refine (readLen_returnsWith bs).elim (fun ⟨len, r⟩ h1 => ?_) fun _ => .err
  dsimp only at h1 ⊢
  split
  · exact .err
  · exact .ok (by dsimp only; rw [List.length_drop]; omega)

theorem readRecord_returnsWith (bs : Bytes) : Res.ReturnsWith (readRecord bs) fun v => v.2.2.length + 2 ≤ bs.length := by
  rw [readRecord_eq]
  refine (readType_returnsWith bs).elim (fun ⟨t, r⟩ h1 => ?_) fun _ => .err
  dsimp only at h1 ⊢
  exact (fillBuffer_returnsWith [] r).elim (fun ⟨n, p, rest⟩ h2 => .ok (by dsimp only at h2 ⊢; omega)) fun _ => .err

/-! The fuelled loops, given fuel above the number of bytes left (what every caller gives: the length of the part plus
    one, on a suffix of the part): each read shrinks the input, so the premise passes on to the recursive call. -/

theorem skipToEnd_returnsWith (e : Nat) : ∀ (f : Nat) (buf bs : Bytes), bs.length < f →
    Res.ReturnsWith (skipToEnd e f buf bs) fun v => v.2.length + 1 ≤ bs.length
  | f+1, buf, bs, hf => by
    rw [skipToEnd]
    refine (readType_returnsWith bs).elim (fun ⟨t, r⟩ h1 => ?_) fun _ => .err
    dsimp only at h1 ⊢
    split
    · exact .ok h1
    · refine (fillBuffer_returnsWith buf r).elim (fun ⟨n, b, r'⟩ h2 => ?_) fun _ => .err
      dsimp only at h2 ⊢
      exact (skipToEnd_returnsWith e f b r' (by omega)).mono fun v hv => by omega

theorem nextSkipBlocks_returnsWith (target : Nat) (bounds : List (Nat × Option Nat)) : ∀ (f : Nat) (buf bs : Bytes), bs.length < f →
    Res.ReturnsWith (nextSkipBlocks target bounds f buf bs) fun v => v.2.2.length + 2 ≤ bs.length
  | f+1, buf, bs, hf => by
    rw [nextSkipBlocks]
    refine (readType_returnsWith bs).elim (fun ⟨t, r⟩ h1 => ?_) fun _ => .err
    dsimp only at h1 ⊢
    refine (fillBuffer_returnsWith buf r).elim (fun ⟨n, b1, r1⟩ h2 => ?_) fun _ => .err
    dsimp only at h2 ⊢
    split
    · exact .ok (by dsimp only; omega)
    · split
      · rename_i e _
        refine (skipToEnd_returnsWith e f b1 r1 (by omega)).elim (fun ⟨b2, r2⟩ h3 => ?_) fun _ => .err
        dsimp only at h3 ⊢
        refine (fillBuffer_returnsWith b2 r2).elim (fun ⟨n3, b3, r3⟩ h4 => ?_) fun _ => .err
        dsimp only at h4 ⊢
        exact (nextSkipBlocks_returnsWith target bounds f b3 r3 (by omega)).mono fun v hv => by omega
      · exact (nextSkipBlocks_returnsWith target bounds f b1 r1 (by omega)).mono fun v hv => by omega

theorem newReader_returnsWith (bs : Bytes) : Res.ReturnsWith (newReader bs) fun v => v.2.length ≤ bs.length := by
  unfold newReader
  refine (nextSkipBlocks_returnsWith _ _ _ [] bs (Nat.lt_succ_self _)).elim (fun ⟨n, buf, rest⟩ h1 => ?_) fun _ => .err
  dsimp only at h1 ⊢
  split
  · exact .err
  · refine (nextSkipBlocks_returnsWith _ _ _ buf rest (by omega)).elim (fun ⟨n', buf', rest'⟩ h2 => ?_) fun _ => .err
    exact .ok (by dsimp only at h2 ⊢; omega)

/-- rows stay ≤ 0x100000 because a larger BrtRowHdr ends the sheet -/
theorem readCells_returnsWith (ctx : Ctx) : ∀ (f : Nat) (bs : Bytes) (row : Nat), bs.length < f → row ≤ 0x100000 →
    Res.ReturnsWith (readCells ctx f bs row) fun cells => ∀ c ∈ cells, c.1 ≤ 0x100000 ∧ c.2.1 < 4294967296
  | f+1, bs, row, hf, hrow => by
    rw [readCells]
    refine (readRecord_returnsWith bs).elim (fun ⟨t, p, rest⟩ h1 => ?_) fun _ => .err
    dsimp only at h1 ⊢
    have ih := (readCells_returnsWith ctx f rest · (by omega))
    rcases interpret_cases ctx t p with ⟨e, hi⟩ | ⟨v, hi⟩ | hi | hi | hi <;> rw [hi] <;> dsimp only
    · exact .err
    · refine (ih row hrow).elim (fun l hl => .ok fun c hc => ?_) fun _ => .err
      rcases List.mem_cons.mp hc with rfl | hc
      · exact ⟨hrow, u32le_lt p⟩
      · exact hl c hc
    · split
      · exact .ok fun _ hc => nomatch hc
      · exact ih _ (by omega)
    · exact .ok fun _ hc => nomatch hc
    · exact ih row hrow

theorem sheetCells_returnsWith (ctx : Ctx) (bs : Bytes) :
    Res.ReturnsWith (sheetCells ctx bs) fun cells => ∀ c ∈ cells, c.1 ≤ 0x100000 ∧ c.2.1 < 4294967296 := by
  unfold sheetCells
  refine (newReader_returnsWith bs).elim (fun ⟨dims, rest⟩ h1 => ?_) fun _ => .err
  dsimp only [dimLen] at h1 ⊢
  exact (readCells_returnsWith ctx _ rest 0 (Nat.lt_succ_of_le h1) (by omega)).elim
    (fun cells hc => .ok fun c hm => hc c (List.mem_filter.mp hm).1) fun _ => .err

theorem recordsGo_returns : ∀ (f : Nat) (bs : Bytes), bs.length < f → (recordsGo f bs).Returns
  | f+1, [], _ => .ok _
  | f+1, b :: bs, hf => by
    rw [recordsGo]
    refine (readRecord_returnsWith (b :: bs)).elim (fun ⟨t, p, rest⟩ h1 => ?_) fun _ => .err _
    dsimp only at h1 ⊢
    exact (recordsGo_returns f rest (by omega)).elim (fun _ => .ok _) fun _ => .err _

theorem sstItems_returns : ∀ (n fuel : Nat) (buf bs : Bytes) (acc : List (List Nat)), bs.length < fuel →
    (sstItems n fuel buf bs acc).Returns
  | 0, _, _, _, _, _ => .ok _
  | n+1, fuel, buf, bs, acc, hf => by
    rw [sstItems]
    refine (nextSkipBlocks_returnsWith _ _ fuel buf bs hf).elim (fun ⟨len, buf', rest⟩ h1 => ?_) fun _ => .err _
    dsimp only at h1 ⊢
    split
    · exact .err _
    · exact (wideStr_returns (buf'.drop 1)).elim
        (fun ⟨s, k⟩ => sstItems_returns n fuel buf' rest (s :: acc) (by omega)) fun _ => .err _

theorem readSharedStrings_returns (bs : Bytes) : (readSharedStrings bs).Returns := by
  unfold readSharedStrings
  refine (nextSkipBlocks_returnsWith _ _ _ [] bs (Nat.lt_succ_self _)).elim (fun ⟨len, buf, rest⟩ h1 => ?_) fun _ => .err _
  dsimp only at h1 ⊢
  split
  · exact .err _
  · exact sstItems_returns _ _ _ _ _ (by omega)

theorem berrKind_code (c : Nat) (k : CellErrorType) (h : berrKind c = some k) : c = berrCode k := by
  unfold berrKind berrTable at h
  simp only [List.lookup] at h
  repeat' split at h
  all_goals first
    | (injection h with h; subst h; simp_all [berrCode])
    | cases h

theorem berrKind_berrCode (k : CellErrorType) : berrKind (berrCode k) = some k := by cases k <;> decide

theorem berrTable_bijective :
    (∀ c k, berrKind c = some k ↔ c = berrCode k) ∧ (∀ k k', berrCode k = berrCode k' → k = k') ∧
    (∀ k, berrCode k < 256) := by
  refine ⟨fun c k => ⟨berrKind_code c k, fun h => h ▸ berrKind_berrCode k⟩, ?_, fun k => by cases k <;> decide⟩
  intro k k' h
  have := berrKind_berrCode k
  rw [h, berrKind_berrCode k'] at this
  exact (Option.some.inj this).symm

end Xlsb
