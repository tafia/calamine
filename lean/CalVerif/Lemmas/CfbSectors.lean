import CalVerif.Lemmas.CfbBytes
import CalVerif.Lemmas.ResReturns
/-! The sector cache and the chain loop of the compound-file reader on their own (`Sectors::get`,
    `Sectors::get_chain`), and the allocation of one sector space of the encoder (`Space`): a chain recorded in the
    space's table is followed by the loop and yields the chain's data. Used for the sectors of the file and for
    the mini sectors alike. `Space.fats`, `Space.ids` and `UniformP`, which statements of `Props/C13.lean` mention,
    are defined here. -/
namespace Cfb

theorem Sectors.get_slice (s : Sectors) (id : Nat) (rd : Bytes) :
    (s.get id rd).1 = sec (s.get id rd).2.1.data s.size id := sec_clamp _ _ _

/-- a `Sectors` and its reader some `Sectors::get` calls later: same sector size and mode, the same bytes
    (cache, then unread), of which the cache holds no fewer; an in-memory `Sectors` is as it was -/
structure Later (s : Sectors) (rd : Bytes) (s' : Sectors) (rd' : Bytes) : Prop where
  size : s'.size = s.size
  lazy : s'.lazy = s.lazy
  bytes : s'.data ++ rd' = s.data ++ rd
  mono : s.data.length ≤ s'.data.length
  still : s.lazy = false → s' = s ∧ rd' = rd

theorem Later.refl (s : Sectors) (rd : Bytes) : Later s rd s rd :=
  ⟨rfl, rfl, rfl, Nat.le_refl _, fun _ => ⟨rfl, rfl⟩⟩

theorem Later.trans {s s₁ s₂ : Sectors} {rd rd₁ rd₂ : Bytes} (h₁ : Later s rd s₁ rd₁) (h₂ : Later s₁ rd₁ s₂ rd₂) :
    Later s rd s₂ rd₂ :=
  ⟨h₂.size.trans h₁.size, h₂.lazy.trans h₁.lazy, h₂.bytes.trans h₁.bytes, Nat.le_trans h₁.mono h₂.mono, fun h => by
    obtain ⟨e₁, e₂⟩ := h₁.still h
    subst e₁ e₂
    exact h₂.still h⟩

theorem Later.length {s s' : Sectors} {rd rd' : Bytes} (h : Later s rd s' rd') :
    s'.data.length + rd'.length = s.data.length + rd.length := by
  have := congrArg List.length h.bytes
  rwa [List.length_append, List.length_append] at this

theorem Later.get (s : Sectors) (id : Nat) (rd : Bytes) : Later s rd (s.get id rd).2.1 (s.get id rd).2.2 := by
  unfold Sectors.get
  dsimp only
  split
  · rename_i h
    exact ⟨rfl, rfl, by rw [List.append_assoc, List.take_append_drop], by rw [List.length_append]; omega,
      fun hl => absurd h.1 (by rw [hl]; exact Bool.false_ne_true)⟩
  · exact Later.refl s rd

theorem Sectors.get_reach (s : Sectors) (id : Nat) (rd : Bytes)
    (hl : s.lazy = true ∨ (id + 1) * s.size ≤ s.data.length) :
    (id + 1) * s.size ≤ (s.get id rd).2.1.data.length ∨ (s.get id rd).2.2 = [] := by
  unfold Sectors.get
  dsimp only
  rw [Nat.add_mul, Nat.one_mul] at hl ⊢
  split
  · by_cases hr : id * s.size + s.size - s.data.length ≤ rd.length
    · exact .inl (by rw [List.length_append, List.length_take]; omega)
    · exact .inr (List.drop_eq_nil_of_le (by omega))
  · rename_i hc
    exact .inl (hl.elim (fun h => by simp only [h, true_and] at hc; omega) fun h => h)

/-- `Sectors::get` returns the sector of the underlying area whatever has been cached — for a lazily filled cache
    (the sectors of the file), or when the sector is already held (the mini stream, which never reads) -/
theorem Sectors.get_spec (s : Sectors) (id : Nat) (rd body : Bytes) (h : s.data ++ rd = body)
    (hl : s.lazy = true ∨ (id + 1) * s.size ≤ s.data.length) :
    (s.get id rd).1 = sec body s.size id ∧ (s.get id rd).2.1.data ++ (s.get id rd).2.2 = body ∧
    (s.get id rd).2.1.size = s.size := by
  have l := Later.get s id rd
  refine ⟨?_, l.bytes.trans h, l.size⟩
  rw [Sectors.get_slice, ← h, ← l.bytes]
  rcases Sectors.get_reach s id rd hl with hr | hr
  · exact (sec_append_left _ _ _ _ hr).symm
  · rw [hr, List.append_nil]

theorem Sectors.get_covers (s : Sectors) (id : Nat) (rd body : Bytes) (V : List Nat) (h : s.data ++ rd = body)
    (hl : s.lazy = true ∨ (id + 1) * s.size ≤ s.data.length) (hfull : (id + 1) * s.size ≤ body.length)
    (hV : ∀ v ∈ V, (v + 1) * s.size ≤ s.data.length) :
    ∀ v ∈ V ++ [id], (v + 1) * s.size ≤ (s.get id rd).2.1.data.length := by
  intro v hv
  rcases List.mem_append.mp hv with hv | hv
  · exact Nat.le_trans (hV v hv) (Later.get s id rd).mono
  · rw [List.mem_singleton.mp hv]
    rcases Sectors.get_reach s id rd hl with hr | hr
    · exact hr
    · -- nothing is left unread: the cache is the whole area
      have := (Later.get s id rd).bytes
      rw [hr, List.append_nil, h] at this
      rwa [this]

/-- pigeonhole: distinct sector numbers whose sectors all lie within the first `N` bytes -/
theorem covered_count (ss N : Nat) (hss : 0 < ss) (ids : List Nat) (hnd : ids.Nodup)
    (hcov : ∀ x ∈ ids, (x + 1) * ss ≤ N) : ids.length * ss ≤ N := by
  have hsub : ids ⊆ List.range (N / ss) := fun x hx =>
    List.mem_range.mpr ((Nat.le_div_iff_mul_le hss).mpr (hcov x hx))
  have := List.Nodup.length_le_of_subset hnd hsub
  rw [List.length_range] at this
  exact Nat.le_trans (Nat.mul_le_mul_right ss this) (Nat.div_mul_le_self N ss)

theorem chainLoop_end (fats : List Nat) (rem : Nat) (s : Sectors) (rd : Bytes) (acc : Nat) :
    Sectors.chainLoop fats rem ENDOFCHAIN s rd acc = .ok ([], s, rd) := by
  cases rem <;> simp only [Sectors.chainLoop, if_true]

/-- what a loop of the reader leaves behind when it returns `x` with cache `s'` and reader `rd'`: it made
    `Sectors::get` calls only, and `B x s'`, the bound particular to the loop, holds -/
abbrev Kept {α : Type} (s : Sectors) (rd : Bytes) (B : α → Sectors → Prop) : α × Sectors × Bytes → Prop :=
  fun r => Later s rd r.2.1 r.2.2 ∧ B r.1 r.2.1

theorem chainLoop_returnsWith (fats : List Nat) (rem id : Nat) (s : Sectors) (rd : Bytes) (acc : Nat) :
    (Sectors.chainLoop fats rem id s rd acc).ReturnsWith
      (Kept s rd fun x s' => acc ≤ s.data.length → acc + x.length ≤ s'.data.length) := by
  induction rem generalizing id s rd acc with
  | zero =>
    unfold Sectors.chainLoop
    exact .ite (fun _ => .ok ⟨Later.refl s rd, fun h => h⟩) fun _ => .err
  | succ rem ih =>
    unfold Sectors.chainLoop
    refine .ite (fun _ => .ok ⟨Later.refl s rd, fun h => h⟩) fun _ => ?_
    split
    · exact .err
    rename_i next _
    refine .ite (fun _ => .err) fun hg => ?_
    refine (ih next (s.get id rd).2.1 (s.get id rd).2.2 (acc + (s.get id rd).1.length)).elim (fun r h => ?_)
      fun _ => .err
    obtain ⟨x, s', rd'⟩ := r
    refine .ok ⟨(Later.get s id rd).trans h.1, fun _ => ?_⟩
    have := h.2 (by omega)
    dsimp only at this ⊢
    rw [List.length_append]; omega

theorem chainLoop_clean (fats : List Nat) (rem id : Nat) (s : Sectors) (rd : Bytes) (acc : Nat) :
    (∀ m, Sectors.chainLoop fats rem id s rd acc ≠ .panic m) ∧ Sectors.chainLoop fats rem id s rd acc ≠ .outOfFuel :=
  Res.returns_iff.mp (chainLoop_returnsWith fats rem id s rd acc).returns

theorem chainLoopCost_le (fats : List Nat) : ∀ (rem id : Nat) (s : Sectors) (rd : Bytes) (acc : Nat),
    Sectors.chainLoopCost fats rem id s rd acc ≤ rem := by
  intro rem
  induction rem with
  | zero => intro id s rd acc; exact Nat.le_refl 0
  | succ rem ih =>
    intro id s rd acc
    unfold Sectors.chainLoopCost
    split; · omega
    split; · omega
    dsimp only
    split
    · omega
    · have := ih ‹Nat› (s.get id rd).2.1 (s.get id rd).2.2 (acc + (s.get id rd).1.length); omega

/-- following a recorded chain of DISTINCT sectors that the file holds entirely; `V` are the sectors already
    accumulated (covered by the cache), so that the accumulation guard of the loop is seen to pass -/
theorem chainLoop_follow_gen (fats : List Nat) (body : Bytes) :
    ∀ (ids V : List Nat) (rem : Nat) (s : Sectors) (rd : Bytes),
      s.data ++ rd = body → ids.length ≤ rem → 0 < s.size →
      (s.lazy = true ∨ ∀ x ∈ ids, (x + 1) * s.size ≤ s.data.length) →
      (∀ i (h : i < ids.length), ids[i] ≠ ENDOFCHAIN ∧ fats[ids[i]]? = some (ids[i+1]?.getD ENDOFCHAIN)) →
      (V ++ ids).Nodup → (∀ v ∈ V, (v + 1) * s.size ≤ s.data.length) → (∀ x ∈ ids, (x + 1) * s.size ≤ body.length) →
      ∃ s' rd', Sectors.chainLoop fats rem (ids[0]?.getD ENDOFCHAIN) s rd (V.length * s.size) =
          .ok ((ids.map (sec body s.size)).flatten, s', rd') := by
  intro ids
  induction ids with
  | nil =>
    intro V rem s rd _ _ _ _ _ _ _ _
    exact ⟨s, rd, chainLoop_end fats rem s rd _⟩
  | cons a rest ih =>
    intro V rem s rd hinv hrem hss hlz hch hnd hV hfull
    have hla : s.lazy = true ∨ (a + 1) * s.size ≤ s.data.length := hlz.imp id fun h => h a List.mem_cons_self
    obtain ⟨rem', rfl⟩ : ∃ r, rem = r + 1 := ⟨rem - 1, by rw [List.length_cons] at hrem; omega⟩
    obtain ⟨hne, hfat⟩ := hch 0 (Nat.succ_pos _)
    simp only [List.getElem_cons_zero, Nat.zero_add, List.getElem?_cons_succ] at hne hfat
    obtain ⟨hg1, hg2, hg3⟩ := Sectors.get_spec s a rd body hinv hla
    have hslice : (s.get a rd).1.length = s.size := by
      rw [hg1]; exact sec_full_length body s.size a (hfull a List.mem_cons_self)
    have hnd' : ((V ++ [a]) ++ rest).Nodup := by rwa [List.append_assoc]
    have hV' := Sectors.get_covers s a rd body V hinv hla (hfull a List.mem_cons_self) hV
    have hcnt := covered_count s.size _ hss (V ++ [a]) (hnd'.sublist (List.sublist_append_left _ _)) hV'
    rw [List.length_append, List.length_singleton, Nat.add_mul, Nat.one_mul] at hcnt
    rw [← hg3] at hV' hss hfull
    obtain ⟨s', rd', he⟩ := ih (V ++ [a]) rem' (s.get a rd).2.1 (s.get a rd).2.2 hg2
      (Nat.le_of_succ_le_succ hrem) hss
      (by
        rw [(Later.get s a rd).lazy, hg3]
        exact hlz.imp id fun h x hx => Nat.le_trans (h x (List.mem_cons_of_mem _ hx)) (Later.get s a rd).mono)
      (fun i hi => by simpa using hch (i + 1) (Nat.succ_lt_succ hi)) hnd' hV'
      (fun x hx => hfull x (List.mem_cons_of_mem _ hx))
    refine ⟨s', rd', ?_⟩
    rw [List.length_append, List.length_singleton, hg3, Nat.add_mul, Nat.one_mul] at he
    simp only [List.getElem?_cons_zero, Option.getD_some]
    unfold Sectors.chainLoop
    simp only [hne, if_false, hfat]
    -- the accumulation guard passes: a whole sector was added (`hslice`) and the `|V| + 1` distinct sectors read so
    -- far fit the cache (`hcnt`, the pigeonhole)
    rw [hslice, if_neg (by omega), he, hg1]
    rfl

theorem chainLoop_follow (fats : List Nat) (body : Bytes) (ids : List Nat) (rem : Nat) (s : Sectors) (rd : Bytes)
    (hinv : s.data ++ rd = body) (hrem : ids.length ≤ rem) (hss : 0 < s.size)
    (hlz : s.lazy = true ∨ ∀ x ∈ ids, (x + 1) * s.size ≤ s.data.length)
    (hch : ∀ i (h : i < ids.length), ids[i] ≠ ENDOFCHAIN ∧ fats[ids[i]]? = some (ids[i+1]?.getD ENDOFCHAIN))
    (hnd : ids.Nodup) (hfull : ∀ x ∈ ids, (x + 1) * s.size ≤ body.length) :
    ∃ s' rd', Sectors.chainLoop fats rem (ids[0]?.getD ENDOFCHAIN) s rd 0 =
        .ok ((ids.map (sec body s.size)).flatten, s', rd') ∧ s'.data ++ rd' = body ∧ s'.size = s.size := by
  obtain ⟨s', rd', he⟩ := chainLoop_follow_gen fats body ids [] rem s rd hinv hrem hss hlz hch hnd
    (fun _ h => nomatch h) hfull
  rw [List.length_nil, Nat.zero_mul] at he
  have l := ((chainLoop_returnsWith fats _ _ _ _ _).of_ok he).1
  exact ⟨s', rd', he, l.bytes.trans hinv, l.size⟩

/-- `get_chain` neither unwinds nor hangs, on any allocation table; what it returns never exceeds what has been
    read of the file (the final cache) -/
theorem getChain_returnsWith (s : Sectors) (start : Nat) (fats : List Nat) (rd : Bytes) (len : Nat) :
    (s.getChain start fats rd len).ReturnsWith (Kept s rd fun x s' => x.length ≤ s'.data.length) := by
  unfold Sectors.getChain
  refine (chainLoop_returnsWith fats fats.length start s rd 0).elim (fun r h => ?_) fun _ => .err
  obtain ⟨x, s', rd'⟩ := r
  refine .ok ⟨h.1, ?_⟩
  have := h.2 (Nat.zero_le _)
  dsimp only at this ⊢
  split
  · rw [List.length_take]; omega
  · omega

theorem getChain_alloc (s : Sectors) (start : Nat) (fats : List Nat) (rd : Bytes) (len : Nat)
    (x : Bytes) (s' : Sectors) (rd' : Bytes) (h : s.getChain start fats rd len = .ok (x, s', rd')) :
    x.length ≤ s'.data.length ∧ s'.data.length + rd'.length = s.data.length + rd.length :=
  ⟨((getChain_returnsWith s start fats rd len).of_ok h).2, ((getChain_returnsWith s start fats rd len).of_ok h).1.length⟩

theorem getChain_clean (s : Sectors) (start : Nat) (fats : List Nat) (rd : Bytes) (len : Nat) :
    (∀ m, s.getChain start fats rd len ≠ .panic m) ∧ s.getChain start fats rd len ≠ .outOfFuel :=
  Res.returns_iff.mp (getChain_returnsWith s start fats rd len).returns

theorem getChainCost_le (s : Sectors) (start : Nat) (fats : List Nat) (rd : Bytes) :
    s.getChainCost start fats rd ≤ fats.length := chainLoopCost_le fats _ _ _ _ _

/-- the allocation table of a space, `len` entries -/
def Space.fats (sp : Space) (len : Nat) : List Nat := (List.range len).map sp.entry

/-- sector numbers of chain `c` -/
def Space.ids (sp : Space) (c : Nat) : List Nat :=
  match sp.chains[c]? with
  | some ch => ch.toList
  | none => []

theorem owner_lt (owner : Array Slot) (k : Nat) (s : Slot) (h : owner[k]? = some s) : k < owner.size :=
  (Array.getElem?_eq_some_iff.mp h).1

theorem nodup_of_owner (owner : Array Slot) (mk : Nat → Slot) (hinj : ∀ a b, mk a = mk b → a = b) (ids : List Nat)
    (h : ∀ i (hi : i < ids.length), owner[ids[i]]? = some (mk i)) : ids.Nodup := by
  rw [List.Nodup, List.pairwise_iff_getElem]
  intro i j hi hj hij heq
  have h1 := h i hi
  rw [heq, h j hj] at h1
  have := hinj _ _ (Option.some.inj h1)
  omega

theorem chainOK_spec (sp : Space) (c n : Nat) (h : chainOK sp c n = true) :
    ∃ ch, sp.chains[c]? = some ch ∧ ch.size = n ∧
      ∀ i, i < n → ∃ k, ch[i]? = some k ∧ sp.owner[k]? = some (Slot.data c i) := by
  unfold chainOK at h
  split at h
  · cases h
  · rename_i ch hch
    simp only [Bool.and_eq_true, beq_iff_eq, List.all_eq_true, List.mem_range] at h
    refine ⟨ch, hch, h.1, fun i hi => ?_⟩
    have := h.2 i hi
    split at this
    · rename_i k hk; exact ⟨k, hk, beq_iff_eq.mp this⟩
    · cases this

theorem Space.ids_spec (sp : Space) (c n : Nat) (h : chainOK sp c n = true) :
    (sp.ids c).length = n ∧ ∀ i (hi : i < (sp.ids c).length), sp.owner[(sp.ids c)[i]]? = some (Slot.data c i) := by
  obtain ⟨ch, hch, hn, hall⟩ := chainOK_spec sp c n h
  simp only [Space.ids, hch]
  refine ⟨by rw [Array.length_toList, hn], fun i hi => ?_⟩
  obtain ⟨k, hk, ho⟩ := hall i (by rwa [Array.length_toList, hn] at hi)
  rw [← Array.getElem?_toList] at hk
  rw [(List.getElem?_eq_some_iff.mp hk).2]; exact ho

theorem Space.ids_lt (sp : Space) (c n : Nat) (h : chainOK sp c n = true) :
    ∀ x ∈ sp.ids c, x < sp.owner.size := by
  intro x hx
  obtain ⟨i, hi, rfl⟩ := List.getElem_of_mem hx
  exact owner_lt _ _ _ ((Space.ids_spec sp c n h).2 i hi)

theorem Space.ids_nodup (sp : Space) (c n : Nat) (h : chainOK sp c n = true) : (sp.ids c).Nodup :=
  nodup_of_owner sp.owner (Slot.data c) (fun _ _ e => (Slot.data.inj e).2) _ (Space.ids_spec sp c n h).2

theorem Space.ids_length_le (sp : Space) (c n : Nat) (h : chainOK sp c n = true) :
    (sp.ids c).length ≤ sp.owner.size := by
  have := covered_count 1 sp.owner.size Nat.one_pos _ (Space.ids_nodup sp c n h)
    (fun x hx => by rw [Nat.mul_one]; exact Space.ids_lt sp c n h x hx)
  rwa [Nat.mul_one] at this

theorem chain_size_le (sp : Space) (c n : Nat) (h : chainOK sp c n = true) : n ≤ sp.owner.size := by
  have := Space.ids_length_le sp c n h
  rwa [(Space.ids_spec sp c n h).1] at this

theorem chain_size_eq (sp : Space) (c n : Nat) (h : chainOK sp c n = true) : chainLen sp c = n := by
  obtain ⟨ch, hch, hn, _⟩ := chainOK_spec sp c n h
  simp only [chainLen, hch, hn]

theorem chainStart_eq (sp : Space) (c : Nat) : chainStart sp c = (sp.ids c)[0]?.getD ENDOFCHAIN := by
  unfold chainStart Space.ids
  cases sp.chains[c]? with
  | none => rfl
  | some ch => simp only [Array.getElem?_toList]

theorem chainStart_lt (sp : Space) (c n : Nat) (h : chainOK sp c n = true) (hres : sp.owner.size ≤ RESERVED) :
    chainStart sp c < 4294967296 := by
  rw [chainStart_eq]
  cases hx : (sp.ids c)[0]? with
  | none => decide
  | some x =>
    have := Space.ids_lt sp c n h x (List.mem_of_getElem? hx)
    exact Nat.lt_of_lt_of_le this (Nat.le_trans hres (by decide))

theorem Space.fats_length (sp : Space) (len : Nat) : (sp.fats len).length = len := by
  rw [Space.fats, List.length_map, List.length_range]

theorem Space.fats_get (sp : Space) (len k : Nat) (hk : k < len) : (sp.fats len)[k]? = some (sp.entry k) := by
  rw [Space.fats, List.getElem?_map, List.getElem?_range hk]; rfl

theorem Space.fats_chain (sp : Space) (c n len : Nat) (h : chainOK sp c n = true)
    (hlen : sp.owner.size ≤ len) (hres : sp.owner.size ≤ RESERVED) :
    ∀ i (hi : i < (sp.ids c).length), (sp.ids c)[i] ≠ ENDOFCHAIN ∧
      (sp.fats len)[(sp.ids c)[i]]? = some ((sp.ids c)[i + 1]?.getD ENDOFCHAIN) := by
  intro i hi
  have hlt := Space.ids_lt sp c n h _ (List.getElem_mem hi)
  refine ⟨by simp only [RESERVED, ENDOFCHAIN] at *; omega, ?_⟩
  rw [Space.fats_get sp len _ (by omega), Space.entry, (Space.ids_spec sp c n h).2 i hi]
  simp only [fatEntry, Space.ids]
  cases sp.chains[c]? with
  | none => rfl
  | some ch => simp only [Array.getElem?_toList]

theorem Space.entry_lt (sp : Space) (hall : ∀ c, c < sp.chains.size → ∃ n, chainOK sp c n = true)
    (hres : sp.owner.size ≤ RESERVED) (k : Nat) : sp.entry k < 4294967296 := by
  unfold Space.entry
  cases sp.owner[k]? with
  | none => exact (by decide : FREESECT < 4294967296)
  | some s =>
    cases s with
    | free => exact (by decide : FREESECT < 4294967296)
    | fat j => exact (by decide : FATSECT < 4294967296)
    | difat j => exact (by decide : DIFSECT < 4294967296)
    | data c i =>
      simp only [fatEntry]
      cases hc : sp.chains[c]? with
      | none => exact (by decide : ENDOFCHAIN < 4294967296)
      | some ch =>
        show ch[i + 1]?.getD ENDOFCHAIN < 4294967296
        cases hx : ch[i + 1]? with
        | none => exact (by decide : ENDOFCHAIN < 4294967296)
        | some x =>
          obtain ⟨n, hn⟩ := hall c (Array.getElem?_eq_some_iff.mp hc).1
          have hmem : x ∈ sp.ids c := by
            simp only [Space.ids, hc]
            rw [← Array.getElem?_toList] at hx
            exact List.mem_of_getElem? hx
          exact Nat.lt_of_lt_of_le (Space.ids_lt sp c n hn x hmem) (Nat.le_trans hres (by decide))

theorem idsOK_spec (owner : Array Slot) (ids : Array Nat) (mk : Nat → Slot) (h : idsOK owner ids mk = true)
    (d j : Nat) (hj : j < ids.size) : owner[ids[j]?.getD d]? = some (mk j) := by
  unfold idsOK at h
  simp only [List.all_eq_true, List.mem_range] at h
  have := h j hj
  split at this
  · rename_i k hk; rw [hk]; exact beq_iff_eq.mp this
  · cases this

theorem owner_covered (owner : Array Slot) (mk : Nat → Slot) (hinj : ∀ a b, mk a = mk b → a = b) (f : Nat → Nat)
    (n ss N : Nat) (hss : 0 < ss) (h : ∀ i, i < n → owner[f i]? = some (mk i))
    (hcov : ∀ v ∈ (List.range n).map f, (v + 1) * ss ≤ N) : n * ss ≤ N := by
  have := covered_count ss N hss _ (nodup_of_owner owner mk hinj ((List.range n).map f) fun i hi => by
    rw [List.length_map, List.length_range] at hi
    rw [List.getElem_map, List.getElem_range]; exact h i hi) hcov
  rwa [List.length_map, List.length_range] at this

theorem idsOK_size_le (owner : Array Slot) (ids : Array Nat) (mk : Nat → Slot) (hinj : ∀ a b, mk a = mk b → a = b)
    (h : idsOK owner ids mk = true) : ids.size ≤ owner.size := by
  have hs := idsOK_spec owner ids mk h 0
  have := owner_covered owner mk hinj (fun i => ids[i]?.getD 0) ids.size 1 owner.size Nat.one_pos hs fun x hx => by
    obtain ⟨i, hi, rfl⟩ := List.mem_map.mp hx
    rw [Nat.mul_one]; exact owner_lt _ _ _ (hs i (List.mem_range.mp hi))
  rwa [Nat.mul_one] at this

/-- every sector written by the encoder has exactly `ss` bytes -/
def UniformP (ss : Nat) (P : Array (Array Bytes)) : Prop :=
  ∀ (c : Nat) (p : Array Bytes), P[c]? = some p → ∀ (i : Nat) (x : Bytes), p[i]? = some x → x.length = ss

theorem pieces_uniform (ss : Nat) (fill : UInt8) (d : Bytes) (i : Nat) (x : Bytes)
    (h : (pieces ss fill d)[i]? = some x) : x.length = ss := by
  rw [pieces, List.getElem?_toArray] at h
  exact padChunks_all_len ss fill _ _ x (List.mem_of_getElem? h)

theorem sectorOf_length (ss : Nat) (fill : UInt8) (P : Array (Array Bytes)) (fatSec difSec : Nat → Bytes)
    (hP : UniformP ss P) (hf : ∀ j, (fatSec j).length = ss) (hd : ∀ j, (difSec j).length = ss) (s : Slot) :
    (sectorOf ss fill P fatSec difSec s).length = ss := by
  cases s with
  | free => exact List.length_replicate
  | fat j => exact hf j
  | difat j => exact hd j
  | data c i =>
    simp only [sectorOf]
    split
    · rename_i p hp
      cases hx : p[i]? with
      | none => exact List.length_replicate
      | some x => exact hP c p hp i x hx
    · exact List.length_replicate

theorem Space.body_sec (sp : Space) (ss : Nat) (fill : UInt8) (P : Array (Array Bytes)) (fatSec difSec : Nat → Bytes)
    (hP : UniformP ss P) (hf : ∀ j, (fatSec j).length = ss) (hd : ∀ j, (difSec j).length = ss)
    (k : Nat) (s : Slot) (hk : sp.owner[k]? = some s) :
    sec (sp.body ss fill P fatSec difSec) ss k = sectorOf ss fill P fatSec difSec s := by
  obtain ⟨hlt, rfl⟩ := Array.getElem?_eq_some_iff.mp hk
  unfold Space.body
  rw [sec_flatten ss _ k (by rwa [List.length_map, Array.length_toList]), List.getElem_map, Array.getElem_toList]
  exact List.forall_mem_map.mpr fun s' _ => sectorOf_length ss fill P fatSec difSec hP hf hd s'

theorem Space.body_length (sp : Space) (ss : Nat) (fill : UInt8) (P : Array (Array Bytes)) (fatSec difSec : Nat → Bytes)
    (hP : UniformP ss P) (hf : ∀ j, (fatSec j).length = ss) (hd : ∀ j, (difSec j).length = ss) :
    (sp.body ss fill P fatSec difSec).length = ss * sp.owner.size := by
  unfold Space.body
  rw [flatten_uniform_length ss, List.length_map, Array.length_toList]
  exact List.forall_mem_map.mpr fun s' _ => sectorOf_length ss fill P fatSec difSec hP hf hd s'

theorem Space.read_chain (sp : Space) (ss : Nat) (hss : 0 < ss) (fill : UInt8) (P : Array (Array Bytes))
    (fatSec difSec : Nat → Bytes)
    (hP : UniformP ss P) (hf : ∀ j, (fatSec j).length = ss) (hd : ∀ j, (difSec j).length = ss)
    (c : Nat) (D : Bytes) (hPc : P[c]? = some (pieces ss fill D))
    (hok : chainOK sp c (nsect ss D.length) = true) :
    (sp.ids c).map (sec (sp.body ss fill P fatSec difSec) ss) = padChunks ss fill D.length D := by
  obtain ⟨hlen, hown⟩ := Space.ids_spec sp c _ hok
  apply List.ext_getElem
  · rw [List.length_map, hlen, padChunks_length ss fill hss D.length D (Nat.le_refl _)]
  · intro i h1 h2
    rw [List.getElem_map, Space.body_sec sp ss fill P fatSec difSec hP hf hd _ _ (hown i (by rwa [List.length_map] at h1))]
    simp only [sectorOf, hPc, pieces, List.getElem?_toArray, List.getElem?_eq_getElem h2, Option.getD_some]

/-- `get_chain` on chain `c` of a space, for any `len` argument; the reader may hold more than the space -/
theorem Space.getChain_gen_later (sp : Space) (ss : Nat) (hss : 0 < ss) (fill : UInt8) (P : Array (Array Bytes))
    (fatSec difSec : Nat → Bytes)
    (hP : UniformP ss P) (hf : ∀ j, (fatSec j).length = ss) (hd : ∀ j, (difSec j).length = ss)
    (c : Nat) (D : Bytes) (hPc : P[c]? = some (pieces ss fill D))
    (hok : chainOK sp c (nsect ss D.length) = true)
    (len : Nat) (hlen : sp.owner.size ≤ len) (hres : sp.owner.size ≤ RESERVED)
    (s : Sectors) (rd extra : Bytes) (hsz : s.size = ss)
    (hinv : s.data ++ rd = sp.body ss fill P fatSec difSec ++ extra)
    (hlz : s.lazy = true ∨ ss * sp.owner.size ≤ s.data.length) (len0 : Nat) :
    ∃ s' rd', s.getChain (chainStart sp c) (sp.fats len) rd len0 =
        .ok (if len0 > 0 then (padChunks ss fill D.length D).flatten.take len0
             else (padChunks ss fill D.length D).flatten, s', rd') ∧ Later s rd s' rd' := by
  subst hsz
  have hbl := Space.body_length sp s.size fill P fatSec difSec hP hf hd
  have hin : ∀ x ∈ sp.ids c, (x + 1) * s.size ≤ s.size * sp.owner.size := fun x hx => by
    rw [Nat.mul_comm]; exact Nat.mul_le_mul_left _ (Space.ids_lt sp c _ hok x hx)
  have hmap : (sp.ids c).map (sec (sp.body s.size fill P fatSec difSec ++ extra) s.size) =
      padChunks s.size fill D.length D := by
    rw [← Space.read_chain sp s.size hss fill P fatSec difSec hP hf hd c D hPc hok]
    exact List.map_congr_left fun id hid => sec_append_left _ _ _ _ (by rw [hbl]; exact hin id hid)
  obtain ⟨s', rd', he, _⟩ := chainLoop_follow (sp.fats len) _ (sp.ids c) (sp.fats len).length s rd hinv
    (by rw [Space.fats_length]; exact Nat.le_trans (Space.ids_length_le sp c _ hok) hlen) hss
    (hlz.imp id fun h x hx => Nat.le_trans (hin x hx) h)
    (Space.fats_chain sp c _ len hok hlen hres) (Space.ids_nodup sp c _ hok)
    (fun x hx => by rw [List.length_append, hbl]; exact Nat.le_trans (hin x hx) (Nat.le_add_right _ _))
  have hg : s.getChain (chainStart sp c) (sp.fats len) rd len0 =
      .ok (if len0 > 0 then (padChunks s.size fill D.length D).flatten.take len0
           else (padChunks s.size fill D.length D).flatten, s', rd') := by
    unfold Sectors.getChain
    rw [chainStart_eq, he, hmap]
  exact ⟨s', rd', hg, ((getChain_returnsWith _ _ _ _ _).of_ok hg).1⟩

theorem Space.getChain_gen (sp : Space) (ss : Nat) (hss : 0 < ss) (fill : UInt8) (P : Array (Array Bytes))
    (fatSec difSec : Nat → Bytes)
    (hP : UniformP ss P) (hf : ∀ j, (fatSec j).length = ss) (hd : ∀ j, (difSec j).length = ss)
    (c : Nat) (D : Bytes) (hPc : P[c]? = some (pieces ss fill D))
    (hok : chainOK sp c (nsect ss D.length) = true)
    (len : Nat) (hlen : sp.owner.size ≤ len) (hres : sp.owner.size ≤ RESERVED)
    (s : Sectors) (rd extra : Bytes) (hsz : s.size = ss)
    (hinv : s.data ++ rd = sp.body ss fill P fatSec difSec ++ extra)
    (hlz : s.lazy = true ∨ ss * sp.owner.size ≤ s.data.length) (len0 : Nat) :
    ∃ s' rd', s.getChain (chainStart sp c) (sp.fats len) rd len0 =
        .ok (if len0 > 0 then (padChunks ss fill D.length D).flatten.take len0
             else (padChunks ss fill D.length D).flatten, s', rd') ∧
      s'.data ++ rd' = sp.body ss fill P fatSec difSec ++ extra ∧ s'.size = ss := by
  obtain ⟨s', rd', he, l⟩ := Space.getChain_gen_later sp ss hss fill P fatSec difSec hP hf hd c D hPc hok len hlen hres
    s rd extra hsz hinv hlz len0
  exact ⟨s', rd', he, l.bytes.trans hinv, l.size.trans hsz⟩

end Cfb
