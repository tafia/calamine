import CalVerif.Spec.MetadataEnc
import CalVerif.Model.MetadataFormula
import CalVerif.Lemmas.PtgBytes
/-! Lemmas for Props/C16.lean: the model's XTI → sheet resolution against the independent specification
    (`MetaEnc.Refers`, `MetaEnc.NameMeets`), and the formula decoder of C14 (`Ptg.definedNameXls`, with C14's
    `Formula.cellRef_colRel`) instantiated for the parameter `pd` of the metadata model. -/
open Meta MetaEnc
open Biff (byte le16 le32)

namespace MetaLemmas

theorem declaredXtis_eq (recs : List GRec) : declaredXtis recs = (declaredXtiTriples recs).map (fun e => asI16 e.2.1) := by
  induction recs with
  | nil => rfl
  | cons r rs ih => cases r <;> simp [declaredXtis, declaredXtiTriples, ih]

theorem resolveName_meets (sheets : List (Nat × Sheet Text)) (triples : List (Nat × Nat × Nat)) (decl : Text × Option Nat × Text) :
    NameMeets (sheets.map (·.2.name)) triples decl (resolveName (triples.map (fun e => asI16 e.2.1)) sheets decl) := by
  obtain ⟨n, ix, t⟩ := decl
  cases ix with
  | none => exact ⟨rfl, rfl⟩
  | some ixti =>
    refine ⟨rfl, ?_, ?_⟩
    · rintro s ⟨e, k, he, hk, hs⟩
      simp only [resolveName, xtiSheet, List.getElem?_map, he, Option.map_some, hk]
      have : ¬ ((k : Int) < 0) := by omega
      simp only [this, if_false, Int.toNat_natCast]
      rw [List.getElem?_map] at hs
      cases hsk : sheets[k]? with
      | none => simp [hsk] at hs
      | some x => simp [hsk] at hs; simp [hs]
    · intro hno
      simp only [resolveName, xtiSheet, List.getElem?_map]
      cases he : triples[ixti]? with
      | none => simp [refText]
      | some e =>
        simp only [Option.map_some]
        by_cases hneg : asI16 e.2.1 < 0
        · simp [hneg, refText]
        · simp only [hneg, if_false]
          cases hsk : sheets[(asI16 e.2.1).toNat]? with
          | none => simp [refText]
          | some x =>
            exfalso
            apply hno
            refine ⟨x.2.name, e, (asI16 e.2.1).toNat, he, ?_, ?_⟩
            · omega
            · rw [List.getElem?_map, hsk]; rfl

theorem definedNameXls_ref3d (op : UInt8) (hop : op = 0x3A ∨ op = 0x5A ∨ op = 0x7A) (tl : Bytes) :
    Ptg.definedNameXls (op :: tl) = (do
      Ptg.needDn (op :: tl) 7
      .ok (some (Ptg.u16 (op :: tl) 1), Ptg.cellRef (Ptg.u16 (op :: tl) 3) (Ptg.u16 (op :: tl) 5))) := by
  rcases hop with rfl | rfl | rfl <;> rfl

theorem definedNameXls_area3d (op : UInt8) (hop : op = 0x3B ∨ op = 0x5B ∨ op = 0x7B) (tl : Bytes) :
    Ptg.definedNameXls (op :: tl) = (do
      Ptg.needDn (op :: tl) 11
      .ok (some (Ptg.u16 (op :: tl) 1),
        Ptg.cellRef (Ptg.u16 (op :: tl) 3) (Ptg.u16 (op :: tl) 7) ++ ':' :: Ptg.cellRef (Ptg.u16 (op :: tl) 5) (Ptg.u16 (op :: tl) 9))) := by
  rcases hop with rfl | rfl | rfl <;> rfl

/-- `Biff.le16` unfolds to C14's `le16` -/
theorem ptg_u16_le16 (n : Nat) (h : n < 65536) (r : Bytes) : Ptg.u16 (le16 n ++ r) 0 = n := Formula.u16_le16 n r h
theorem ptg_u16_skip (n : Nat) (r : Bytes) (i : Nat) : Ptg.u16 (le16 n ++ r) (i + 2) = Ptg.u16 r i := Formula.u16_skip16 n r i

theorem pdC14_ref3d (op : UInt8) (hop : op = 0x3A ∨ op = 0x5A ∨ op = 0x7A) (ixti : Nat) (hi : ixti < 65536)
    (a : Formula.CellRef) (hr : a.row < 65536) (hcol : a.col < 16384) :
    pdC14 (op :: (Biff.le16 ixti ++ (Biff.le16 a.row ++ Biff.le16 (Formula.colRel a)))) =
      .ok (some ixti, textOfChars (Formula.cellText a)) := by
  have hlen : ¬ (op :: (le16 ixti ++ (le16 a.row ++ (le16 (Formula.colRel a) ++ [])))).length < 7 := Nat.lt_irrefl 7
  rw [← List.append_nil (le16 (Formula.colRel a)), pdC14, definedNameXls_ref3d op hop, Ptg.needDn, Ptg.needLen, if_neg hlen]
  simp only [Formula.u16_succ, ptg_u16_skip, ptg_u16_le16 _ hi, ptg_u16_le16 _ hr, ptg_u16_le16 _ (Formula.colRel_lt a hcol),
    Formula.cellRef_colRel a.row a hcol rfl]
  rfl

/-- The area twin of `pdC14_ref3d`. No theorem of C16 instantiates it: `defined_names_xls_decoded` is stated for `PtgRef3d`. -/
theorem pdC14_area3d (op : UInt8) (hop : op = 0x3B ∨ op = 0x5B ∨ op = 0x7B) (ixti : Nat) (hi : ixti < 65536)
    (a b : Formula.CellRef) (hra : a.row < 65536) (hrb : b.row < 65536) (hca : a.col < 16384) (hcb : b.col < 16384) :
    pdC14 (op :: (Biff.le16 ixti ++ (Biff.le16 a.row ++ (Biff.le16 b.row ++ (Biff.le16 (Formula.colRel a) ++ Biff.le16 (Formula.colRel b)))))) =
      .ok (some ixti, textOfChars (Formula.cellText a ++ ':' :: Formula.cellText b)) := by
  have hlen : ¬ (op :: (le16 ixti ++ (le16 a.row ++ (le16 b.row ++ (le16 (Formula.colRel a) ++ (le16 (Formula.colRel b) ++ [])))))).length < 11 :=
    Nat.lt_irrefl 11
  rw [← List.append_nil (le16 (Formula.colRel b)), pdC14, definedNameXls_area3d op hop, Ptg.needDn, Ptg.needLen, if_neg hlen]
  simp only [Formula.u16_succ, ptg_u16_skip, ptg_u16_le16 _ hi, ptg_u16_le16 _ hra, ptg_u16_le16 _ hrb,
    ptg_u16_le16 _ (Formula.colRel_lt a hca), ptg_u16_le16 _ (Formula.colRel_lt b hcb),
    Formula.cellRef_colRel a.row a hca rfl, Formula.cellRef_colRel b.row b hcb rfl]
  rfl

theorem declaredNames_append (pd : Bytes → Res (Option Nat × Text)) (pre post : List GRec) :
    declaredNames pd (pre ++ post) = declaredNames pd pre ++ declaredNames pd post := by
  induction pre with
  | nil => rfl
  | cons r rs ih => cases r <;> simp [declaredNames, ih]

end MetaLemmas
