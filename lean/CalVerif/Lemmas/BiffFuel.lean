import CalVerif.Lemmas.BiffSheet
/-! C02, totality of the model: the budget `items` gives `RecordIter` always suffices, every record parser and every arm
    of the worksheet `match` returns (`Res.Returns`), so the sheet loop returns on arbitrary bytes (`decodeSheet_returns`;
    `sheetRange_total` in Props/C02 rests on this). -/

namespace BiffCells
open Biff

/-- with the budget `items` gives it, `RecordIter` yields records and at most one `Err`: every record consumes at
    least four bytes -/
theorem itemsF_fail : ∀ (fuel : Nat) (s : Bytes), s.length < 4 * fuel →
    ∀ e, Item.fail e ∈ itemsF fuel s → ∃ m, e = .err m
  | 0, s, h => by omega
  | fuel + 1, s, h => by
    rw [itemsF]
    cases hx : nextRecord s with
    | none => nofun
    | some x =>
      rcases nextRecord_returnsWith s x hx with ⟨⟨r, rest⟩, rfl, hle⟩ | ⟨m, rfl⟩
      · intro e he
        rcases List.mem_cons.mp he with he | he
        · cases he
        · exact itemsF_fail fuel rest (by dsimp only at hle; omega) e he
      · intro e he; cases List.mem_singleton.mp he; exact ⟨m, rfl⟩

theorem parseErr_returns (e : Nat) : (parseErr e).Returns := by
  rcases parseErr_cases e with ⟨k, _, hk⟩ | ⟨_, hk⟩
  · rw [hk]; exact .ok _
  · rw [hk]; exact .err _

theorem parseStringWith_returns (n : Nat) (r : Bytes) (b : Bool) : (parseStringWith n r b).Returns :=
  .ite (.err _) (.ok _)

theorem parseNumber_returns (env : Env) (r : Bytes) : (parseNumber env r).Returns :=
  .ite (.err _) (.ok _)

theorem parseRk_returns (env : Env) (r : Bytes) : (parseRk env r).Returns :=
  .ite (.err _) (.ok _)

theorem parseMulRk_returns (env : Env) (r : Bytes) : (parseMulRk env r).Returns :=
  .ite (.err _) (.ite (.err _) (.ok _))

theorem parseBoolErr_returns (r : Bytes) : (parseBoolErr r).Returns :=
  .ite (.err _) (.ite (.ok _) (.ite ((parseErr_returns (byteAt r 6)).elim (fun _ => .ok _) fun _ => .err _) (.err _)))

theorem parseLabel_returns (r : Bytes) : (parseLabel r).Returns :=
  .ite (.err _) ((parseStringWith_returns 3 (r.drop 6) true).elim (fun _ => .ok _) fun _ => .err _)

theorem parseLabelSst_returns (env : Env) (r : Bytes) : (parseLabelSst env r).Returns := by
  refine .ite (.err _) ?_
  cases env.strings[u32At r 6]? with
  | none => exact .ok _
  | some s => exact .ok _

theorem parseDimensions_returns (r : Bytes) : (parseDimensions r).Returns :=
  .ite (.ite (.ok _) (.ok _)) (.ite (.ite (.ok _) (.ok _)) (.err _))

theorem parseMergeCells_returns (r : Bytes) : (parseMergeCells r).Returns :=
  .ite (.err _) (.ite (.err _) (.ok _))

theorem parseFormulaValue_returns (r : Bytes) : (parseFormulaValue r).Returns :=
  .ite (.ite (.ok _) (.ite (.ok _) (.ite ((parseErr_returns (byteAt r 8)).elim (fun _ => .ok _) fun _ => .err _)
    (.ite (.ok _) (.err _))))) (.ok _)

theorem step_returns (env : Env) (st : St) (r : Rec) : (step env st r).Returns := by
  unfold step
  exact .ite ((parseDimensions_returns r.data).elim (fun _ => .ok _) fun _ => .err _) <|
    .ite ((parseNumber_returns env r.data).elim (fun _ => .ok _) fun _ => .err _) <|
    .ite ((parseLabel_returns r.data).elim (fun _ => .ok _) fun _ => .err _) <|
    .ite ((parseBoolErr_returns r.data).elim (fun _ => .ok _) fun _ => .err _) <|
    .ite ((parseStringWith_returns 3 r.data true).elim (fun _ => .ok _) fun _ => .err _) <|
    .ite ((parseRk_returns env r.data).elim (fun _ => .ok _) fun _ => .err _) <|
    .ite ((parseLabelSst_returns env r.data).elim (fun v => by cases v <;> exact .ok _) fun _ => .err _) <|
    .ite ((parseMulRk_returns env r.data).elim (fun _ => .ok _) fun _ => .err _) <|
    .ite ((parseMergeCells_returns r.data).elim (fun _ => .ok _) fun _ => .err _) <|
    .ite (.ite (.err _) ((parseFormulaValue_returns r.data).elim (fun v => by cases v <;> exact .ok _) fun _ => .err _))
      (.ok _)

theorem sheetLoop_returns (env : Env) : ∀ (its : List Item) (st : St),
    (∀ e, Item.fail e ∈ its → ∃ m, e = .err m) → (sheetLoop env its st).Returns
  | [], _, _ => .ok _
  | .fail e :: rest, st, h => by
    obtain ⟨m, rfl⟩ := h e List.mem_cons_self
    exact .err m
  | .record r :: rest, st, h => by
    rw [sheetLoop]
    exact .ite (.ok _) ((step_returns env st r).elim
      (fun st' => sheetLoop_returns env rest st' fun e hm => h e (List.mem_cons_of_mem _ hm)) fun _ => .err _)

theorem decodeSheet_returns (env : Env) (s : Bytes) : (decodeSheet env (items s)).Returns :=
  sheetLoop_returns env _ _ (itemsF_fail _ s (Nat.lt_mul_div_succ _ (by decide)))

end BiffCells
