import CalVerif.Model.SharedFormula
import CalVerif.Spec.FormulaTokens
import CalVerif.Lemmas.ListLoops
import CalVerif.Lemmas.DivMod
/-! Lemmas about `Model/SharedFormula.lean` for property C15, in the order of the model file.
    The A1 reader and printer on names of the form letters ++ digits, tied to the grammar's `colVal` / `decVal` /
    `colLetters` / `dec`. (Lemmas/XlsxA1.lean has the same arithmetic for the C01 model: that one reads bytes with
    saturating `u32`s, this one `List Char` with unbounded `Nat`, two fixed models of one Rust function, and here
    arbitrary letters and digits must be read, not only printed names; nothing could be shared.)
    `offset_cell_ref` on a rendered reference and on a run that is no cell.
    The loop of `replace_cell_names`, taken one iteration at a time (`next`, `replaceGo_succ`) and exchanged for the total
    function it computes (`rew`, `replaceGo_eq`): from there on the lemmas about the rewriting are equations between
    texts (`rew_run`, `rew_punct`, `rew_tok`, `rew_render`); fuel is met again only in `replaceGo_fuel`, and `Res` only
    where a statement is about the model's `replaceCellNames` / `cellFormula` / `sheetFormulas` themselves (`pre_replace`,
    `translate_tok`, `cellFormula_follower` and the table lemmas of the `C15` part).
    The `formulas` table (`Table.lookup_store_*`, `cellFormula_follower`) and the `ref` attribute (`a1`, `splitColon_*`).
    In namespace `C15` at the end: one token in front of any text (`rew_tok`), and the notions the statements of
    Props/C15 speak of that have lemmas of their own, defined here with those lemmas: `runTable`, `definesGroup`,
    `lastMaster` (the table of groups after a run of cells is "last master of each `si`": `lookup_runTable`), `storeAll`,
    `translate`. -/

namespace SharedFormula
open FormulaTokens (Tok letter colLetters dec dollar renderTok render shiftTok shift move identChar
  letterVal colVal decVal cellLike firstChar endsRun notCallOrSheet inSheet tokWF wf WF bracketScan)

theorem val_between (c : Char) (a b : UInt32) :
    a ≤ c.val ∧ c.val ≤ b ↔ a.toNat ≤ c.toNat ∧ c.toNat ≤ b.toNat :=
  and_congr UInt32.le_iff_toNat_le UInt32.le_iff_toNat_le

theorem isUpper_iff (c : Char) : c.isUpper = true ↔ 65 ≤ c.toNat ∧ c.toNat ≤ 90 := by
  simp only [Char.isUpper, ge_iff_le, decide_eq_true_eq]
  exact val_between c 65 90

theorem isLower_iff (c : Char) : c.isLower = true ↔ 97 ≤ c.toNat ∧ c.toNat ≤ 122 := by
  simp only [Char.isLower, ge_iff_le, decide_eq_true_eq, Bool.and_eq_true]
  exact val_between c 97 122

theorem isAlpha_iff (c : Char) : c.isAlpha = true ↔ (65 ≤ c.toNat ∧ c.toNat ≤ 90) ∨ (97 ≤ c.toNat ∧ c.toNat ≤ 122) := by
  unfold Char.isAlpha
  rw [Bool.or_eq_true, isUpper_iff, isLower_iff]

theorem isNameChar_iff (c : Char) : isNameChar c = true ↔
    (65 ≤ c.toNat ∧ c.toNat ≤ 90) ∨ (97 ≤ c.toNat ∧ c.toNat ≤ 122) ∨ (48 ≤ c.toNat ∧ c.toNat ≤ 57)
      ∨ 128 ≤ c.toNat ∨ c.toNat = 36 ∨ c.toNat = 95 ∨ c.toNat = 46 := by
  unfold isNameChar Char.isAlphanum
  simp only [Bool.or_eq_true, decide_eq_true_eq, isAlpha_iff, Char.isDigit_iff_toNat, ← Char.toNat_inj, or_assoc, ge_iff_le]
  exact Iff.rfl

theorem isDigit_false_of_isAlpha (c : Char) (h : c.isAlpha = true) : c.isDigit = false := by
  have := (isAlpha_iff c).mp h
  exact Bool.eq_false_iff.mpr fun hd => by
    have : 48 ≤ c.toNat ∧ c.toNat ≤ 57 := Char.isDigit_iff_toNat.mp hd
    omega

/-- the model's `is_name_char` and the grammar's identifier characters are the same function: the spec's hypotheses
    speak of `identChar`, the loop tests `isNameChar` -/
theorem isNameChar_eq_identChar : isNameChar = identChar := rfl

theorem isNameChar_of_isAlpha (c : Char) (h : c.isAlpha = true) : isNameChar c = true := by
  simp only [isNameChar, Char.isAlphanum, h, Bool.true_or]

theorem isNameChar_of_isDigit (c : Char) (h : c.isDigit = true) : isNameChar c = true := by
  simp only [isNameChar, Char.isAlphanum, h, Bool.or_true, Bool.true_or]

theorem takeWhile_append_stop {α} (p : α → Bool) (a b : List α) (ha : ∀ x ∈ a, p x = true)
    (hb : ∀ x, b.head? = some x → p x = false) :
    (a ++ b).takeWhile p = a ∧ (a ++ b).dropWhile p = b := by
  rw [List.takeWhile_append_of_pos ha, List.dropWhile_append_of_pos ha]
  cases b with
  | nil => exact ⟨List.append_nil a, rfl⟩
  | cons x xs =>
    have hx : ¬ p x = true := by rw [hb x rfl]; exact Bool.false_ne_true
    rw [List.takeWhile_cons_of_neg hx, List.dropWhile_cons_of_neg hx]
    exact ⟨List.append_nil a, rfl⟩

theorem exists_split_cons {α : Type} (x : α) (xs : List α) (P : List α → α → List α → Prop) :
    (∃ a c b, x :: xs = a ++ c :: b ∧ P a c b) ↔ P [] x xs ∨ ∃ a c b, xs = a ++ c :: b ∧ P (x :: a) c b := by
  constructor
  · rintro ⟨_ | ⟨y, a⟩, c, b, e, h⟩
    · cases e; exact .inl h
    · cases e; exact .inr ⟨a, c, b, rfl, h⟩
  · rintro (h | ⟨a, c, b, rfl, h⟩)
    · exact ⟨[], x, xs, rfl, h⟩
    · exact ⟨x :: a, c, b, rfl, h⟩

/-- value of a numeral read least significant digit first, `f` giving the value of a digit and `b` the base;
    the loop of `get_row_and_optional_column` reads names from the right -/
def valLE (b : Nat) (f : Char → Nat) : List Char → Nat
  | [] => 0
  | c :: cs => f c + b * valLE b f cs

theorem valLE_reverse (b : Nat) (f : Char → Nat) (l : List Char) :
    valLE b f l.reverse = l.foldl (fun acc c => acc * b + f c) 0 := by
  have h : ∀ l, valLE b f l = l.foldr (fun c acc => f c + b * acc) 0 := by
    intro l; induction l with
    | nil => rfl
    | cons c cs ih => rw [valLE, ih]; rfl
  rw [h, List.foldr_reverse]
  exact congrArg (List.foldl · 0 l) (funext fun acc => funext fun c => by rw [Nat.add_comm, Nat.mul_comm])

abbrev valLE10 : List Char → Nat := valLE 10 (·.toNat - 48)

abbrev valLE26 : List Char → Nat := valLE 26 letterVal

theorem valLE10_reverse (l : List Char) : valLE10 l.reverse = decVal l := valLE_reverse 10 _ l

theorem valLE26_reverse (l : List Char) : valLE26 l.reverse = colVal l := valLE_reverse 26 _ l

theorem rcFold_append (a b : List Char) (s : RC) :
    rcFold (a ++ b) s = match rcFold a s with
      | .ok s' => rcFold b s'
      | .err e => .err e
      | .panic e => .panic e
      | .outOfFuel => .outOfFuel := by
  induction a generalizing s with
  | nil => rfl
  | cons c cs ih =>
    simp only [List.cons_append, rcFold]
    cases rcStep s c <;> simp only [ih]

theorem rcFold_digits (l : List Char) (hl : ∀ c ∈ l, c.isDigit = true) (r c p : Nat) :
    ∃ p', rcFold l ⟨r, c, p, true⟩ = .ok ⟨r + p * valLE10 l, c, p', true⟩ := by
  induction l generalizing r p with
  | nil => exact ⟨p, rfl⟩
  | cons d ds ih =>
    obtain ⟨p', hp'⟩ := ih (fun c hc => hl c (List.mem_cons_of_mem _ hc)) (r + (d.toNat - 48) * p) (p * 10)
    refine ⟨p', ?_⟩
    simp only [rcFold, rcStep, hl d List.mem_cons_self, if_true, hp']
    simp only [valLE, Nat.mul_add, Nat.mul_assoc, Nat.mul_comm, Nat.add_assoc]

theorem sub_eq_succ_sub_succ (n m : Nat) (h : m + 1 ≤ n) : n - m = n - (m + 1) + 1 := by
  rw [Nat.sub_succ]; exact (Nat.succ_pred_eq_of_pos (Nat.sub_pos_of_lt h)).symm

theorem rcStep_letter (s : RC) (x : Char) (hx : x.isAlpha = true) :
    ∃ k, letterVal x = k + 1 ∧ rcStep s x = rcLetter s k := by
  unfold rcStep letterVal
  rw [isDigit_false_of_isAlpha x hx]
  cases hu : x.isUpper with
  | true => exact ⟨x.toNat - 65, sub_eq_succ_sub_succ x.toNat 64 ((isUpper_iff x).mp hu).1, rfl⟩
  | false =>
    have hl : x.isLower = true := by
      rw [Char.isAlpha, hu, Bool.false_or] at hx; exact hx
    refine ⟨x.toNat - 97, sub_eq_succ_sub_succ x.toNat 96 ((isLower_iff x).mp hl).1, ?_⟩
    rw [hl]; rfl

theorem rcFold_letters_false (l : List Char) (hl : ∀ c ∈ l, c.isAlpha = true) (r c p : Nat) :
    ∃ p', rcFold l ⟨r, c, p, false⟩ = .ok ⟨r, c + p * valLE26 l, p', false⟩ := by
  induction l generalizing c p with
  | nil => exact ⟨p, rfl⟩
  | cons d ds ih =>
    obtain ⟨k, hk, hstep⟩ := rcStep_letter ⟨r, c, p, false⟩ d (hl d List.mem_cons_self)
    obtain ⟨p', hp'⟩ := ih (fun c hc => hl c (List.mem_cons_of_mem _ hc)) (c + (k + 1) * p) (p * 26)
    refine ⟨p', ?_⟩
    have e : rcLetter ⟨r, c, p, false⟩ k = .ok ⟨r, c + (k + 1) * p, p * 26, false⟩ := rfl
    simp only [rcFold, hstep, e, hp']
    simp only [valLE, hk, Nat.mul_add, Nat.mul_assoc, Nat.mul_comm, Nat.add_assoc]

theorem getRowColumn_letters_digits (letters digits : List Char)
    (hl : ∀ c ∈ letters, c.isAlpha = true) (hne : letters ≠ [])
    (hd : ∀ c ∈ digits, c.isDigit = true) :
    getRowColumn (letters ++ digits) =
      if decVal digits = 0 then .err "RangeWithoutRowComponent"
      else .ok (decVal digits - 1, colVal letters - 1) := by
  unfold getRowColumn getRowAndOptionalColumn
  rw [List.reverse_append, rcFold_append]
  obtain ⟨p1, h1⟩ := rcFold_digits digits.reverse (fun c hc => hd c (List.mem_reverse.mp hc)) 0 0 1
  rw [h1, valLE10_reverse, Nat.zero_add, Nat.one_mul, ← valLE26_reverse]
  generalize decVal digits = n
  cases hrev : letters.reverse with
  | nil => exact absurd (List.reverse_eq_nil_iff.mp hrev) hne
  | cons x l =>
    have hxl : ∀ c ∈ x :: l, c.isAlpha = true := by
      intro c hc; rw [← hrev] at hc; exact hl c (List.mem_reverse.mp hc)
    -- the first letter met decides: an error while the row is still 0, otherwise on to the column
    obtain ⟨k, hk, hstep⟩ := rcStep_letter ⟨n, 0, p1, true⟩ x (hxl x List.mem_cons_self)
    simp only [rcFold, hstep, rcLetter, if_true, Nat.zero_add, Nat.mul_one, Nat.one_mul]
    by_cases h0 : n = 0
    · simp only [h0, if_true]
    · obtain ⟨p2, h2⟩ := rcFold_letters_false l (fun c hc => hxl c (List.mem_cons_of_mem _ hc)) n (k + 1) 26
      have hc0 : k + 1 + 26 * valLE26 l ≠ 0 := by rw [Nat.add_right_comm]; exact Nat.succ_ne_zero _
      simp only [h0, if_false, h2, hc0, valLE, hk]

theorem decLoop_rev (f n : Nat) (h : 0 < n) (hf : n ≤ f) : (decLoop f n).reverse = Nat.toDigits 10 n := by
  induction f generalizing n with
  | zero => exact absurd h (Nat.not_lt.mpr hf)
  | succ f ih =>
    rw [decLoop, if_neg (Nat.ne_of_gt h), List.reverse_cons,
      ← Nat.toNat_digitChar_of_lt_ten (Nat.mod_lt n (by decide)), Char.ofNat_toNat, Nat.toDigits_eq_if (by decide)]
    by_cases h10 : n < 10
    · have e : decLoop f 0 = [] := by cases f <;> rfl
      rw [if_pos h10, Nat.div_eq_of_lt h10, e, Nat.mod_eq_of_lt h10]; rfl
    · rw [if_neg h10, ih (n / 10) (Nat.div_pos (Nat.le_of_not_lt h10) (by decide))
        (Nat.le_of_lt_succ (Nat.lt_of_lt_of_le (Nat.div_lt_self h (by decide)) hf))]

theorem natToString_eq (n : Nat) : natToString n = dec n := by
  unfold natToString dec
  rw [Nat.toList_repr]
  split
  · subst n; rfl
  · rw [decLoop_rev n n (Nat.pos_of_ne_zero ‹_›) (Nat.le_refl _)]

theorem dec_digits (n : Nat) : ∀ c ∈ dec n, c.isDigit = true := by
  intro c hc
  rw [dec, Nat.toList_repr] at hc
  exact Nat.isDigit_of_mem_toDigits (by decide) (by decide) hc

theorem dec_val (n : Nat) : decVal (dec n) = n := by
  have e : ∀ l, decVal l = Nat.ofDigitChars 10 l 0 := fun l =>
    congrArg (List.foldl · 0 l) (funext fun acc => funext fun c => by rw [Nat.mul_comm]; rfl)
  rw [e, dec, Nat.toList_repr, Nat.ofDigitChars_toDigits (by decide) (by decide)]

theorem dec_length_pos (n : Nat) : 1 ≤ (dec n).length := by
  rw [dec, Nat.toList_repr]; exact Nat.length_toDigits_pos

theorem dec_length (n : Nat) (hn : n ≤ 1048576) : (dec n).length ≤ 7 := by
  rw [dec, Nat.toList_repr, Nat.length_toDigits_le_iff (by decide) (by decide)]
  exact Nat.lt_of_le_of_lt hn (by decide)

theorem letter_facts : ∀ k, k < 26 → (letter k).isAlpha = true ∧ (letter k).isDigit = false
    ∧ letterVal (letter k) = k + 1 := by decide

/-- value of a list of bijective base-26 digits (`0` = `A`), least significant first -/
def bij26 : List Nat → Nat
  | [] => 0
  | d :: ds => 26 * bij26 ds + d + 1

theorem length_le_bij26 (ds : List Nat) : ds.length ≤ bij26 ds := by
  induction ds with
  | nil => exact Nat.le_refl 0
  | cons d ds ih =>
    exact Nat.succ_le_succ (Nat.le_trans ih (Nat.le_trans (Nat.le_mul_of_pos_left _ (by decide)) (Nat.le_add_right _ d)))

theorem divmod26 (x : Nat) : ∃ q r, r < 26 ∧ x = 26 * q + r ∧ x / 26 = q ∧ x % 26 = r :=
  ⟨x / 26, x % 26, Nat.mod_lt x (Nat.succ_pos 25), (Nat.div_add_mod x 26).symm, rfl, rfl⟩

theorem colLetters_digits (c : Nat) (h : c < 16384) :
    ∃ ds, (∀ d ∈ ds, d < 26) ∧ 1 ≤ ds.length ∧ ds.length ≤ 3 ∧ bij26 ds = c + 1
      ∧ colLetters c = (ds.map letter).reverse := by
  unfold colLetters
  by_cases h1 : c < 26
  · rw [if_pos h1]
    exact ⟨[c], List.forall_mem_singleton.mpr h1, (by decide : 1 ≤ 1), (by decide : 1 ≤ 3),
      by simp only [bij26, Nat.mul_zero, Nat.zero_add], rfl⟩
  · rw [if_neg h1]
    by_cases h2 : c < 702
    · obtain ⟨x, rfl⟩ : ∃ x, c = x + 26 := ⟨c - 26, (Nat.sub_add_cancel (Nat.le_of_not_lt h1)).symm⟩
      have ha : x / 26 < 26 := Nat.div_lt_of_lt_mul (Nat.lt_sub_of_add_lt h2)
      obtain ⟨a, r, hr, rfl, ea, er⟩ := divmod26 x
      rw [if_pos h2, Nat.add_sub_cancel, er]
      rw [ea] at ha ⊢
      exact ⟨[r, a], List.forall_mem_cons.mpr ⟨hr, List.forall_mem_singleton.mpr ha⟩,
        (by decide : 1 ≤ 2), (by decide : 2 ≤ 3), by simp +arith only [bij26], rfl⟩
    · obtain ⟨x, rfl⟩ : ∃ x, c = x + 702 := ⟨c - 702, (Nat.sub_add_cancel (Nat.le_of_not_lt h2)).symm⟩
      have ha : x / 26 / 26 < 26 := Nat.div_lt_of_lt_mul (Nat.div_lt_of_lt_mul
        (Nat.lt_of_lt_of_le (Nat.lt_sub_of_add_lt h) (by decide)))
      obtain ⟨y, r, hr, rfl, ey, er⟩ := divmod26 x
      rw [if_neg h2, Nat.add_sub_cancel, ← Nat.div_div_eq_div_mul _ 26 26, er]
      rw [ey] at ha ⊢
      obtain ⟨a, b, hb, rfl, ea, eb⟩ := divmod26 y
      rw [eb]
      rw [ea] at ha ⊢
      exact ⟨[r, b, a], List.forall_mem_cons.mpr ⟨hr, List.forall_mem_cons.mpr ⟨hb, List.forall_mem_singleton.mpr ha⟩⟩,
        (by decide : 1 ≤ 3), (by decide : 3 ≤ 3), by simp +arith only [bij26], rfl⟩

theorem colLoop_bij26 (ds : List Nat) (hds : ∀ d ∈ ds, d < 26) (f : Nat) (hf : ds.length ≤ f) :
    colLoop f (bij26 ds) = ds.map letter := by
  induction ds generalizing f with
  | nil => cases f <;> rfl
  | cons d ds ih =>
    cases f with
    | zero => cases hf
    | succ f =>
    have hd := hds d List.mem_cons_self
    rw [bij26, colLoop, if_pos (Nat.succ_pos _), Nat.add_sub_cancel, Nat.mul_comm, (DivMod.divmod_mul_add hd).1,
      (DivMod.divmod_mul_add hd).2, Nat.add_comm d 65,
      ih (fun x hx => hds x (List.mem_cons_of_mem _ hx)) f (Nat.le_of_succ_le_succ hf)]
    rfl

theorem columnNumberToName_eq (c : Nat) (h : c < 16384) : columnNumberToName c = .ok (colLetters c) := by
  obtain ⟨ds, hds, _, _, hv, e⟩ := colLetters_digits c h
  unfold columnNumberToName MAX_COLUMNS
  rw [if_neg (Nat.not_le_of_lt h), e, ← hv, colLoop_bij26 ds hds _ (length_le_bij26 ds)]

theorem colLetters_shape (c : Nat) (h : c < 16384) :
    (∀ x ∈ colLetters c, x.isAlpha = true ∧ x.isDigit = false)
    ∧ colVal (colLetters c) = c + 1 ∧ 1 ≤ (colLetters c).length ∧ (colLetters c).length ≤ 3 := by
  obtain ⟨ds, hds, h1, h3, hv, e⟩ := colLetters_digits c h
  rw [e, ← valLE26_reverse, List.reverse_reverse, List.length_reverse, List.length_map, ← hv]
  refine ⟨?_, ?_, h1, h3⟩
  · intro x hx
    obtain ⟨d, hd, rfl⟩ := List.mem_map.mp (List.mem_reverse.mp hx)
    exact ⟨(letter_facts d (hds d hd)).1, (letter_facts d (hds d hd)).2.1⟩
  · clear hv e h1 h3
    induction ds with
    | nil => rfl
    | cons d ds ih =>
      have ih : valLE 26 letterVal (ds.map letter) = bij26 ds := ih fun x hx => hds x (List.mem_cons_of_mem _ hx)
      rw [List.map_cons, valLE26, valLE, bij26, (letter_facts d (hds d List.mem_cons_self)).2.2, ih,
        Nat.add_comm, Nat.add_assoc]

theorem stripDollar_dollar (b : Bool) (t : List Char) (ht : ∀ x, t.head? = some x → x ≠ '$') :
    stripDollar (dollar b ++ t) = (b, t) := by
  cases b with
  | true => rfl
  | false =>
    cases t with
    | nil => rfl
    | cons x xs =>
      have := ht x rfl
      simp only [dollar, Bool.false_eq_true, if_false, List.nil_append]
      unfold stripDollar
      split
      · rename_i heq; cases heq; exact absurd rfl this
      · rfl

theorem stripDollar_spec (s : List Char) : FormulaTokens.stripDollar s = (stripDollar s).2 := by
  unfold FormulaTokens.stripDollar
  split
  · rfl
  · rename_i h
    unfold stripDollar
    split
    · exact absurd rfl (h _)
    · rfl

theorem ne_dollar (x : Char) (h : x.isAlpha = true ∨ x.isDigit = true) : x ≠ '$' := by
  intro e; subst e; revert h; decide

theorem scanRef_render (ca ra : Bool) (L D : List Char)
    (hL : ∀ x ∈ L, x.isAlpha = true) (hL1 : 1 ≤ L.length) (hL3 : L.length ≤ 3)
    (hD : ∀ x ∈ D, x.isDigit = true) (hD1 : 1 ≤ D.length) (hD7 : D.length ≤ 7) :
    scanRef (dollar ca ++ L ++ dollar ra ++ D) = some (ca, L, ra, D) := by
  have hDhead : ∀ x, D.head? = some x → x ≠ '$' := fun x hx => ne_dollar x (.inr (hD x (List.mem_of_head? hx)))
  have hrest : ∀ x, (dollar ra ++ D).head? = some x → x.isAlpha = false := by
    intro x hx
    cases ra with
    | true => cases hx; rfl
    | false =>
      exact Bool.eq_false_iff.mpr fun ha => by
        have := hD x (List.mem_of_head? hx)
        rw [isDigit_false_of_isAlpha x ha] at this; cases this
  have h1 : stripDollar (dollar ca ++ L ++ dollar ra ++ D) = (ca, L ++ (dollar ra ++ D)) := by
    rw [List.append_assoc, List.append_assoc]
    apply stripDollar_dollar
    intro x hx
    cases L with
    | nil => cases hL1
    | cons y ys => cases hx; exact ne_dollar _ (.inl (hL _ List.mem_cons_self))
  have h2 := takeWhile_append_stop _ _ _ hL hrest
  have h4 : stripDollar (dollar ra ++ D) = (ra, D) := stripDollar_dollar ra D hDhead
  have h5 := takeWhile_append_stop Char.isDigit D [] hD (fun _ h => nomatch h)
  rw [List.append_nil] at h5
  unfold scanRef
  simp only [h1, h2.1, h2.2, h4, h5.1, h5.2]
  rw [if_neg fun h => h.elim (Nat.ne_of_gt hL1) (Nat.not_lt.mpr hL3),
    if_neg fun h => h.elim (fun h => h rfl) fun h => h.elim (Nat.ne_of_gt hD1) (Nat.not_lt.mpr hD7)]

theorem toNat_move (abs : Bool) (x : Nat) (d : Int) :
    ((x : Int) + (if abs then 0 else d)).toNat = move abs x d := by
  cases abs <;> simp [move]

theorem getRowColumn_name (r c : Nat) (hc : c < 16384) :
    getRowColumn (colLetters c ++ dec (r + 1)) = .ok (r, c) := by
  obtain ⟨hLa, hLv, hL1, _⟩ := colLetters_shape c hc
  rw [getRowColumn_letters_digits _ _ (fun x hx => (hLa x hx).1) (List.ne_nil_of_length_pos hL1) (dec_digits _),
    dec_val, hLv, if_neg (Nat.succ_ne_zero r)]
  rfl

theorem coordinateToName_eq (r c : Nat) (hc : c < 16384) :
    coordinateToName (r, c) = .ok (colLetters c ++ dec (r + 1)) := by
  rw [coordinateToName, columnNumberToName_eq c hc, natToString_eq]

theorem moveRef_render (ca ra : Bool) (c r : Nat) (d : Int × Int) (hc : c < 16384) (hr : r < 1048576)
    (hin : inSheet ((r : Int) + (if ra then 0 else d.1)) ((c : Int) + (if ca then 0 else d.2)) = true) :
    moveRef ca (colLetters c) ra (dec (r + 1)) d
      = some (dollar ca ++ colLetters (move ca c d.2) ++ dollar ra ++ dec (move ra r d.1 + 1)) := by
  unfold inSheet FormulaTokens.MAX_ROWS FormulaTokens.MAX_COLUMNS at hin
  simp only [Bool.and_eq_true, decide_eq_true_eq] at hin
  obtain ⟨⟨⟨hr0, hr1⟩, hc0⟩, hc1⟩ := hin
  have hc' : move ca c d.2 < 16384 := by rw [← toNat_move]; exact (Int.toNat_lt hc0).mpr hc1
  obtain ⟨hLa', _, _, _⟩ := colLetters_shape (move ca c d.2) hc'
  have hD' := dec_digits (move ra r d.1 + 1)
  -- the printed name splits again before its first digit
  have hsplit := takeWhile_append_stop (fun x : Char => !x.isDigit) (colLetters (move ca c d.2)) (dec (move ra r d.1 + 1))
    (fun x hx => by rw [(hLa' x hx).2]; rfl) (fun x hx => by rw [hD' x (List.mem_of_head? hx)]; rfl)
  unfold moveRef MAX_ROWS MAX_COLUMNS
  simp only [getRowColumn_name r c hc]
  rw [if_neg (fun h => h.elim (Nat.not_le_of_lt hr) (Nat.not_le_of_lt hc)),
    if_neg (fun h => h.elim (Int.not_lt.mpr hr0) fun h => h.elim (Int.not_le.mpr hr1) fun h =>
      h.elim (Int.not_lt.mpr hc0) (Int.not_le.mpr hc1))]
  simp only [toNat_move, coordinateToName_eq _ _ hc']
  rw [hsplit.1, hsplit.2, if_neg (List.ne_nil_of_length_pos (dec_length_pos _))]
  rfl

theorem offsetCellRef_ref (ca ra : Bool) (c r : Nat) (d : Int × Int) (hc : c < 16384) (hr : r < 1048576)
    (hin : inSheet ((r : Int) + (if ra then 0 else d.1)) ((c : Int) + (if ca then 0 else d.2)) = true) :
    offsetCellRef (renderTok (.ref ca c ra r)) d = some (renderTok (shiftTok d (.ref ca c ra r))) := by
  obtain ⟨hLa, _, hL1, hL3⟩ := colLetters_shape c hc
  unfold offsetCellRef
  simp only [renderTok, shiftTok]
  rw [scanRef_render ca ra _ _ (fun x hx => (hLa x hx).1) hL1 hL3 (dec_digits _) (dec_length_pos _)
    (dec_length (r + 1) hr)]
  exact moveRef_render ca ra c r d hc hr hin

theorem scanRef_some {s : List Char} {ca ra : Bool} {L D : List Char} (hs : scanRef s = some (ca, L, ra, D))
    (t u : List Char) (ht : (stripDollar s).2 = t) (hu : (stripDollar (t.dropWhile Char.isAlpha)).2 = u) :
    L = t.takeWhile Char.isAlpha ∧ D = u.takeWhile Char.isDigit ∧ u.dropWhile Char.isDigit = []
      ∧ (1 ≤ L.length ∧ L.length ≤ 3) ∧ 1 ≤ D.length ∧ D.length ≤ 7 := by
  unfold scanRef at hs
  dsimp only at hs
  rw [ht, hu] at hs
  by_cases h1 : (t.takeWhile Char.isAlpha).length = 0 ∨ (t.takeWhile Char.isAlpha).length > 3
  · rw [if_pos h1] at hs; cases hs
  · rw [if_neg h1] at hs
    by_cases h2 : u.dropWhile Char.isDigit ≠ [] ∨ (u.takeWhile Char.isDigit).length = 0
        ∨ (u.takeWhile Char.isDigit).length > 7
    · rw [if_pos h2] at hs; cases hs
    · rw [if_neg h2] at hs
      cases hs
      exact ⟨rfl, rfl, Decidable.byContradiction fun h => h2 (.inl h),
        ⟨Nat.pos_of_ne_zero fun h => h1 (.inl h), Nat.le_of_not_lt fun h => h1 (.inr h)⟩,
        Nat.pos_of_ne_zero fun h => h2 (.inr (.inl h)), Nat.le_of_not_lt fun h => h2 (.inr (.inr h))⟩

theorem offsetCellRef_none_of_not_cellLike (s : List Char) (d : Int × Int) (h : cellLike s = false) :
    offsetCellRef s d = none := by
  unfold offsetCellRef
  cases hs : scanRef s with
  | none => rfl
  | some q =>
    obtain ⟨ca, L, ra, D⟩ := q
    obtain ⟨hL, hD, hrest, ⟨hL1, hL3⟩, hD1, hD7⟩ := scanRef_some hs _ _ rfl rfl
    have hg := getRowColumn_letters_digits L D (fun x hx => List.all_eq_true.mp List.all_takeWhile x (hL ▸ hx))
      (List.ne_nil_of_length_pos hL1) (fun x hx => List.all_eq_true.mp List.all_takeWhile x (hD ▸ hx))
    dsimp only
    unfold moveRef
    by_cases h0 : decVal D = 0
    · rw [if_pos h0] at hg; simp only [hg]
    · rw [if_neg h0] at hg
      simp only [hg]
      by_cases hb : decVal D - 1 ≥ MAX_ROWS ∨ colVal L - 1 ≥ MAX_COLUMNS
      · rw [if_pos hb]
      · -- all the tests of `cellLike` have been passed
        have hcl : cellLike s = true := by
          unfold cellLike
          simp only [stripDollar_spec, ← hL, ← hD, hrest, Bool.and_eq_true, decide_eq_true_eq, List.isEmpty_nil]
          -- the conjuncts in the order of the `&&` chain of `cellLike`: nothing left over, 1 ≤ letters ≤ 3,
          -- 1 ≤ digits ≤ 7, column ≤ 16384, 1 ≤ row, row ≤ 1048576
          exact ⟨⟨⟨⟨⟨⟨⟨trivial, hL1⟩, hL3⟩, hD1⟩, hD7⟩, Nat.le_of_pred_lt (Nat.lt_of_not_le fun e => hb (.inr e))⟩,
            Nat.pos_of_ne_zero h0⟩, Nat.le_of_pred_lt (Nat.lt_of_not_le fun e => hb (.inl e))⟩
        rw [hcl] at h; cases h

theorem cellLike_num (s : List Char) (hs : ∀ x ∈ s, (x.isDigit || x = '.') = true) : cellLike s = false := by
  unfold cellLike
  cases s with
  | nil => rfl
  | cons x xs =>
    have hx := hs x List.mem_cons_self
    have hna : ¬ x.isAlpha = true := by
      intro h
      rw [isDigit_false_of_isAlpha x h, Bool.false_or, decide_eq_true_eq] at hx
      subst hx; revert h; decide
    have hnd : x ≠ '$' := by
      intro e; subst e; revert hx; decide
    have a : FormulaTokens.stripDollar (x :: xs) = x :: xs :=
      (stripDollar_spec _).trans (congrArg Prod.snd (stripDollar_dollar false (x :: xs) fun y hy => by cases hy; exact hnd))
    simp only [a, List.takeWhile_cons_of_neg hna, List.length_nil]
    simp

theorem render_ref_nameChars (ca ra : Bool) (c r : Nat) (hc : c < 16384) :
    (∀ x ∈ renderTok (.ref ca c ra r), isNameChar x = true) ∧ renderTok (.ref ca c ra r) ≠ [] := by
  obtain ⟨hLa, _, hL1, _⟩ := colLetters_shape c hc
  have hdol : ∀ b, ∀ x ∈ dollar b, isNameChar x = true := by
    intro b x hx; cases b <;> simp [dollar] at hx; subst hx; decide
  constructor
  · intro x hx
    simp only [renderTok, List.mem_append] at hx
    rcases hx with ((hx | hx) | hx) | hx
    · exact hdol _ x hx
    · exact isNameChar_of_isAlpha x (hLa x hx).1
    · exact hdol _ x hx
    · exact isNameChar_of_isDigit x (dec_digits _ x hx)
  · apply List.ne_nil_of_length_pos
    rw [renderTok, List.length_append]
    exact Nat.lt_of_lt_of_le (dec_length_pos _) (Nat.le_add_left _ _)

/-- `out` in front of an `ok` result, any other outcome as it is. Every arm of the loop of `replace_cell_names` has
    this one shape, `pre (what this iteration emits) (the loop on the input it leaves)`: `next` names the two parts,
    `replaceGo_succ` is the loop in that form, and the C15 statements `strings_opaque`, `structs_opaque`,
    `idents_unchanged` are written with it. -/
def pre (out : List Char) : Res (List Char) → Res (List Char)
  | .ok rest => .ok (out ++ rest)
  | r => r

/-- what the loop emits for the run `run` in front of `rest` -/
def runOut (d : Int × Int) (run rest : List Char) : List Char :=
  match offsetCellRef run d with
  | some cell => if nextIsCallOrSheet rest then run else cell
  | none => run

theorem nextIsCallOrSheet_eq (rest : List Char) :
    nextIsCallOrSheet rest = !(notCallOrSheet rest.head?) := by
  cases rest with
  | nil => rfl
  | cons x xs =>
    unfold nextIsCallOrSheet
    split
    · rename_i heq; cases heq; rfl
    · rename_i heq; cases heq; rfl
    · rename_i heq; cases heq; rfl
    · rename_i h1 h2 h3
      have e : ∀ y : Char, x ≠ y → (x != y) = true := fun y hy => bne_iff_ne.mpr hy
      simp only [List.head?_cons, notCallOrSheet, e _ fun e => h1 xs (e ▸ rfl), e _ fun e => h2 xs (e ▸ rfl),
        e _ fun e => h3 xs (e ▸ rfl)]
      rfl

theorem runOut_unchanged (d : Int × Int) (run rest : List Char)
    (h : cellLike run = false ∨ notCallOrSheet rest.head? = false) : runOut d run rest = run := by
  unfold runOut
  rcases h with hc | hc
  · rw [offsetCellRef_none_of_not_cellLike run d hc]
  · rw [nextIsCallOrSheet_eq, hc]
    cases offsetCellRef run d <;> rfl

/-- one iteration of the loop of `replace_cell_names` on `c :: cs`: the text it emits and the input it
    leaves for the next iteration -/
def next (d : Int × Int) (c : Char) (cs : List Char) : List Char × List Char :=
  if c = '"' ∨ c = '\'' then (c :: (copyQuoted c cs).1, (copyQuoted c cs).2)
  else if c = '[' then (c :: (copyBracket 1 cs).1, (copyBracket 1 cs).2)
  else if isNameChar c then
    (runOut d (c :: cs.takeWhile isNameChar) (cs.dropWhile isNameChar), cs.dropWhile isNameChar)
  else ([c], cs)

theorem replaceGo_succ (d : Int × Int) (f : Nat) (c : Char) (cs : List Char) :
    replaceGo d (f + 1) (c :: cs) = pre (next d c cs).1 (replaceGo d f (next d c cs).2) := by
  rw [replaceGo]
  unfold next
  by_cases h1 : c = '"' ∨ c = '\''
  · rw [if_pos h1, if_pos h1]
    cases replaceGo d f (copyQuoted c cs).2 <;> rfl
  · rw [if_neg h1, if_neg h1]
    by_cases h2 : c = '['
    · rw [if_pos h2, if_pos h2]
      cases replaceGo d f (copyBracket 1 cs).2 <;> rfl
    · rw [if_neg h2, if_neg h2]
      by_cases h3 : isNameChar c = true
      · rw [if_pos h3, if_pos h3]
        dsimp only
        cases replaceGo d f (cs.dropWhile isNameChar) <;> rfl
      · rw [if_neg h3, if_neg h3]
        cases replaceGo d f cs <;> rfl

theorem copyQuoted_length (q : Char) (s : List Char) : (copyQuoted q s).2.length ≤ s.length := by
  induction s with
  | nil => exact Nat.le_refl 0
  | cons c cs ih =>
    rw [copyQuoted]
    split
    · exact Nat.le_succ _
    · exact Nat.le_succ_of_le ih

theorem copyBracketAux_length (s : List Char) : ∀ e d, (copyBracketAux e d s).2.length ≤ s.length := by
  induction s with
  | nil => intro e d; cases e <;> exact Nat.le_refl 0
  | cons c cs ih =>
    intro e d
    cases e with
    | true => rw [copyBracketAux]; exact Nat.le_succ_of_le (ih false d)
    | false =>
      rw [copyBracketAux]
      by_cases h1 : c = '\''
      · rw [if_pos h1]; exact Nat.le_succ_of_le (ih true d)
      · rw [if_neg h1]
        by_cases h2 : c = '['
        · rw [if_pos h2]; exact Nat.le_succ_of_le (ih false (d + 1))
        · rw [if_neg h2]
          by_cases h3 : c = ']'
          · rw [if_pos h3]
            by_cases h4 : d ≤ 1
            · rw [if_pos h4]; exact Nat.le_succ _
            · rw [if_neg h4]; exact Nat.le_succ_of_le (ih false (d - 1))
          · rw [if_neg h3]; exact Nat.le_succ_of_le (ih false d)

/-- every iteration consumes input: this is why `fuel = length` suffices -/
theorem next_length (d : Int × Int) (c : Char) (cs : List Char) : (next d c cs).2.length ≤ cs.length := by
  unfold next
  by_cases h1 : c = '"' ∨ c = '\''
  · rw [if_pos h1]; exact copyQuoted_length c cs
  · rw [if_neg h1]
    by_cases h2 : c = '['
    · rw [if_pos h2]; exact copyBracketAux_length cs false 1
    · rw [if_neg h2]
      by_cases h3 : isNameChar c = true
      · rw [if_pos h3]; exact (List.dropWhile_suffix isNameChar).length_le
      · rw [if_neg h3]; exact Nat.le_refl _

theorem replaceGo_nil (d : Int × Int) (f : Nat) : replaceGo d f [] = .ok [] := by
  cases f <;> rfl

/-- what `replace_cell_names` returns: `next` iterated until the input is used up -/
def rew (d : Int × Int) : List Char → List Char
  | [] => []
  | c :: cs => (next d c cs).1 ++ rew d (next d c cs).2
termination_by s => s.length
decreasing_by exact Nat.lt_succ_of_le (next_length d c cs)

theorem rew_cons (d : Int × Int) (c : Char) (cs : List Char) :
    rew d (c :: cs) = (next d c cs).1 ++ rew d (next d c cs).2 := by
  rw [rew]

theorem replaceGo_eq (d : Int × Int) (f : Nat) : ∀ s : List Char, s.length ≤ f → replaceGo d f s = .ok (rew d s) := by
  induction f with
  | zero =>
    intro s hs
    cases List.eq_nil_of_length_eq_zero (Nat.le_zero.mp hs)
    rw [rew]; rfl
  | succ f ih =>
    intro s hs
    cases s with
    | nil => rw [rew, replaceGo_nil]
    | cons c cs =>
      rw [replaceGo_succ, ih _ (Nat.le_trans (next_length d c cs) (Nat.le_of_succ_le_succ hs)), rew_cons]
      rfl

theorem replaceCellNames_eq (s : List Char) (d : Int × Int) : replaceCellNames s d = .ok (rew d s) :=
  replaceGo_eq d s.length s (Nat.le_refl _)

theorem replaceGo_fuel (d : Int × Int) (f : Nat) (s : List Char) (hf : s.length ≤ f) :
    replaceGo d f s = replaceCellNames s d := by
  rw [replaceGo_eq d f s hf, replaceCellNames_eq]

theorem pre_replace (out s : List Char) (d : Int × Int) : pre out (replaceCellNames s d) = .ok (out ++ rew d s) := by
  rw [replaceCellNames_eq]; rfl

theorem copyQuoted_stop (q : Char) (s rest : List Char) (h : ∀ x ∈ s, x ≠ q) :
    copyQuoted q (s ++ q :: rest) = (s ++ [q], rest) := by
  induction s with
  | nil => simp only [List.nil_append, copyQuoted, if_true]
  | cons y ys ih =>
    simp only [List.cons_append, copyQuoted, if_neg (h y List.mem_cons_self),
      ih (fun x hx => h x (List.mem_cons_of_mem _ hx))]

theorem next_quoted (d : Int × Int) (q : Char) (s rest : List Char)
    (hq : q = '"' ∨ q = '\'') (h : ∀ x ∈ s, x ≠ q) : next d q (s ++ q :: rest) = (q :: s ++ [q], rest) := by
  unfold next
  rw [if_pos hq, copyQuoted_stop q s rest h]
  rfl

theorem copyBracketAux_scan (s : List Char) : ∀ (e : Bool) (d d' : Nat) (rest : List Char),
    FormulaTokens.bracketScanAux e d s = some d' →
    copyBracketAux e (d + 1) (s ++ rest)
      = (s ++ (copyBracketAux false (d' + 1) rest).1, (copyBracketAux false (d' + 1) rest).2) := by
  induction s with
  | nil =>
    intro e d d' rest h
    cases e with
    | true => cases h
    | false => cases h; rfl
  | cons c cs ih =>
    intro e d d' rest h
    cases e with
    | true =>
      rw [FormulaTokens.bracketScanAux] at h
      rw [List.cons_append, copyBracketAux, ih false d d' rest h]; rfl
    | false =>
      rw [FormulaTokens.bracketScanAux] at h
      rw [List.cons_append, copyBracketAux]
      by_cases h1 : c = '\''
      · rw [if_pos h1] at h; rw [if_pos h1, ih true d d' rest h]; rfl
      · rw [if_neg h1] at h; rw [if_neg h1]
        by_cases h2 : c = '['
        · rw [if_pos h2] at h; rw [if_pos h2, ih false (d + 1) d' rest h]; rfl
        · rw [if_neg h2] at h; rw [if_neg h2]
          by_cases h3 : c = ']'
          · rw [if_pos h3] at h; rw [if_pos h3]
            cases d with
            | zero => cases h
            | succ k =>
              rw [if_neg (Nat.succ_ne_zero k), Nat.add_sub_cancel] at h
              rw [if_neg (show ¬ k + 1 + 1 ≤ 1 from fun h => Nat.not_succ_le_zero k (Nat.le_of_succ_le_succ h)),
                Nat.add_sub_cancel, ih false k d' rest h]; rfl
          · rw [if_neg h3] at h; rw [if_neg h3, ih false d d' rest h]; rfl

theorem next_bracket (d : Int × Int) (s rest : List Char) (h : bracketScan 0 s = some 0) :
    next d '[' (s ++ ']' :: rest) = ('[' :: s ++ [']'], rest) := by
  unfold next copyBracket
  rw [if_neg (by decide), if_pos rfl, copyBracketAux_scan s false 0 0 (']' :: rest) h]
  rfl

/-- a maximal run of name characters in front of `rest`: the loop takes all of it in one iteration and emits
    `runOut` for it (references, identifiers, numbers and unquoted sheet names are all such runs) -/
theorem rew_run (d : Int × Int) (run rest : List Char) (hne : run ≠ [])
    (hrun : ∀ x ∈ run, isNameChar x = true) (hmax : endsRun rest.head? = true) :
    rew d (run ++ rest) = runOut d run rest ++ rew d rest := by
  have hrest : ∀ x, rest.head? = some x → isNameChar x = false := by
    intro x hx
    rw [hx, endsRun, ← isNameChar_eq_identChar] at hmax
    exact (Bool.not_eq_true' _).mp hmax
  cases run with
  | nil => exact absurd rfl hne
  | cons c cs =>
    have hc := hrun c List.mem_cons_self
    have hq : c ≠ '"' ∧ c ≠ '\'' ∧ c ≠ '[' := by
      refine ⟨?_, ?_, ?_⟩ <;> (intro e; subst e; revert hc; decide)
    have hs := takeWhile_append_stop _ cs rest (fun x hx => hrun x (List.mem_cons_of_mem _ hx)) hrest
    rw [List.cons_append, rew_cons]
    unfold next
    rw [if_neg (by intro h; rcases h with h | h; exact hq.1 h; exact hq.2.1 h), if_neg hq.2.2, if_pos hc, hs.1, hs.2]

theorem rew_punct (c : Char) (rest : List Char) (d : Int × Int)
    (h : (!identChar c && c != '"' && c != '\'' && c != '[') = true) : rew d (c :: rest) = c :: rew d rest := by
  simp only [Bool.and_eq_true, Bool.not_eq_true', bne_iff_ne, ne_eq] at h
  obtain ⟨⟨⟨hid, hdq⟩, hsq⟩, hbr⟩ := h
  rw [rew_cons]
  unfold next
  rw [if_neg fun hq => hq.elim hdq hsq, if_neg hbr, show isNameChar c = false from isNameChar_eq_identChar ▸ hid]
  rfl

theorem Table.lookup_store_same (t : Table) (si : Nat) (g : Group) : (t.store si g).lookup si = some g := by
  simp only [Table.store, Table.lookup, List.find?_cons_of_pos, beq_self_eq_true]

theorem Table.lookup_store_ne (t : Table) (si sj : Nat) (g : Group) (hne : si ≠ sj) :
    (t.store sj g).lookup si = t.lookup si := by
  unfold Table.store Table.lookup
  rw [List.find?_cons_of_neg (by simpa using Ne.symm hne),
    ListLoops.find?_filter_of_imp _ _ t fun p _ hp => bne_iff_ne.mpr (beq_iff_eq.mp hp ▸ hne)]

theorem Table.store_length (t : Table) (si : Nat) (g : Group) : (t.store si g).length ≤ t.length + 1 :=
  Nat.succ_le_succ (List.length_filter_le _ t)

theorem Rect.contains_iff (d : Rect) (r c : Nat) :
    d.contains r c = true ↔ d.sr ≤ r ∧ r ≤ d.er ∧ d.sc ≤ c ∧ c ≤ d.ec := by
  simp only [Rect.contains, Bool.and_eq_true, decide_eq_true_eq, ge_iff_le, and_assoc]

/-- the offset of a cell in terms of the four inequalities instead of the code's `Dimensions::contains` -/
theorem Group.offsetOf_eq (g : Group) (pos : Nat × Nat) :
    g.offsetOf pos = if g.ref.sr ≤ pos.1 ∧ pos.1 ≤ g.ref.er ∧ g.ref.sc ≤ pos.2 ∧ pos.2 ≤ g.ref.ec
      then some ((pos.1 : Int) - (g.master.1 : Int), (pos.2 : Int) - (g.master.2 : Int)) else none := by
  simp only [Group.offsetOf, Rect.contains_iff]

/-- the text a follower of group `si` at `pos` reports from the table `t` (`own`: the text of its own `<f>`) -/
def followerText (t : Table) (si : Nat) (pos : Nat × Nat) (own : List Char) : List Char :=
  match t.lookup si with
  | some g =>
    match g.offsetOf pos with
    | some off => rew off g.text
    | none => own
  | none => own

theorem cellFormula_follower (t : Table) (pos : Nat × Nat) (own : List Char) (si : Nat) :
    cellFormula t ⟨pos, some (own, some ⟨some si, none⟩)⟩ = .ok (t, followerText t si pos own) := by
  simp only [cellFormula, followerText, replaceCellNames_eq]
  cases t.lookup si with
  | none => rfl
  | some g => dsimp only; cases g.offsetOf pos <;> rfl

/-- A1 name of a 0-based position as the `ref` attribute writes it, built from the grammar's `colLetters` and `dec`
    (`ref_attribute_roundtrip` is stated with it) -/
def a1 (p : Nat × Nat) : List Char := colLetters p.2 ++ dec (p.1 + 1)

theorem a1_no_colon (p : Nat × Nat) (hc : p.2 < 16384) : ∀ x ∈ a1 p, x ≠ ':' := by
  obtain ⟨hLa, _, _, _⟩ := colLetters_shape p.2 hc
  intro x hx e
  subst e
  rcases List.mem_append.mp hx with hx | hx
  · have := (hLa _ hx).1; revert this; decide
  · have := dec_digits _ _ hx; revert this; decide

theorem splitColon_none (l : List Char) (h : ∀ x ∈ l, x ≠ ':') : splitColon l = [l] := by
  induction l with
  | nil => rfl
  | cons c cs ih =>
    simp only [splitColon, if_neg (h c List.mem_cons_self), ih (fun x hx => h x (List.mem_cons_of_mem _ hx))]

theorem splitColon_one (l1 l2 : List Char) (h1 : ∀ x ∈ l1, x ≠ ':') (h2 : ∀ x ∈ l2, x ≠ ':') :
    splitColon (l1 ++ ':' :: l2) = [l1, l2] := by
  induction l1 with
  | nil => simp only [List.nil_append, splitColon, if_true, splitColon_none l2 h2]
  | cons c cs ih =>
    simp only [List.cons_append, splitColon, if_neg (h1 c List.mem_cons_self),
      ih (fun x hx => h1 x (List.mem_cons_of_mem _ hx))]

end SharedFormula

namespace C15
open SharedFormula
open FormulaTokens (Tok letter colLetters dec dollar renderTok render shiftTok shift move identChar
  cellLike firstChar endsRun notCallOrSheet inSheet tokWF wf WF bracketScan)

theorem not_mem_of_not_contains (q : Char) (s : List Char) (h : (!s.contains q) = true) : ∀ x ∈ s, x ≠ q := by
  intro x hx e
  subst e
  rw [List.contains_iff_mem.mpr hx] at h
  cases h

theorem snoc_append (c q : Char) (s t l : List Char) : c :: s ++ q :: t ++ l = c :: (s ++ q :: (t ++ l)) := by
  rw [List.cons_append, List.cons_append, List.append_assoc]; rfl

theorem rew_tok (d : Int × Int) (t : Tok) (rest : List Char) (h : tokWF d t rest.head? = true) :
    rew d (renderTok t ++ rest) = renderTok (shiftTok d t) ++ rew d rest := by
  have hbang := rew_punct '!' rest d (by decide)
  have hne : ∀ s : List Char, (!s.isEmpty) = true → s ≠ [] := fun s hs =>
    List.isEmpty_eq_false_iff.mp ((Bool.not_eq_true' _).mp hs)
  cases t with
  | punct c => exact rew_punct c rest d h
  | struct s =>
    rw [tokWF, beq_iff_eq] at h
    rw [renderTok, snoc_append, rew_cons, next_bracket d s _ h]; rfl
  | str s =>
    rw [renderTok, snoc_append, rew_cons, next_quoted d '"' s _ (.inl rfl) (not_mem_of_not_contains '"' s h)]; rfl
  | sheet n q =>
    cases q with
    | true =>
      rw [renderTok, snoc_append, rew_cons,
        next_quoted d '\'' n _ (.inr rfl) (not_mem_of_not_contains '\'' n h), List.singleton_append, hbang]
      simp only [shiftTok, renderTok, List.cons_append, List.append_assoc, List.nil_append]
    | false =>
      rw [tokWF, Bool.and_eq_true, List.all_eq_true] at h
      obtain ⟨hn0, hnid⟩ := h
      rw [renderTok, List.append_assoc, rew_run d n _ (hne n hn0) (isNameChar_eq_identChar ▸ hnid) rfl,
        runOut_unchanged d n _ (.inr rfl), List.singleton_append, hbang]
      simp only [shiftTok, renderTok, List.cons_append, List.append_assoc, List.nil_append]
  | ident s =>
    simp only [tokWF, Bool.and_eq_true, List.all_eq_true, Bool.or_eq_true, Bool.not_eq_true'] at h
    obtain ⟨⟨⟨hs0, hsid⟩, hend⟩, hnocell⟩ := h
    rw [renderTok, rew_run d s rest (hne s ((Bool.not_eq_true' _).mpr hs0))
      (isNameChar_eq_identChar ▸ hsid) hend, runOut_unchanged d s rest hnocell]
    rfl
  | num s =>
    simp only [tokWF, Bool.and_eq_true, List.all_eq_true] at h
    obtain ⟨⟨hs0, hsnum⟩, hend⟩ := h
    have hname : ∀ x ∈ s, isNameChar x = true := by
      intro x hx
      rcases (Bool.or_eq_true _ _).mp (hsnum x hx) with hd | hd
      · exact isNameChar_of_isDigit x hd
      · rw [of_decide_eq_true hd]; rfl
    rw [renderTok, rew_run d s rest (hne s hs0) hname hend, runOut_unchanged d s rest (.inl (cellLike_num s hsnum))]
    rfl
  | ref ca c ra r =>
    simp only [tokWF, Bool.and_eq_true, decide_eq_true_eq] at h
    obtain ⟨⟨⟨⟨hc, hr⟩, hin⟩, hend⟩, hcall⟩ := h
    obtain ⟨hname, hne⟩ := render_ref_nameChars ca ra c r hc
    rw [rew_run d _ rest hne hname hend, runOut, offsetCellRef_ref ca ra c r d hc hr hin, nextIsCallOrSheet_eq, hcall]
    rfl

/-- one token in front of any text it is well-formed against, in terms of the model alone -/
theorem translate_tok (d : Int × Int) (t : Tok) (rest : List Char) (h : tokWF d t rest.head? = true) :
    replaceCellNames (renderTok t ++ rest) d = pre (renderTok (shiftTok d t)) (replaceCellNames rest d) := by
  rw [pre_replace, replaceCellNames_eq, rew_tok d t rest h]

theorem rew_render (toks : List Tok) (d : Int × Int) (h : WF toks d) : rew d (render toks) = render (shift toks d) := by
  induction toks with
  | nil => rw [render, rew]; rfl
  | cons t ts ih =>
    obtain ⟨ht, hts⟩ := (Bool.and_eq_true _ _).mp h
    rw [render, rew_tok d t (render ts) ht, ih hts]
    rfl

theorem sheetFormulas_cons_ok (t : Table) (c : CellIn) (cs : List CellIn) (out : List ((Nat × Nat) × List Char))
    (h : sheetFormulas t (c :: cs) = .ok out) :
    ∃ t' v rest, cellFormula t c = .ok (t', v) ∧ sheetFormulas t' cs = .ok rest
      ∧ out = if v = [] then rest else (c.pos, v) :: rest := by
  rw [sheetFormulas] at h
  cases hc : cellFormula t c with
  | ok p =>
    simp only [hc] at h
    cases hr : sheetFormulas p.1 cs with
    | ok rest => simp only [hr, Res.ok.injEq] at h; exact ⟨p.1, p.2, rest, rfl, hr, h.symm⟩
    | err e => simp only [hr] at h; cases h
    | panic e => simp only [hr] at h; cases h
    | outOfFuel => simp only [hr] at h; cases h
  | err e => simp only [hc] at h; cases h
  | panic e => simp only [hc] at h; cases h
  | outOfFuel => simp only [hc] at h; cases h

/-- the table after a sequence of cells (when none of them fails) -/
def runTable : Table → List CellIn → Res Table
  | t, [] => .ok t
  | t, c :: cs =>
    match cellFormula t c with
    | .ok (t', _) => runTable t' cs
    | .err e => .err e
    | .panic e => .panic e
    | .outOfFuel => .outOfFuel

/-- `c` is a master of the group `si`: the same as `masterOf si c ≠ none` (`masterOf_of_not_defines` is the direction
    the proofs use) -/
def definesGroup (c : CellIn) (si : Nat) : Prop :=
  ∃ text ref, c.f = some (text, some ⟨some si, some ref⟩)

/-- the group `si` as declared by the last master with that `si` among the cells `before` -/
def lastMaster (before : List CellIn) (si : Nat) : Option Group :=
  before.reverse.findSome? fun c =>
    match c.f with
    | some (text, some ⟨some sj, some ref⟩) => if sj = si then some ⟨text, ref, c.pos⟩ else none
    | _ => none

/-- the group the cell declares under `si`, if it is a master with that `si`: the function `lastMaster` searches with -/
def masterOf (si : Nat) (c : CellIn) : Option Group :=
  match c.f with
  | some (text, some ⟨some sj, some ref⟩) => if sj = si then some ⟨text, ref, c.pos⟩ else none
  | _ => none

theorem lastMaster_eq (before : List CellIn) (si : Nat) :
    lastMaster before si = before.reverse.findSome? (masterOf si) := rfl

theorem lastMaster_append (a b : List CellIn) (si : Nat) :
    lastMaster (a ++ b) si = (lastMaster b si).or (lastMaster a si) := by
  rw [lastMaster_eq, lastMaster_eq, lastMaster_eq, List.reverse_append, List.findSome?_append]

theorem lastMaster_singleton (c : CellIn) (si : Nat) : lastMaster [c] si = masterOf si c := by
  rw [lastMaster_eq, List.reverse_singleton, List.findSome?_cons]; cases masterOf si c <;> rfl

theorem lastMaster_snoc (before : List CellIn) (c : CellIn) (si : Nat) :
    lastMaster (before ++ [c]) si = (masterOf si c).or (lastMaster before si) := by
  rw [lastMaster_append, lastMaster_singleton]

theorem masterOf_of_not_defines (c : CellIn) (si : Nat) (h : ¬ definesGroup c si) : masterOf si c = none := by
  obtain ⟨pos, _ | ⟨text, _ | ⟨_ | sj, _ | ref⟩⟩⟩ := c <;> try rfl
  exact if_neg fun e => h ⟨text, ref, by rw [← e]⟩

theorem lastMaster_append_nodef (b l : List CellIn) (si : Nat) (h : ∀ x ∈ b, ¬ definesGroup x si) :
    lastMaster (l ++ b) si = lastMaster l si := by
  have e : lastMaster b si = none :=
    (lastMaster_eq b si).trans <| List.findSome?_eq_none_iff.mpr fun x hx => masterOf_of_not_defines x si (h x (List.mem_reverse.mp hx))
  rw [lastMaster_append, e]; rfl

theorem lastMaster_master (a b : List CellIn) (m : CellIn) (text : List Char) (si : Nat) (ref : Rect)
    (hm : m.f = some (text, some ⟨some si, some ref⟩)) (hb : ∀ x ∈ b, ¬ definesGroup x si) :
    lastMaster (a ++ m :: b) si = some ⟨text, ref, m.pos⟩ := by
  rw [← List.singleton_append, ← List.append_assoc, lastMaster_append_nodef b _ si hb, lastMaster_snoc, masterOf, hm]
  dsimp only
  rw [if_pos rfl]
  rfl

theorem lookup_cellFormula (t t' : Table) (c : CellIn) (v : List Char) (si : Nat)
    (h : cellFormula t c = .ok (t', v)) : t'.lookup si = (masterOf si c).or (t.lookup si) := by
  obtain ⟨pos, _ | ⟨text, _ | ⟨_ | sj, _ | ref⟩⟩⟩ := c
  · cases h; rfl
  · cases h; rfl
  · cases h
  · cases h
  · rw [cellFormula_follower] at h; cases h; rfl
  · cases h
    show (t.store sj ⟨v, ref, pos⟩).lookup si = (if sj = si then some ⟨v, ref, pos⟩ else none).or (t.lookup si)
    by_cases e : sj = si
    · rw [if_pos e, e, Table.lookup_store_same]; rfl
    · rw [if_neg e, Table.lookup_store_ne _ _ _ _ (Ne.symm e)]; rfl

theorem lookup_runTable (cells : List CellIn) (t t' : Table) (si : Nat) (h : runTable t cells = .ok t') :
    t'.lookup si = (lastMaster cells si).or (t.lookup si) := by
  induction cells generalizing t with
  | nil => cases h; rfl
  | cons c cs ih =>
    rw [runTable] at h
    cases hc : cellFormula t c <;> simp only [hc, reduceCtorEq] at h
    rw [ih _ h, lookup_cellFormula t _ c _ si hc, ← List.singleton_append, lastMaster_append,
      lastMaster_singleton, Option.or_assoc]

/-- storing the masters of a list of groups -/
def storeAll (t : Table) (defs : List (Nat × Group)) : Table :=
  defs.foldl (fun t p => t.store p.1 p.2) t

theorem storeAll_append (t : Table) (a b : List (Nat × Group)) : storeAll t (a ++ b) = storeAll (storeAll t a) b :=
  List.foldl_append

theorem lookup_storeAll_of_not_mem (defs : List (Nat × Group)) (t : Table) (si : Nat) (h : si ∉ defs.map Prod.fst) :
    (storeAll t defs).lookup si = t.lookup si := by
  induction defs generalizing t with
  | nil => rfl
  | cons p ps ih =>
    rw [List.map_cons, List.mem_cons, not_or] at h
    exact (ih (t.store p.1 p.2) h.2).trans (Table.lookup_store_ne t si p.1 p.2 h.1)

theorem lookup_storeAll_of_mem (t : Table) (defs : List (Nat × Group)) (hd : (defs.map Prod.fst).Nodup)
    (si : Nat) (g : Group) (hm : (si, g) ∈ defs) : (storeAll t defs).lookup si = some g := by
  obtain ⟨a, b, rfl⟩ := List.append_of_mem hm
  rw [List.map_append, List.map_cons, List.nodup_append] at hd
  -- stored after `a`, never overwritten by `b`
  rw [storeAll_append]
  exact (lookup_storeAll_of_not_mem b _ si (List.nodup_cons.mp hd.2.1).1).trans (Table.lookup_store_same _ si g)

theorem lookup_storeAll_perm (t : Table) (defs defs' : List (Nat × Group)) (hp : defs.Perm defs')
    (hd : (defs.map Prod.fst).Nodup) (si : Nat) : (storeAll t defs').lookup si = (storeAll t defs).lookup si := by
  by_cases h : si ∈ defs.map Prod.fst
  · obtain ⟨⟨_, g⟩, hm, rfl⟩ := List.mem_map.mp h
    rw [lookup_storeAll_of_mem t defs hd _ g hm,
      lookup_storeAll_of_mem t defs' ((hp.map Prod.fst).nodup_iff.mp hd) _ g (hp.mem_iff.mp hm)]
  · rw [lookup_storeAll_of_not_mem defs t si h, lookup_storeAll_of_not_mem defs' t si (mt (hp.map Prod.fst).mem_iff.mpr h)]

/-- the translated text (total: `replace_cell_names` never fails, `replace_never_fails`) -/
def translate (text : List Char) (d : Int × Int) : List Char :=
  match replaceCellNames text d with
  | .ok r => r
  | _ => []

theorem translate_eq (text : List Char) (d : Int × Int) : translate text d = rew d text := by
  rw [translate, replaceCellNames_eq]

end C15
