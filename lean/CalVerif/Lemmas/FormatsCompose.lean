import CalVerif.Lemmas.Formats
/-! The style-table builders composed with the value wrapping. The scanner is a total function (`classOf`) and each
    builder is, on ANY definitions, the map of a class function over the XF list (`x*Styles_eq`); on rendered grammar
    formats that map is the logical table (`logicalXlsx / logicalXlsb / logicalXls`: last definition of the id, else the
    documented built-in class; xlsb built-in first), so a numeric cell with style index `i` is typed by the format XF `i`
    refers to. A style index past the XF list is `formats.get(i) = None` in every reader: the number stays plain, in the
    statements `(xfs[i]?.map logical).getD .other`. -/
namespace Formats
open NumFmt

theorem lookupId_default (tbl : List (List UInt8 × CellFormat)) (d : CellFormat) (id : List UInt8)
    (h : ∀ row ∈ tbl, row.1.length < id.length) : lookupId tbl d id = d := by
  have : tbl.find? (fun row => row.1 == id) = none := by
    rw [List.find?_eq_none]
    intro row hr hb
    have := h row hr
    rw [beq_iff_eq.mp hb] at this
    exact Nat.lt_irrefl _ this
  rw [lookupId, this]

theorem lookupCode_default (tbl : List (Nat × Nat × CellFormat)) (d : CellFormat) (n : Nat)
    (h : ∀ row ∈ tbl, row.2.1 < n) : lookupCode tbl d n = d := by
  have : tbl.find? (fun row => decide (row.1 ≤ n ∧ n ≤ row.2.1)) = none := by
    rw [List.find?_eq_none]
    intro row hr hb
    exact Nat.lt_irrefl _ (Nat.lt_of_le_of_lt (of_decide_eq_true hb).2 (h row hr))
  rw [lookupCode, this]

theorem lastDef_map {κ α β : Type} [BEq κ] (g : α → β) (defs : List (κ × α)) (k : κ) :
    lastDef (defs.map fun d => (d.1, g d.2)) k = (lastDef defs k).map g := by
  induction defs with
  | nil => rfl
  | cons d ds ih =>
    simp only [List.map_cons, lastDef, ih]
    cases lastDef ds k with
    | some v => rfl
    | none => cases (d.1 == k) <;> rfl

/-- xlsx: class of the format an `<xf>` refers to (`none` = no `numFmtId` attribute) -/
def logicalXlsx (defs : List (List UInt8 × Fmt)) : Option (List UInt8) → CellFormat
  | none => .other
  | some id =>
    match lastDef defs id with
    | some f => classify f
    | none => builtinById id

/-- xlsb: class of format id `code` (built-in table first) -/
def logicalXlsb (defs : List (Nat × Fmt)) (code : Nat) : CellFormat :=
  match documentedClass code with
  | .other => ((lastDef defs code).map classify).getD .other
  | f => f

/-- xls: class of format id `code` (custom definition first) -/
def logicalXls (defs : List (Nat × Fmt)) (code : Nat) : CellFormat :=
  match lastDef defs code with
  | some f => classify f
  | none => documentedClass code

/-- a float under class `c`: DateTime / duration with the same bits and date system, or the float itself -/
def typedF64 (c : CellFormat) (v : UInt64) (d1904 : Bool) : NumData :=
  match c with
  | .dateTime => .dateTime (.bits v) .dateTime d1904
  | .timeDelta => .dateTime (.bits v) .timeDelta d1904
  | .other => .float v

/-- an integer (RK) under class `c` -/
def typedI64 (c : CellFormat) (v : Int) (d1904 : Bool) : NumData :=
  match c with
  | .dateTime => .dateTime (.ofI64 v) .dateTime d1904
  | .timeDelta => .dateTime (.ofI64 v) .timeDelta d1904
  | .other => .int v

theorem formatF64_some (c : CellFormat) (v : UInt64) (d : Bool) : formatF64 v (some c) d = typedF64 c v d := by
  cases c <;> rfl

theorem formatI64_some (c : CellFormat) (v : Int) (d : Bool) : formatI64 v (some c) d = typedI64 c v d := by
  cases c <;> rfl

theorem typedF64_spec (c : CellFormat) (v : UInt64) (d : Bool) :
    ((∃ s k d', typedF64 c v d = .dateTime s k d') ↔ c ≠ .other) ∧
    (typedF64 c v d = .dateTime (.bits v) .timeDelta d ↔ c = .timeDelta) ∧
    (typedF64 c v d = .dateTime (.bits v) .dateTime d ↔ c = .dateTime) ∧
    (typedF64 c v d = .float v ↔ c = .other) := by
  cases c <;> simp [typedF64]

theorem typedI64_spec (c : CellFormat) (v : Int) (d : Bool) :
    ((∃ s k d', typedI64 c v d = .dateTime s k d') ↔ c ≠ .other) ∧
    (typedI64 c v d = .dateTime (.ofI64 v) .timeDelta d ↔ c = .timeDelta) ∧
    (typedI64 c v d = .dateTime (.ofI64 v) .dateTime d ↔ c = .dateTime) ∧
    (typedI64 c v d = .int v ↔ c = .other) := by
  cases c <;> simp [typedI64]

theorem builtinByCode_documented (n : Nat) : builtinByCode n = documentedClass n := by
  -- every range of the generated table ends below 48 (`hc`): up to there evaluation, above it both sides are `Other`
  by_cases h : n < 48
  · have hh : ∀ n < 48, builtinByCode n = documentedClass n := by decide +kernel
    exact hh n h
  · have hc : ∀ row ∈ Gen.builtinByCodeTable, row.2.1 < 48 := by decide
    have h2 : documentedClass n = .other := by
      unfold documentedClass
      rw [if_neg (by omega), if_neg (by omega)]
    unfold builtinByCode
    rw [lookupCode_default _ _ _ (fun row hr => by have := hc row hr; omega), h2]
    rfl

/-- the class the scanner gives a text (`detect` never fails: `detect_eq`) -/
def classOf (s : List Char) : CellFormat :=
  match detect s with
  | .ok f => f
  | _ => .other

theorem detect_eq (s : List Char) : detect s = .ok (classOf s) := by
  obtain ⟨c, hc⟩ := scan_total St.init s
  have hc' : detect s = .ok c := hc
  rw [classOf, hc']

theorem classOf_render {f : Fmt} (h : WF f) : classOf (render f) = classify f := by
  have h1 : detect (render f) = .ok (classify f) :=
    scan_wf_section f.first h (renderRest f.rest) (stops_renderRest f.rest)
  rw [classOf, h1]

theorem detectAll_eq : ∀ (defs : List (Nat × List Char)),
    detectAll defs = .ok (defs.map fun d => (d.1, classOf d.2))
  | [] => rfl
  | d :: ds => by rw [detectAll, detect_eq, detectAll_eq ds]; rfl

theorem xlsStyles_eq (defs : List (Nat × List Char)) (xfs : List Nat) :
    xlsStyles defs xfs = .ok (xfs.map fun code => ((lastDef defs code).map classOf).getD (builtinByCode code)) := by
  rw [xlsStyles, detectAll_eq]
  simp only [lastDef_map classOf defs]
  congr 1
  apply List.map_congr_left
  intro code _
  cases lastDef defs code <;> rfl

theorem xlsbStyles_eq (defs : List (Nat × List Char)) (xfs : List Nat) :
    xlsbStyles defs xfs = .ok (xfs.map fun code =>
      match builtinByCode code with
      | .other => ((lastDef defs code).map classOf).getD .other
      | f => f) := by
  rw [xlsbStyles, detectAll_eq]
  simp only [lastDef_map classOf defs]
  rfl

/-- the class `read_styles` gives one `<xf>` under the definitions `defs` (empty format codes are not recorded) -/
def xlsxClass (defs : List (List UInt8 × List Char)) : Option (List UInt8) → CellFormat
  | none => .other
  | some id => ((lastDef (defs.filter fun d => !d.2.isEmpty) id).map classOf).getD (builtinById id)

theorem xlsxStyles_eq (defs : List (List UInt8 × List Char)) : ∀ (xfs : List (Option (List UInt8))),
    xlsxStyles defs xfs = .ok (xfs.map (xlsxClass defs))
  | [] => rfl
  | xf :: xfs => by
    unfold xlsxStyles
    rw [xlsxStyles_eq defs xfs]
    cases xf with
    | none => rfl
    | some id =>
      cases h : lastDef (defs.filter fun d => !d.2.isEmpty) id <;>
        simp only [xlsxClass, h, detect_eq, List.map_cons, Option.map_some, Option.map_none, Option.getD_some,
          Option.getD_none]

/-- the grammar enters here only -/
theorem lastDef_classOf_render {κ : Type} [BEq κ] (defs : List (κ × Fmt)) (hwf : ∀ d ∈ defs, WF d.2) (k : κ) :
    (lastDef (defs.map fun d => (d.1, render d.2)) k).map classOf = (lastDef defs k).map classify := by
  have h : (defs.map fun d => (d.1, render d.2)).map (fun d => (d.1, classOf d.2)) = defs.map fun d => (d.1, classify d.2) := by
    rw [List.map_map]
    exact List.map_congr_left fun d hd => by rw [Function.comp, classOf_render (hwf d hd)]
  rw [← lastDef_map classOf, h, lastDef_map (fun f => classify f)]

theorem xlsStyles_wf (defs : List (Nat × Fmt)) (hwf : ∀ d ∈ defs, WF d.2) (xfs : List Nat) :
    xlsStyles (defs.map fun d => (d.1, render d.2)) xfs =
      .ok (xfs.map fun code =>
        match lastDef defs code with
        | some f => classify f
        | none => builtinByCode code) := by
  rw [xlsStyles_eq]
  simp only [lastDef_classOf_render defs hwf]
  congr 1
  apply List.map_congr_left
  intro code _
  cases lastDef defs code <;> rfl

theorem xlsbStyles_wf (defs : List (Nat × Fmt)) (hwf : ∀ d ∈ defs, WF d.2) (xfs : List Nat) :
    xlsbStyles (defs.map fun d => (d.1, render d.2)) xfs =
      .ok (xfs.map fun code =>
        match builtinByCode code with
        | .other => ((lastDef defs code).map classify).getD .other
        | f => f) := by
  rw [xlsbStyles_eq]
  simp only [lastDef_classOf_render defs hwf]

theorem filter_nonempty_render {κ : Type} (defs : List (κ × Fmt)) (hne : ∀ d ∈ defs, render d.2 ≠ []) :
    (defs.map fun d => (d.1, render d.2)).filter (fun d => !d.2.isEmpty) = defs.map fun d => (d.1, render d.2) := by
  rw [List.filter_eq_self]
  intro d hd
  obtain ⟨d0, hd0, rfl⟩ := List.mem_map.mp hd
  cases h : render d0.2 with
  | nil => exact absurd h (hne d0 hd0)
  | cons _ _ => rfl

theorem xlsxStyles_wf (defs : List (List UInt8 × Fmt)) (hwf : ∀ d ∈ defs, WF d.2)
    (hne : ∀ d ∈ defs, render d.2 ≠ []) (xfs : List (Option (List UInt8))) :
    xlsxStyles (defs.map fun d => (d.1, render d.2)) xfs =
      .ok (xfs.map fun xf =>
        match xf with
        | none => .other
        | some id =>
          match lastDef defs id with
          | some f => classify f
          | none => builtinById id) := by
  rw [xlsxStyles_eq]
  congr 1
  apply List.map_congr_left
  intro xf _
  cases xf with
  | none => rfl
  | some id =>
    simp only [xlsxClass, filter_nonempty_render defs hne, lastDef_classOf_render defs hwf]
    cases lastDef defs id <;> rfl

theorem xlsxStyles_logical (defs : List (List UInt8 × Fmt)) (hwf : ∀ d ∈ defs, WF d.2)
    (hne : ∀ d ∈ defs, render d.2 ≠ []) (xfs : List (Option (List UInt8))) :
    xlsxStyles (defs.map fun d => (d.1, render d.2)) xfs = .ok (xfs.map (logicalXlsx defs)) := by
  rw [xlsxStyles_wf defs hwf hne xfs]
  congr 1

theorem xlsbStyles_logical (defs : List (Nat × Fmt)) (hwf : ∀ d ∈ defs, WF d.2) (xfs : List Nat) :
    xlsbStyles (defs.map fun d => (d.1, render d.2)) xfs = .ok (xfs.map (logicalXlsb defs)) := by
  rw [xlsbStyles_wf defs hwf xfs]
  congr 1
  apply List.map_congr_left
  intro code _
  simp only [logicalXlsb, builtinByCode_documented]

theorem xlsStyles_logical (defs : List (Nat × Fmt)) (hwf : ∀ d ∈ defs, WF d.2) (xfs : List Nat) :
    xlsStyles (defs.map fun d => (d.1, render d.2)) xfs = .ok (xfs.map (logicalXls defs)) := by
  rw [xlsStyles_wf defs hwf xfs]
  congr 1
  apply List.map_congr_left
  intro code _
  simp only [logicalXls, builtinByCode_documented]

theorem typed_of_map (cls : α → CellFormat) (xfs : List α) {r : Res (List CellFormat)} (hr : r = .ok (xfs.map cls))
    (formats : List CellFormat) (h : r = .ok formats) (i : Nat) (d : Bool) :
    formats.length = xfs.length ∧
    (∀ v, formatF64 v formats[i]? d = typedF64 ((xfs[i]?.map cls).getD .other) v d) ∧
    (∀ v, formatI64 v formats[i]? d = typedI64 ((xfs[i]?.map cls).getD .other) v d) := by
  cases hr.symm.trans h
  rw [List.getElem?_map]
  refine ⟨List.length_map _, fun v => ?_, fun v => ?_⟩
  · cases xfs[i]? with
    | none => rfl
    | some xf => exact formatF64_some _ _ _
  · cases xfs[i]? with
    | none => rfl
    | some xf => exact formatI64_some _ _ _

/-- **xlsx**: with `formats` the table `read_styles` builds, a number with style index `i` (`s="i"`) is typed by the
    format XF `i` refers to; an index past the table leaves the number plain -/
theorem cell_typed_by_style_xlsx (defs : List (List UInt8 × Fmt)) (hwf : ∀ d ∈ defs, WF d.2)
    (hne : ∀ d ∈ defs, render d.2 ≠ []) (xfs : List (Option (List UInt8))) (formats : List CellFormat)
    (h : xlsxStyles (defs.map fun d => (d.1, render d.2)) xfs = .ok formats) (i : Nat) (v : UInt64) (d1904 : Bool) :
    formats.length = xfs.length ∧
    formatF64 v formats[i]? d1904 = typedF64 ((xfs[i]?.map (logicalXlsx defs)).getD .other) v d1904 :=
  let t := typed_of_map _ xfs (xlsxStyles_logical defs hwf hne xfs) formats h i d1904
  ⟨t.1, t.2.1 v⟩

/-- **xlsb**: the same for `Xlsb::read_styles` (built-in table first); `v` is a BrtCellReal / BrtFmlaNum / RK float -/
theorem cell_typed_by_style_xlsb (defs : List (Nat × Fmt)) (hwf : ∀ d ∈ defs, WF d.2) (xfs : List Nat)
    (formats : List CellFormat) (h : xlsbStyles (defs.map fun d => (d.1, render d.2)) xfs = .ok formats)
    (i : Nat) (v : UInt64) (d1904 : Bool) :
    formats.length = xfs.length ∧
    formatF64 v formats[i]? d1904 = typedF64 ((xfs[i]?.map (logicalXlsb defs)).getD .other) v d1904 :=
  let t := typed_of_map _ xfs (xlsbStyles_logical defs hwf xfs) formats h i d1904
  ⟨t.1, t.2.1 v⟩

/-- **xls**: the same for the FORMAT / XF records of `Xls::parse_workbook` (custom definition first); `v` is a NUMBER,
    an RK float, a MULRK entry or the cached result of a FORMULA -/
theorem cell_typed_by_style_xls (defs : List (Nat × Fmt)) (hwf : ∀ d ∈ defs, WF d.2) (xfs : List Nat)
    (formats : List CellFormat) (h : xlsStyles (defs.map fun d => (d.1, render d.2)) xfs = .ok formats)
    (i : Nat) (v : UInt64) (d1904 : Bool) :
    formats.length = xfs.length ∧
    formatF64 v formats[i]? d1904 = typedF64 ((xfs[i]?.map (logicalXls defs)).getD .other) v d1904 :=
  let t := typed_of_map _ xfs (xlsStyles_logical defs hwf xfs) formats h i d1904
  ⟨t.1, t.2.1 v⟩

/-- integer twins (`format_excel_i64`: xls RK / MULRK integers; xlsb RK integers go through the same table) -/
theorem cell_typed_by_style_xls_i64 (defs : List (Nat × Fmt)) (hwf : ∀ d ∈ defs, WF d.2) (xfs : List Nat)
    (formats : List CellFormat) (h : xlsStyles (defs.map fun d => (d.1, render d.2)) xfs = .ok formats)
    (i : Nat) (v : Int) (d1904 : Bool) :
    formatI64 v formats[i]? d1904 = typedI64 ((xfs[i]?.map (logicalXls defs)).getD .other) v d1904 :=
  let t := typed_of_map _ xfs (xlsStyles_logical defs hwf xfs) formats h i d1904
  t.2.2 v

theorem cell_typed_by_style_xlsb_i64 (defs : List (Nat × Fmt)) (hwf : ∀ d ∈ defs, WF d.2) (xfs : List Nat)
    (formats : List CellFormat) (h : xlsbStyles (defs.map fun d => (d.1, render d.2)) xfs = .ok formats)
    (i : Nat) (v : Int) (d1904 : Bool) :
    formatI64 v formats[i]? d1904 = typedI64 ((xfs[i]?.map (logicalXlsb defs)).getD .other) v d1904 :=
  let t := typed_of_map _ xfs (xlsbStyles_logical defs hwf xfs) formats h i d1904
  t.2.2 v

theorem cell_typed_by_style_xlsx_i64 (defs : List (List UInt8 × Fmt)) (hwf : ∀ d ∈ defs, WF d.2)
    (hne : ∀ d ∈ defs, render d.2 ≠ []) (xfs : List (Option (List UInt8))) (formats : List CellFormat)
    (h : xlsxStyles (defs.map fun d => (d.1, render d.2)) xfs = .ok formats) (i : Nat) (v : Int) (d1904 : Bool) :
    formatI64 v formats[i]? d1904 = typedI64 ((xfs[i]?.map (logicalXlsx defs)).getD .other) v d1904 :=
  let t := typed_of_map _ xfs (xlsxStyles_logical defs hwf hne xfs) formats h i d1904
  t.2.2 v

/-- `read_v` ∘ `read_styles`: no `s` attribute → plain; an `s` that parses as index `i` → typed by XF `i` (plain when
    `i` is past the table, however large — the index is a `usize`, not a 16-bit number); an `s` that does not parse
    → typed by XF 0 -/
theorem cell_typed_by_style_xlsx_attr (defs : List (List UInt8 × Fmt)) (hwf : ∀ d ∈ defs, WF d.2)
    (hne : ∀ d ∈ defs, render d.2 ≠ []) (xfs : List (Option (List UInt8))) (formats : List CellFormat)
    (h : xlsxStyles (defs.map fun d => (d.1, render d.2)) xfs = .ok formats) (v : UInt64) (d1904 : Bool) :
    (formatF64 v (xlsxCellFormat formats none) d1904 = .float v) ∧
    (∀ t i, parseUsize t = some i →
      formatF64 v (xlsxCellFormat formats (some t)) d1904 =
        typedF64 ((xfs[i]?.map (logicalXlsx defs)).getD .other) v d1904) ∧
    (∀ t, parseUsize t = none →
      formatF64 v (xlsxCellFormat formats (some t)) d1904 =
        typedF64 ((xfs[0]?.map (logicalXlsx defs)).getD .other) v d1904) := by
  refine ⟨rfl, fun t i ht => ?_, fun t ht => ?_⟩
  · simp only [xlsxCellFormat, ht, Option.getD_some]
    exact (cell_typed_by_style_xlsx defs hwf hne xfs formats h i v d1904).2
  · simp only [xlsxCellFormat, ht, Option.getD_none]
    exact (cell_typed_by_style_xlsx defs hwf hne xfs formats h 0 v d1904).2

/-- `r` (what the reader returned for a float with bits `v` under date system `d1904`) is a DateTime exactly when
    `f` is a date/time format, of the duration flavour exactly when `f` is an elapsed-time format, with the value
    and the date system unchanged, and the plain float otherwise -/
def TypedBy (f : Fmt) (r : NumData) (v : UInt64) (d1904 : Bool) : Prop :=
  ((∃ s k d', r = .dateTime s k d') ↔ classify f ≠ .other) ∧
  (r = .dateTime (.bits v) .timeDelta d1904 ↔ classify f = .timeDelta) ∧
  (r = .dateTime (.bits v) .dateTime d1904 ↔ classify f = .dateTime) ∧
  (r = .float v ↔ classify f = .other)

theorem typedBy_of_eq (f : Fmt) (r : NumData) (v : UInt64) (d : Bool) (h : r = typedF64 (classify f) v d) :
    TypedBy f r v d := by
  subst h
  exact typedF64_spec (classify f) v d

end Formats
