/-! Numbers of the shape `q * w + r` with `r < w`, wherever they occur: a row-major cell index (`row * width + col`),
    two bit fields packed into one word, whole periods and the rest of a day count, whole characters and the bytes
    left over; and a number printed digit by digit in a base, read back (`print_spec`). -/
namespace DivMod

theorem divmod_mul_add {q r w : Nat} (h : r < w) : (q * w + r) / w = q ∧ (q * w + r) % w = r :=
  (Nat.div_mod_unique (Nat.zero_lt_of_lt h)).mpr ⟨by rw [Nat.add_comm, Nat.mul_comm], h⟩

theorem mul_add_lt_mul {q q' w r : Nat} (hr : r < w) (h : q < q') : q * w + r < q' * w :=
  Nat.lt_of_lt_of_le (by rw [Nat.succ_mul]; exact Nat.add_lt_add_left hr _) (Nat.mul_le_mul_right w h)

/-- a whole number of periods under the rounding-up division `(n + w - 1) / w` (chunks of a row-major vector, sectors
    of a stream) -/
theorem ceilDiv_mul {q w : Nat} (hw : 0 < w) : (q * w + w - 1) / w = q := by
  rw [Nat.add_sub_assoc hw]; exact (divmod_mul_add (Nat.sub_lt hw Nat.one_pos)).1

/-- division with the quotient capped at `K`: the last period takes the excess -/
theorem capDiv_eq {P K k r : Nat} (hP : 0 < P) (hk : k ≤ K) (hr : r < P ∨ k = K) :
    min ((k * P + r) / P) K = k := by
  rw [Nat.mul_comm, Nat.mul_add_div hP]
  rcases hr with hr | rfl
  · rw [Nat.div_eq_of_lt hr]; exact Nat.min_eq_left hk
  · exact Nat.min_eq_right (Nat.le_add_right k _)

/-- positional notation read back: `print` writes `n` in base `r`, most significant digit first, `d k` being the digit
    for `k`; `v` reads the value of a digit (decimal and hexadecimal character references, decimal counts) -/
theorem print_spec {α : Type} {r : Nat} (hr : 2 ≤ r) {d : Nat → α} {v : α → Nat} {P : α → Prop}
    (hd : ∀ k < r, v (d k) = k ∧ P (d k)) {print : Nat → List α}
    (hp : ∀ n, print n = if n < r then [d n] else print (n / r) ++ [d (n % r)]) (n : Nat) :
    (print n).foldl (fun a c => a * r + v c) 0 = n ∧ (∀ c ∈ print n, P c) ∧ print n ≠ [] := by
  induction n using Nat.strongRecOn with
  | _ n ih =>
    rw [hp n]
    split
    · rename_i h
      exact ⟨by rw [List.foldl_cons, List.foldl_nil, (hd n h).1, Nat.zero_mul, Nat.zero_add],
        List.forall_mem_singleton.mpr (hd n h).2, List.cons_ne_nil _ _⟩
    · rename_i h
      have hr0 : 0 < r := Nat.lt_of_lt_of_le Nat.zero_lt_two hr
      obtain ⟨h1, h2⟩ := hd (n % r) (Nat.mod_lt _ hr0)
      obtain ⟨i1, i2, _⟩ := ih (n / r) (Nat.div_lt_self (Nat.lt_of_lt_of_le hr0 (Nat.le_of_not_lt h)) hr)
      refine ⟨?_, List.forall_mem_append.mpr ⟨i2, List.forall_mem_singleton.mpr h2⟩,
        List.append_ne_nil_of_right_ne_nil _ (List.cons_ne_nil _ _)⟩
      rw [List.foldl_append, i1, List.foldl_cons, List.foldl_nil, h1]
      exact Nat.div_add_mod' n r

end DivMod
