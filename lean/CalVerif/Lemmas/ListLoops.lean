/-! Facts about lists that the readers' loops and the encoders share. A block of items each of which a loop passes over
    is passed over (`skip_append`: the inert stretches of every XML and record reader); a loop that appends one entry per
    encoded item appends the list of entries (`pass_items`: the "in order" theorems). Searching a filtered list for
    something the filter keeps is searching the list (`find?_filter_of_imp`: last writer wins under a filter, a map
    insert under another key); the one member a predicate singles out is what `find?` returns (`find?_unique`; its
    premise comes from `eq_of_pairwise_not` for a list without two related entries: archive entries up to case, sheet
    names, attribute names, cell positions).
    `length_le_flatMap` is the fuel
    argument of the loops that are budgeted by input length; `length_flatMap_const` is for tables of little-endian
    fields, of 8-byte references, of sectors, of UTF-16 units. -/
namespace ListLoops

theorem skip_append {α β : Type} {P : α → Prop} {f : List α → β} (hstep : ∀ e rest, P e → f (e :: rest) = f rest)
    (l rest : List α) (h : ∀ e ∈ l, P e) : f (l ++ rest) = f rest := by
  induction l with
  | nil => rfl
  | cons e es ih =>
    obtain ⟨he, hes⟩ := List.forall_mem_cons.mp h
    rw [List.cons_append, hstep e _ he, ih hes]

theorem find?_filter_of_imp {α : Type} (p q : α → Bool) :
    ∀ l : List α, (∀ a ∈ l, q a = true → p a = true) → (l.filter p).find? q = l.find? q
  | [], _ => rfl
  | a :: l, h => by
    have ih := find?_filter_of_imp p q l fun b hb => h b (List.mem_cons_of_mem _ hb)
    cases hq : q a with
    | true =>
      rw [List.filter_cons_of_pos (h a List.mem_cons_self hq), List.find?_cons_of_pos hq, List.find?_cons_of_pos hq]
    | false =>
      have hn : ¬ q a = true := hq ▸ Bool.false_ne_true
      rw [List.find?_cons_of_neg hn, ← ih, List.filter_cons]
      split
      · rw [List.find?_cons_of_neg hn]
      · rfl

theorem find?_unique {α : Type} (p : α → Bool) (l : List α) (d0 : α) (hex : d0 ∈ l) (hp : p d0 = true)
    (huniq : ∀ d ∈ l, p d = true → d = d0) : l.find? p = some d0 := by
  cases h : l.find? p with
  | none => exact absurd hp (List.find?_eq_none.mp h d0 hex)
  | some d => rw [huniq d (List.mem_of_find?_eq_some h) (List.find?_some h)]

/-- members of a list whose entries are pairwise unrelated by a symmetric `R` are equal once `R` relates them -/
theorem eq_of_pairwise_not {α : Type} {R : α → α → Prop} (hsymm : ∀ a b, R a b → R b a) {l : List α}
    (hp : l.Pairwise fun a b => ¬ R a b) {a b : α} (ha : a ∈ l) (hb : b ∈ l) (h : R a b) : a = b :=
  List.Pairwise.forall_of_forall_of_flip (R := fun a b => R a b → a = b) (fun _ _ _ => rfl)
    (hp.imp fun hn hr => absurd hr hn) (hp.imp fun hn hr => absurd (hsymm _ _ hr) hn) ha hb h

theorem pass_items {ι τ α β : Type} (run : List τ → List α → β) (enc : ι → List τ) (f : ι → α) :
    ∀ (l : List ι), (∀ i ∈ l, ∀ rest acc, run (enc i ++ rest) acc = run rest (acc ++ [f i])) →
      ∀ rest acc, run (l.flatMap enc ++ rest) acc = run rest (acc ++ l.map f)
  | [], _, rest, acc => by rw [List.map_nil, List.append_nil]; rfl
  | i :: l, h, rest, acc => by
    rw [List.flatMap_cons, List.append_assoc, h i List.mem_cons_self,
      pass_items run enc f l (fun j hj => h j (List.mem_cons_of_mem _ hj)), List.map_cons, List.append_assoc]
    rfl

theorem length_le_flatMap {α β : Type} (f : α → List β) (h : ∀ a, 0 < (f a).length) :
    ∀ l : List α, l.length ≤ (l.flatMap f).length
  | [] => Nat.le_refl 0
  | a :: l => by
    have := length_le_flatMap f h l
    have := h a
    rw [List.flatMap_cons, List.length_append, List.length_cons]; omega

theorem length_flatMap_const {α β : Type} (f : α → List β) (k : Nat) :
    ∀ l : List α, (∀ a ∈ l, (f a).length = k) → (l.flatMap f).length = k * l.length
  | [], _ => rfl
  | a :: l, h => by
    rw [List.flatMap_cons, List.length_append, h a List.mem_cons_self,
      length_flatMap_const f k l fun b hb => h b (List.mem_cons_of_mem _ hb), List.length_cons, Nat.mul_succ,
      Nat.add_comm]

end ListLoops
