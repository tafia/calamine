import CalVerif.Lemmas.Ovba
import CalVerif.Lemmas.ListLoops
/-! C18: the loops of `decompress_stream` (model `Ovba.decompress`) against the container spec
    (`Spec/OvbaContainer.lean`): one token; the `'chunk` loop over the tokens of a chunk, flag bytes included, by one
    induction over the tokens; the main loop over the chunks. Throughout, `prev` is the output of the earlier chunks
    (reversed, like the model's buffer), so the model's `start` (`res.len()` at the chunk start) is `prev.length`, and
    `cur` is what the current chunk has produced. -/
namespace Ovba


theorem applyToken_length (cur : Bytes) (t : Token) : (applyToken cur t).length = cur.length + t.outLen := by
  cases t with
  | lit b => simp [applyToken, Token.outLen]
  | copy off len => simp [applyToken, Token.outLen, copySpec_length]

/-- single-token validity (the head condition of `validTokens`) -/
def validToken (d : Nat) : Token → Bool
  | .lit _ => decide (d + 1 ≤ 4096)
  | .copy off len => decide (1 ≤ off) && decide (off ≤ d) && decide (3 ≤ len) && decide (len ≤ maxLen d)
      && decide (d + len ≤ 4096)

theorem validTokens_cons (d : Nat) (t : Token) (ts : List Token) :
    validTokens d (t :: ts) = (validToken d t && validTokens (d + t.outLen) ts) := by
  cases t <;> simp [validTokens, validToken, Token.outLen]

def Token.isCopy : Token → Bool
  | .lit _ => false
  | .copy _ _ => true

theorem flagByte_cons (t : Token) (ts : List Token) :
    flagByte (t :: ts) % 2 = (if t.isCopy then 1 else 0) ∧ flagByte (t :: ts) / 2 = flagByte ts := by
  cases t <;> simp [flagByte, Token.isCopy] <;> omega

theorem serToken_length_pos (d : Nat) (t : Token) : 1 ≤ (serToken d t).length := by
  cases t <;> simp [serToken]

/-- the `for` body on one token: only a copy token needs to be valid, at position `cur.length` of the chunk, and needs
    `olen` to be the true output length -/
theorem token_step (size n flags clen olen : Nat) (t : Token) (r cur prev : Bytes) (hc : clen ≤ size)
    (hf : flags % 2 = if t.isCopy then 1 else 0)
    (hv : t.isCopy = true → olen = cur.length + prev.length ∧ validToken cur.length t = true) :
    tokenLoop size prev.length (n + 1) flags ⟨serToken cur.length t ++ r, cur.reverse ++ prev, olen, clen⟩ =
      tokenLoop size prev.length n (flags / 2)
        ⟨r, (applyToken cur t).reverse ++ prev, olen + t.outLen, clen + (serToken cur.length t).length⟩ := by
  rw [tokenLoop, if_neg (Nat.not_lt.2 hc)]
  cases t with
  | lit b =>
    have hf : flags % 2 = 0 := hf
    rw [if_pos hf]
    simp [applyToken, serToken, Token.outLen]
  | copy off len =>
    obtain ⟨ho, hv⟩ := hv rfl
    simp only [validToken, Bool.and_eq_true, decide_eq_true_eq] at hv
    obtain ⟨⟨⟨⟨h1, h2⟩, h3⟩, h4⟩, h5⟩ := hv
    obtain ⟨bc, hbc, hb4, hb12, hw, hlen, hoff⟩ :=
      pack_facts cur.length off len h1 h2 h3 h4 (Nat.le_trans (Nat.le_add_right _ _) h5)
    obtain ⟨e1, e2⟩ := unpack_eq (packCopy cur.length off len) bc hw (Nat.le_trans hb12 (by decide))
    have hd : olen - prev.length = cur.length := by rw [ho, Nat.add_sub_cancel]
    have hlo : off ≤ olen := ho ▸ Nat.le_trans h2 (Nat.le_add_right _ _)
    have hf : ¬ flags % 2 = 0 := by rw [show flags % 2 = 1 from hf]; decide
    rw [if_neg hf]
    simp only [serToken, List.cons_append, List.nil_append, hd, hbc, u16le_bytes _ hw, e1, e2, hlen, hoff]
    rw [if_neg (Nat.not_lt.2 hlo), copyLoop_eq off h1 _ _ _ _
      (by rw [List.length_append, List.length_reverse, ← ho]; exact hlo) (Nat.lt_succ_self _),
      copyRev_spec off len cur prev h1 h2]
    simp [applyToken, Token.outLen]

theorem flagByte_lt : ∀ (g : List Token), flagByte g < 2 ^ g.length
  | [] => by simp [flagByte]
  | t :: ts => by
    have := flagByte_lt ts
    rw [← (flagByte_cons t ts).2] at this
    rw [List.length_cons, Nat.pow_succ]
    omega

theorem flagByte_toNat (g : List Token) (h : g.length ≤ 8) : (UInt8.ofNat (flagByte g)).toNat = flagByte g := by
  have h1 := flagByte_lt g
  have h2 : 2 ^ g.length ≤ 2 ^ 8 := Nat.pow_le_pow_right (by omega) h
  rw [UInt8.toNat_ofNat']
  exact Nat.mod_eq_of_lt (by omega)

/-- The rest of one iteration of `'chunk: loop { … }` in `decompress_stream` once the `for bit_index in 0..8` loop over
    a flag byte has come back: `break 'chunk` was taken inside it and the chunk is over, or the loop goes round again
    (the `match` on the outcome of `tokenLoop` in `chunkLoop`). -/
def chunkExit (size start cfuel : Nat) : Res (St × Bool) → Res St
  | .ok (st, true) => .ok st
  | .ok (st, false) => chunkLoop size start cfuel st
  | .err e => .err e
  | .panic p => .panic p
  | .outOfFuel => .outOfFuel

theorem chunkExit_flag (size start cfuel flags : Nat) (b : UInt8) (r out : Bytes) (olen clen : Nat) (h : clen ≤ size) :
    chunkExit size start (cfuel + 1) (tokenLoop size start 0 flags ⟨b :: r, out, olen, clen⟩) =
      chunkExit size start cfuel (tokenLoop size start 8 b.toNat ⟨r, out, olen, clen + 1⟩) := by
  rw [tokenLoop, chunkExit, chunkLoop]
  dsimp only
  rw [if_neg (Nat.not_lt.2 h)]
  rfl

/-- once `chunk_len` has passed `chunk_size` the chunk ends with the state as it is, wherever in a flag group: between
    two groups by the test at the head of `'chunk: loop`, inside a group by the `break 'chunk` of the D16 fix -/
theorem chunkExit_done (size start cfuel n flags : Nat) (st : St) (h : st.clen > size) :
    chunkExit size start (cfuel + 1) (tokenLoop size start n flags st) = .ok st := by
  cases n with
  | zero =>
    rw [tokenLoop, chunkExit, chunkLoop]
    cases hr : st.rest with
    | nil => rfl
    | cons b r => dsimp only; rw [if_pos h]
  | succ n => rw [tokenLoop, if_pos h]; rfl

/-- What `decompress_stream` has still to read of a compressed chunk when it stands in the `for bit_index` loop with
    `n` bits of the current flag byte left: the bodies of the next `n` tokens, then the flag groups after them (`f` is the
    fuel of `serGroups`). With `n = 0` it is at a flag byte; `serRest toks.length 0 0 toks` is `serTokens toks`. -/
def serRest (f n d : Nat) (toks : List Token) : Bytes :=
  serBody d (toks.take n) ++ serGroups f (d + outLen (toks.take n)) (toks.drop n)

theorem serRest_nil (f n d : Nat) : serRest f n d [] = [] := by
  cases f <;> simp [serRest, serBody, serGroups]

theorem serRest_succ (f n d : Nat) (t : Token) (ts : List Token) :
    serRest f (n + 1) d (t :: ts) = serToken d t ++ serRest f n (d + t.outLen) ts := by
  simp [serRest, serBody, outLen, Nat.add_assoc]

theorem serRest_zero (f d : Nat) (t : Token) (ts : List Token) :
    serRest (f + 1) 0 d (t :: ts) = UInt8.ofNat (flagByte ((t :: ts).take 8)) :: serRest f 8 d (t :: ts) := by
  simp [serRest, serBody, serGroups, outLen]

theorem chunk_tokens (size : Nat) (prev tail : Bytes) :
    ∀ (toks : List Token) (n f : Nat) (cur : Bytes) (clen olen cfuel : Nat),
    olen = cur.length + prev.length → n ≤ 8 → (toks.drop n).length ≤ f → validTokens cur.length toks = true →
    clen + (serRest f n cur.length toks).length = size + 1 → (serRest f n cur.length toks).length + 1 ≤ cfuel →
    chunkExit size prev.length cfuel (tokenLoop size prev.length n (flagByte (toks.take n))
        ⟨serRest f n cur.length toks ++ tail, cur.reverse ++ prev, olen, clen⟩) =
      .ok ⟨tail, (expandFrom cur toks).reverse ++ prev, olen + outLen toks, size + 1⟩
  | [], n, f, cur, clen, olen, cfuel, _, _, _, _, hsz, hfuel => by
    rw [serRest_nil] at hsz hfuel ⊢
    obtain ⟨cfuel, rfl⟩ := Nat.exists_eq_add_one_of_ne_zero (Nat.ne_of_gt hfuel)
    have hsz : clen = size + 1 := hsz
    subst hsz
    rw [chunkExit_done _ _ _ _ _ _ (Nat.lt_succ_self size)]
    simp [expandFrom, outLen]
  | t :: ts, n, f, cur, clen, olen, cfuel, ho, hn, hf, hv, hsz, hfuel => by
    -- The token case, for any number `n + 1` of bits left. With no bit left the loop first reads the flag byte of the
    -- next group, and that is the token case again, with 8 bits.
    suffices step : ∀ n f clen cfuel, n < 8 → ((t :: ts).drop (n + 1)).length ≤ f →
        clen + (serRest f (n + 1) cur.length (t :: ts)).length = size + 1 →
        (serRest f (n + 1) cur.length (t :: ts)).length + 1 ≤ cfuel →
        chunkExit size prev.length cfuel (tokenLoop size prev.length (n + 1) (flagByte ((t :: ts).take (n + 1)))
          ⟨serRest f (n + 1) cur.length (t :: ts) ++ tail, cur.reverse ++ prev, olen, clen⟩) =
        .ok ⟨tail, (expandFrom cur (t :: ts)).reverse ++ prev, olen + outLen (t :: ts), size + 1⟩ by
      cases n with
      | succ n => exact step n f clen cfuel hn hf hsz hfuel
      | zero =>
        cases f with
        | zero => simp at hf
        | succ f =>
          rw [serRest_zero] at hsz hfuel ⊢
          rw [List.length_cons] at hsz hfuel
          obtain ⟨cfuel, rfl⟩ :=
            Nat.exists_eq_add_one_of_ne_zero (Nat.ne_of_gt (Nat.lt_of_lt_of_le (Nat.succ_pos _) hfuel))
          -- `hsz : clen + (… + 1) = size + 1`, so `clen + … = size` and `clen ≤ size`
          rw [List.cons_append, chunkExit_flag _ _ _ _ _ _ _ _ _ (Nat.le.intro (Nat.succ.inj hsz)),
            flagByte_toNat _ (List.length_take_le 8 _)]
          exact step 7 f (clen + 1) cfuel (by decide) (by rw [List.length_drop] at hf ⊢; omega)
            (by rw [Nat.add_assoc, Nat.add_comm 1]; exact hsz) (Nat.le_of_succ_le_succ hfuel)
    intro n f clen cfuel hn hf hsz hfuel
    rw [serRest_succ] at hsz hfuel ⊢
    rw [List.length_append] at hsz hfuel
    rw [validTokens_cons, Bool.and_eq_true] at hv
    have hpos := serToken_length_pos cur.length t
    have hl := applyToken_length cur t
    rw [List.take_succ_cons, List.append_assoc,
      token_step size n _ clen olen t _ cur prev (by omega) (flagByte_cons t _).1 fun _ => ⟨ho, hv.1⟩,
      (flagByte_cons t _).2]
    have ih := chunk_tokens size prev tail ts n f (applyToken cur t) (clen + (serToken cur.length t).length)
      (olen + t.outLen) cfuel (by rw [hl, ho, Nat.add_right_comm]) (Nat.le_of_lt hn) hf (by rw [hl]; exact hv.2)
      (by rw [hl, Nat.add_assoc]; exact hsz)
      (by rw [hl]; exact Nat.le_trans (Nat.succ_le_succ (Nat.le_add_left _ _)) hfuel)
    rw [hl] at ih
    rw [ih]
    simp [expandFrom, outLen, Nat.add_assoc]

theorem expandFrom_length : ∀ (toks : List Token) (cur : Bytes), (expandFrom cur toks).length = cur.length + outLen toks
  | [], cur => by simp [expandFrom, outLen]
  | t :: ts, cur => by
    have := expandFrom_length ts (applyToken cur t)
    simp only [expandFrom, List.foldl_cons] at this ⊢
    rw [this, applyToken_length]
    simp [outLen, Nat.add_assoc]

theorem expandFrom_lits (cur bs : Bytes) : expandFrom cur (bs.map Token.lit) = cur ++ bs := by
  induction bs generalizing cur with
  | nil => exact (List.append_nil cur).symm
  | cons b bs ih =>
    rw [List.map_cons, expandFrom, List.foldl_cons, ← expandFrom, ih]
    exact List.append_assoc cur [b] bs

/-- the `'chunk` loop over the data of a whole compressed chunk (`chunkLoop … st` unfolds to `chunkExit` of
    `tokenLoop … 0 _ st`, and `serTokens toks` to `serRest toks.length 0 0 toks`). `size` is the size field of the chunk
    header, which holds the length of the data − 1 (`serChunk`): hence `size + 1`. -/
theorem chunkLoop_serTokens (size cfuel : Nat) (prev tail : Bytes) (toks : List Token) (hv : validTokens 0 toks = true)
    (hsz : (serTokens toks).length = size + 1) (hfuel : (serTokens toks).length + 1 ≤ cfuel) :
    chunkLoop size prev.length cfuel ⟨serTokens toks ++ tail, prev, prev.length, 0⟩ =
      .ok ⟨tail, (expandFrom [] toks).reverse ++ prev, prev.length + outLen toks, size + 1⟩ :=
  chunk_tokens size prev tail toks 0 toks.length [] 0 prev.length cfuel (Nat.zero_add _).symm (Nat.zero_le _)
    (Nat.le_refl _) hv ((Nat.zero_add _).trans hsz) hfuel

theorem compressed_chunk_step (toks : List Token) (tail prev : Bytes) (fuel : Nat)
    (hd : decodableChunk (.compressed toks) = true) :
    mainLoop (fuel + 1) (serChunk (.compressed toks) ++ tail) prev prev.length =
      mainLoop fuel tail ((expandChunk (.compressed toks)).reverse ++ prev)
        (((expandChunk (.compressed toks)).reverse ++ prev).length) := by
  simp only [decodableChunk, Bool.and_eq_true, Bool.not_eq_true', decide_eq_true_eq] at hd
  obtain ⟨⟨hne, hv⟩, hlen⟩ := hd
  have hpos : 1 ≤ (serTokens toks).length := by
    cases toks with
    | nil => simp at hne
    | cons t ts => simp [serTokens, serGroups]
  generalize hD : serTokens toks = data at hpos hlen
  have hx : data.length - 1 < 4096 := by omega
  have hw : 0xB000 + (data.length - 1) < 65536 := by omega
  simp only [serChunk, hD, List.cons_append, List.nil_append, mainLoop, u16le_bytes _ hw,
    hdr_size _ hx, hdr_sig _ hx, hdr_flag _ hx]
  simp only [ne_eq, not_true_eq_false, if_false, Nat.reduceEqDiff]
  have := chunkLoop_serTokens (data.length - 1) ((data ++ tail).length + 1) prev tail toks hv (by rw [hD]; omega)
    (by rw [hD, List.length_append]; omega)
  rw [hD] at this
  rw [this]
  simp [expandChunk, expandFrom_length, Nat.add_comm]

theorem raw_chunk_step (bs tail prev : Bytes) (fuel : Nat) (hd : decodableChunk (.raw bs) = true) :
    mainLoop (fuel + 1) (serChunk (.raw bs) ++ tail) prev prev.length =
      mainLoop fuel tail (bs.reverse ++ prev) ((bs.reverse ++ prev).length) := by
  simp only [decodableChunk, decide_eq_true_eq] at hd
  simp only [serChunk, List.cons_append, List.nil_append, mainLoop]
  have h1 : u16le 0xFF 0x3F = 0x3FFF := by decide
  rw [h1]
  have h2 : (0x3FFF &&& 0x7000) >>> 12 = 3 := by decide
  have h3 : (0x3FFF &&& 0x8000) >>> 15 = 0 := by decide
  simp only [h2, h3, ne_eq, not_true_eq_false, if_false, if_true]
  rw [if_neg (by simp; omega)]
  have ht : (bs ++ tail).take 4096 = bs := by rw [← hd]; simp
  have hdr : (bs ++ tail).drop 4096 = tail := by rw [← hd]; simp
  rw [ht, hdr]
  simp [hd, Nat.add_comm]

theorem chunk_step (c : Chunk) (tail prev : Bytes) (fuel : Nat) (hd : decodableChunk c = true) :
    mainLoop (fuel + 1) (serChunk c ++ tail) prev prev.length =
      mainLoop fuel tail ((expandChunk c).reverse ++ prev) (((expandChunk c).reverse ++ prev).length) := by
  cases c with
  | raw bs => exact raw_chunk_step bs tail prev fuel hd
  | compressed toks => exact compressed_chunk_step toks tail prev fuel hd

theorem mainLoop_serialize : ∀ (cs : List Chunk) (prev : Bytes) (fuel : Nat),
    (∀ c ∈ cs, decodableChunk c = true) → cs.length + 1 ≤ fuel →
    mainLoop fuel (serialize cs) prev prev.length = .ok ((expand cs).reverse ++ prev)
  | [], prev, fuel, _, hf => by
    cases fuel with
    | zero => omega
    | succ fuel => simp [serialize, expand, mainLoop]
  | c :: cs, prev, fuel, hd, hf => by
    cases fuel with
    | zero => omega
    | succ fuel =>
      have : serialize (c :: cs) = serChunk c ++ serialize cs := by simp [serialize]
      rw [this, chunk_step c _ prev fuel (hd c (by simp)),
        mainLoop_serialize cs _ fuel (fun c' h => hd c' (by simp [h])) (by simpa using hf)]
      simp [expand]

theorem decompress_container (cs : List Chunk) (hd : Decodable cs) : decompress (container cs) = .ok (expand cs) := by
  simp only [decompress, container]
  rw [if_neg (by decide)]
  have hlen : cs.length ≤ (serialize cs).length :=
    ListLoops.length_le_flatMap serChunk (fun c => by cases c <;> simp [serChunk]) cs
  have h : mainLoop _ (serialize cs) [] 0 = _ := mainLoop_serialize cs [] _ hd (Nat.succ_le_succ hlen)
  rw [h]
  simp

end Ovba
