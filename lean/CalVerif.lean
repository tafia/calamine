import CalVerif.Gen.BErrTables
import CalVerif.Gen.FormatTables
import CalVerif.Gen.Ftab
import CalVerif.Gen.SheetCodes
import CalVerif.Gen.XlsxErrors
import CalVerif.Lemmas.Biff
import CalVerif.Lemmas.BiffFraming
import CalVerif.Lemmas.BiffFuel
import CalVerif.Lemmas.BiffRange
import CalVerif.Lemmas.BiffScan
import CalVerif.Lemmas.BiffSheet
import CalVerif.Lemmas.BiffSstCells
import CalVerif.Lemmas.BiffSteps
import CalVerif.Lemmas.BiffStrings
import CalVerif.Lemmas.Cfb
import CalVerif.Lemmas.CfbBytes
import CalVerif.Lemmas.CfbSectors
import CalVerif.Lemmas.Dates
import CalVerif.Lemmas.De
import CalVerif.Lemmas.DivMod
import CalVerif.Lemmas.Formats
import CalVerif.Lemmas.FormatsCompose
import CalVerif.Lemmas.FormatsDecode
import CalVerif.Lemmas.Geometry
import CalVerif.Lemmas.GeometryTable
import CalVerif.Lemmas.GeometryXls
import CalVerif.Lemmas.HeaderRow
import CalVerif.Lemmas.ListLoops
import CalVerif.Lemmas.LittleEndian
import CalVerif.Lemmas.Metadata
import CalVerif.Lemmas.MetadataBase
import CalVerif.Lemmas.MetadataCompose
import CalVerif.Lemmas.MetadataFormula
import CalVerif.Lemmas.MetadataXls
import CalVerif.Lemmas.MetadataXlsb
import CalVerif.Lemmas.MetadataXml
import CalVerif.Lemmas.OdsCell
import CalVerif.Lemmas.OdsCount
import CalVerif.Lemmas.OdsRange
import CalVerif.Lemmas.OdsSheet
import CalVerif.Lemmas.Ovba
import CalVerif.Lemmas.OvbaDir
import CalVerif.Lemmas.OvbaFuel
import CalVerif.Lemmas.OvbaLoops
import CalVerif.Lemmas.OvbaReturns
import CalVerif.Lemmas.Password
import CalVerif.Lemmas.PasswordCfb
import CalVerif.Lemmas.Ptg
import CalVerif.Lemmas.PtgBytes
import CalVerif.Lemmas.PtgPanics
import CalVerif.Lemmas.PtgSpecEnv
import CalVerif.Lemmas.PtgXls
import CalVerif.Lemmas.PtgXlsb
import CalVerif.Lemmas.Range
import CalVerif.Lemmas.RangeIter
import CalVerif.Lemmas.ResFold
import CalVerif.Lemmas.ResReturns
import CalVerif.Lemmas.SharedEvents
import CalVerif.Lemmas.SharedFormula
import CalVerif.Lemmas.Utf16
import CalVerif.Lemmas.Utf8Inv
import CalVerif.Lemmas.Xlsb
import CalVerif.Lemmas.XlsbBook
import CalVerif.Lemmas.XlsbCross
import CalVerif.Lemmas.XlsbFormula
import CalVerif.Lemmas.XlsxA1
import CalVerif.Lemmas.XlsxContainer
import CalVerif.Lemmas.XlsxCursor
import CalVerif.Lemmas.XlsxFormula
import CalVerif.Lemmas.XlsxSheet
import CalVerif.Lemmas.XmlEscape
import CalVerif.Lemmas.XmlText
import CalVerif.Lemmas.XmlTextSteps
import CalVerif.Lemmas.XmlTextXlsxCells
import CalVerif.Model.Auto
import CalVerif.Model.Biff
import CalVerif.Model.BiffStrings
import CalVerif.Model.CellError
import CalVerif.Model.CellFormat
import CalVerif.Model.Cfb
import CalVerif.Model.DataConv
import CalVerif.Model.Dates
import CalVerif.Model.De
import CalVerif.Model.DeData
import CalVerif.Model.Formats
import CalVerif.Model.FormatsDecode
import CalVerif.Model.Geometry
import CalVerif.Model.GeometryXls
import CalVerif.Model.HeaderRow
import CalVerif.Model.Metadata
import CalVerif.Model.MetadataCompose
import CalVerif.Model.MetadataFormula
import CalVerif.Model.OdsCell
import CalVerif.Model.OdsCount
import CalVerif.Model.OdsRange
import CalVerif.Model.OdsSheet
import CalVerif.Model.Ovba
import CalVerif.Model.OvbaProject
import CalVerif.Model.Password
import CalVerif.Model.Ptg
import CalVerif.Model.Range
import CalVerif.Model.RangeIter
import CalVerif.Model.Reader
import CalVerif.Model.Rels
import CalVerif.Model.SharedFormula
import CalVerif.Model.SheetTypes
import CalVerif.Model.Xlsb
import CalVerif.Model.XlsbBook
import CalVerif.Model.XlsbFormula
import CalVerif.Model.XlsxCells
import CalVerif.Model.XlsxContainer
import CalVerif.Model.XlsxFormula
import CalVerif.Model.XmlEscape
import CalVerif.Model.XmlText
import CalVerif.Prim.Res
import CalVerif.Prim.Utf8
import CalVerif.Prim.Wire
import CalVerif.Props.C01
import CalVerif.Props.C02
import CalVerif.Props.C03
import CalVerif.Props.C04
import CalVerif.Props.C05
import CalVerif.Props.C06
import CalVerif.Props.C07
import CalVerif.Props.C08
import CalVerif.Props.C09
import CalVerif.Props.C10
import CalVerif.Props.C11
import CalVerif.Props.C12
import CalVerif.Props.C13
import CalVerif.Props.C14
import CalVerif.Props.C15
import CalVerif.Props.C16
import CalVerif.Props.C17
import CalVerif.Props.C18
import CalVerif.Props.C19
import CalVerif.Props.C20
import CalVerif.Spec.BiffEnc
import CalVerif.Spec.CfbLayout
import CalVerif.Spec.Dates
import CalVerif.Spec.Formula
import CalVerif.Spec.FormulaTokens
import CalVerif.Spec.Geometry
import CalVerif.Spec.MetadataEnc
import CalVerif.Spec.NumFmt
import CalVerif.Spec.OdsCell
import CalVerif.Spec.OdsRange
import CalVerif.Spec.OdsSheet
import CalVerif.Spec.OvbaContainer
import CalVerif.Spec.OvbaDir
import CalVerif.Spec.OvbaProject
import CalVerif.Spec.PasswordSpec
import CalVerif.Spec.SharedSheet
import CalVerif.Spec.SstEnc
import CalVerif.Spec.StylesEnc
import CalVerif.Spec.XlsbBookEnc
import CalVerif.Spec.XlsbEnc
import CalVerif.Spec.XlsbFormulaEnc
import CalVerif.Spec.XlsxContainer
import CalVerif.Spec.XlsxSheet
import CalVerif.Spec.XmlEscape
import CalVerif.Spec.XmlText
